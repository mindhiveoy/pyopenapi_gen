import Pog.Lemmas.Stream
import Pog.Lemmas.Utf8
/-
  C18 — stream decoders are independent of how the bytes are chunked.

  The property: for any sequence of server-sent events or NDJSON records and any way the network
  splits their byte encoding into chunks (inside a multi-byte character, inside a line terminator,
  between the lines of one event), `iter_sse`, `iter_sse_events_text` and `iter_ndjson` yield exactly
  the same items, in order, as for the unsplit stream: one event per blank-line-terminated block with
  data lines joined by newlines, comments ignored, and a final unterminated event still delivered.

  The statement holds of the model, in three layers: httpx's `LineDecoder` fed with any list of text chunks
  returns `"".join(chunks).splitlines()`, hence every function of `aiter_lines()` is chunk independent; what
  `iter_sse` yields is one event per maximal run of non-empty lines, parsed field by field; and for every text and
  every chunking of its UTF-8 encoding the helpers see the lines of the text.

  Models (Pog/Model/Stream.lean): `LD.decode`/`LD.flush`/`linesOf` mirror httpx 0.28.1 branch for branch,
  `sseLoop`/`parseLine`/… mirror streaming_helpers.py.  Trusted executable descriptions, checked by
  `vf/corr/c18.py` only: `splitLines` = `str.splitlines`, `isPyWs` = whitespace of `str.strip`, `utf8Run`
  = codecs' incremental UTF-8 decoder on well-formed input.  `SSEEvent.retry` (`int(value)`) and
  `json.loads` are not modelled; both are functions of the line list, so `line_consumer_chunk_independent`
  covers them.  Ill-formed UTF-8 (`errors="replace"`) is outside the model (`linesOfBytes = none`).
-/
namespace Pog.C18
open Pog

/-- `aiter_lines()` over any text chunking = `splitlines()` of the concatenation — including chunk
    boundaries between `\r` and `\n`, after a `\r` at the very end, and empty chunks. -/
theorem lines_chunk_independent (chunks : List Str) : linesOf chunks = splitLines chunks.flatten :=
  Pog.linesOf_eq_splitLines chunks

/-- Two chunkings of the same text give the same lines. -/
theorem lines_same_text (cs cs' : List Str) (h : cs.flatten = cs'.flatten) : linesOf cs = linesOf cs' := by
  rw [lines_chunk_independent, lines_chunk_independent, h]

-- Here and below a literal is first turned into its list of characters (`String.toList_ofList`):
-- evaluating `"…".toList` itself would mean decoding UTF-8 inside the kernel.
example : ["a\r".toList, "\nb".toList].flatten = ["a".toList, "\r\n".toList, [], "b".toList].flatten := by
  repeat rw [String.toList_ofList]
  decide +kernel

/-- Hence ANY function of the line stream (the unmodelled `retry` field and `json.loads` included)
    is chunk independent. -/
theorem line_consumer_chunk_independent {α : Type} (f : List Str → α) (cs cs' : List Str)
    (h : cs.flatten = cs'.flatten) : f (linesOf cs) = f (linesOf cs') := by
  rw [lines_same_text cs cs' h]

/-- One `decode` call is a run of the one-character automaton from the abstract state. -/
theorem decode_is_automaton_run (ld : LD) (s : LSt) (h : LDRel ld s) (text : Str) (ht : text ≠ []) :
    (ld.decode text).2 = (lrun s text).1 ∧ LDRel (ld.decode text).1 (lrun s text).2 :=
  Pog.decode_spec ld s h text ht

example : LDRel ⟨["ab".toList, "c".toList], true⟩ ⟨"abc".toList, true⟩ := by
  simp [LDRel]

/-- The `lines[0]` / `lines.pop()` accesses of `LineDecoder.decode` never raise `IndexError`
    (the corresponding `[]`/`none` branches of `LD.decodeBody` are unreachable). -/
theorem decode_no_index_error (t : Str) (ht : t ≠ []) : splitLines t ≠ [] :=
  Pog.splitLines_ne_nil t ht

theorem splitLines_empty : splitLines [] = [] := by decide

theorem splitLines_last_line (l : Str) (hl : l ≠ []) (h : l.all (fun c => !isLineBreak c) = true) :
    splitLines l = [l] := Pog.splitLines_noBreak l hl h

theorem splitLines_at_break (l rest : Str) (c : Char) (h : l.all (fun c => !isLineBreak c) = true)
    (hc : isLineBreak c = true) (hcr : c ≠ '\r') : splitLines (l ++ c :: rest) = l :: splitLines rest :=
  Pog.splitLines_break l rest c h hc hcr

theorem splitLines_at_crlf (l rest : Str) (h : l.all (fun c => !isLineBreak c) = true) :
    splitLines (l ++ '\r' :: '\n' :: rest) = l :: splitLines rest := by
  have := lrun_noBreak [] l h
  simp only [LSt.init, splitLines, List.nil_append] at this ⊢
  simp [lrun_append, this, lrun, lstep]

theorem splitLines_at_cr (l rest : Str) (h : l.all (fun c => !isLineBreak c) = true)
    (hr : rest.head? ≠ some '\n') : splitLines (l ++ '\r' :: rest) = l :: splitLines rest := by
  have := lrun_noBreak [] l h
  simp only [LSt.init, splitLines, List.nil_append] at this ⊢
  cases rest with
  | nil => simp [lrun_append, this, lrun, lstep, lfinish]
  | cons d r =>
    have hd : d ≠ '\n' := by simpa using hr
    have h2 := lstep_after_cr l d hd
    simp only [LSt.init] at h2
    have h3 : lstep ⟨l, false⟩ '\r' = ([], ⟨l, true⟩) := by simp [lstep]
    simp [lrun_append, this, lrun, h2, h3]

example : ("data: x".toList).all (fun c => !isLineBreak c) = true ∧ ("y".toList).head? ≠ some '\n' := by
  repeat rw [String.toList_ofList]
  decide +kernel

theorem sse_chunk_independent (cs cs' : List Str) (h : cs.flatten = cs'.flatten) :
    iterSSE (linesOf cs) = iterSSE (linesOf cs') :=
  line_consumer_chunk_independent iterSSE cs cs' h

theorem sse_text_chunk_independent (cs cs' : List Str) (h : cs.flatten = cs'.flatten) :
    sseEventsText cs = sseEventsText cs' :=
  line_consumer_chunk_independent sseDataOfLines cs cs' h

theorem ndjson_chunk_independent (cs cs' : List Str) (h : cs.flatten = cs'.flatten) :
    iterNdjsonLines cs = iterNdjsonLines cs' :=
  line_consumer_chunk_independent ndjsonOfLines cs cs' h

/-- … and they equal the helper applied to the unsplit stream. -/
theorem sse_unsplit (cs : List Str) : iterSSE (linesOf cs) = iterSSE (splitLines cs.flatten) := by
  rw [lines_chunk_independent]
theorem sse_text_unsplit (cs : List Str) : sseEventsText cs = sseDataOfLines (splitLines cs.flatten) := by
  rw [sseEventsText, lines_chunk_independent]
theorem ndjson_unsplit (cs : List Str) : iterNdjsonLines cs = ndjsonOfLines (splitLines cs.flatten) := by
  rw [iterNdjsonLines, lines_chunk_independent]

/-- One event per maximal run of non-empty lines: every blank-line-terminated block, and the final
    unterminated block (`blocks` is the specification in Pog/Model/StreamSpec.lean). -/
theorem sse_spec (ls : List Str) : iterSSE ls = (blocks ls).map parseEvent := by
  simp [iterSSE, blocks, sseLoop_spec, consHead_nil _ (splitAtEmpty_ne_nil ls)]

/-- `iter_sse_events_text`: the non-empty `data` payloads of those events. -/
theorem sse_text_spec (ls : List Str) :
    sseDataOfLines ls = (((blocks ls).map parseEvent).filter (fun e => !e.data.isEmpty)).map Event.data := by
  rw [sseDataOfLines, sse_spec]

/-- `data` is the `"\n".join` of the left-stripped values of the `data:` lines in order; the last
    `event:` / `id:` line wins (`none` when there is none). -/
theorem parse_event_spec (ls : List Str) :
    parseEvent ls =
      ⟨joinWith ['\n'] (ls.filterMap (fieldValue? "data".toList)),
       (ls.filterMap (fieldValue? "event".toList)).getLast?,
       (ls.filterMap (fieldValue? "id".toList)).getLast?⟩ := by
  simp [parseEvent, parseLines_spec, PSt.toEvent, PSt.init]

/-- Comment lines (starting with `:`) do not affect the event. -/
theorem parse_event_ignores_comments (ls : List Str) : parseEvent (ls.filter notComment) = parseEvent ls := by
  simp [parseEvent, parseLines_filter_notComment]

/-- Decoding chunk by chunk and concatenating the texts = decoding the concatenated bytes, from any
    decoder state, with the same bytes left pending (`none` = ill-formed, on both sides). -/
theorem utf8_chunk_independent (pend : List Byte) (chs : List (List Byte)) :
    (utf8Chunks pend chs).map (fun r => (r.1.flatten, r.2)) = utf8Run pend chs.flatten :=
  Pog.utf8Chunks_flatten pend chs

/-- The decoder inverts `str.encode("utf-8")` (so the model covers every Python `str` without lone
    surrogates, and only well-formed sequences). -/
theorem utf8_decode_encode (s : Str) : utf8Decode (utf8Encode s) = some s := Pog.utf8Decode_encode s

/-- For every text `s` and every chunking of its UTF-8 encoding — also inside a multi-byte character
    or between `\r` and `\n` — `aiter_lines()` yields `s.splitlines()`. -/
theorem bytes_chunk_independent (s : Str) (chs : List (List Byte)) (h : chs.flatten = utf8Encode s) :
    linesOfBytes chs = some (splitLines s) := by
  rw [linesOfBytes_eq, h, Pog.utf8Decode_encode, Option.map_some]

example : [[0x61, 0xC3], [0xA9, 0x0D], [0x0A]].flatten = utf8Encode "aé\r\n".toList := by
  rw [String.toList_ofList]
  decide +kernel

/-- The three helpers on byte chunks. -/
theorem sse_bytes_chunk_independent (s : Str) (chs : List (List Byte)) (h : chs.flatten = utf8Encode s) :
    (linesOfBytes chs).map iterSSE = some ((blocks (splitLines s)).map parseEvent) := by
  rw [bytes_chunk_independent s chs h, Option.map_some, sse_spec]

theorem sse_text_bytes_chunk_independent (s : Str) (chs : List (List Byte)) (h : chs.flatten = utf8Encode s) :
    (linesOfBytes chs).map sseDataOfLines = some (sseDataOfLines (splitLines s)) := by
  rw [bytes_chunk_independent s chs h, Option.map_some]

theorem ndjson_bytes_chunk_independent (s : Str) (chs : List (List Byte)) (h : chs.flatten = utf8Encode s) :
    (linesOfBytes chs).map ndjsonOfLines = some (ndjsonOfLines (splitLines s)) := by
  rw [bytes_chunk_independent s chs h, Option.map_some]

/-- Two chunkings of the same byte string are indistinguishable (also when the model answers
    `none`, i.e. for ill-formed or truncated input, it does so for both). -/
theorem bytes_same_stream (chs chs' : List (List Byte)) (h : chs.flatten = chs'.flatten) :
    linesOfBytes chs = linesOfBytes chs' := by
  rw [linesOfBytes_eq, linesOfBytes_eq, h]

/-- CRLF split across chunks, a multi-line `data` event, a comment, an unterminated final event. -/
example :
    iterSSE (linesOf ["data: a\r".toList, "\ndata:b\r\n: note\r".toList, [], "\n\r".toList,
                      "\nevent: end\nid:7\ndata: z".toList])
      = [⟨"a\nb".toList, none, none⟩, ⟨"z".toList, some "end".toList, some "7".toList⟩] := by
  repeat rw [String.toList_ofList]
  decide +kernel

/-- The same stream unsplit. -/
example :
    iterSSE (splitLines "data: a\r\ndata:b\r\n: note\r\n\r\nevent: end\nid:7\ndata: z".toList)
      = [⟨"a\nb".toList, none, none⟩, ⟨"z".toList, some "end".toList, some "7".toList⟩] := by
  repeat rw [String.toList_ofList]
  decide +kernel

/-- A chunk boundary inside `é` (C3|A9) and inside `\r\n`. -/
example :
    (linesOfBytes [[0x64, 0x61, 0x74, 0x61, 0x3A, 0xC3], [0xA9, 0x0D], [0x0A, 0x0D, 0x0A]]).map sseDataOfLines
      = some ["é".toList] := by
  rw [String.toList_ofList]
  decide +kernel

example : iterNdjsonLines ["{\"a\": 1}\r".toList, "\n \n[2]".toList] = ["{\"a\": 1}".toList, "[2]".toList] := by
  repeat rw [String.toList_ofList]
  decide +kernel

example : blocks ["a".toList, [], [], "b".toList, "c".toList] = [["a".toList], ["b".toList, "c".toList]] := by
  repeat rw [String.toList_ofList]
  decide +kernel

/-! ## Observation (outside the C18 statement, same on every chunking)

  `aiter_lines()` splits on every `str.splitlines` boundary, not only on `\n`, `\r`, `\r\n`: a raw
  U+2028 / U+2029 / U+0085 / `\x0b` / `\x0c` / `\x1c`–`\x1e` inside a JSON string (legal JSON) cuts an
  NDJSON record or an SSE `data:` value in two. -/
theorem line_separator_splits_record :
    splitLines "{\"a\": \"x\u2028y\"}".toList = ["{\"a\": \"x".toList, "y\"}".toList] := by
  repeat rw [String.toList_ofList]
  decide +kernel

end Pog.C18
