import Pog.Props.C02b
import Pog.Lemmas.Simple3Dec
/-
  C02 / C19 on the fragment `Simple3 ⊇ Simple2` (Pog/Lemmas/ParserFragments.lean), which adds

    * ACYCLIC `allOf` INHERITANCE: a declared schema `{allOf: [m₁, …, mₖ], required?}` (no own `properties`) whose members
      are `$ref`s to declared schemas of the fragment (objects, other `allOf` children, …) or INLINE OBJECT members
      `{type: object, properties, required}` with properties that are plain primitives, `$ref`s or arrays of either;
      the model has the first-wins merge of the members' fields and the union of the required names, exactly what
      `specFields` says (`_process_all_of`);
    * INLINE OBJECT properties `{type: object, properties: {plain primitive | $ref | array of either}}` – promoted to
      the registered schema `<Parent><Prop>`, the property is a reference holder (kind `.obj` on both sides);
    * ENUM primitives: as a property (parsed and REGISTERED under `mapCtx parent key` = `<Parent><Prop>`, the
      property is a reference holder that reads as the primitive) and as a declared schema;
    * ENUM items of an array / enum values of a map (anonymous, never registered);
    * `nullable: true` around every property node, around the items node of an array and the value node of a map.

  NOT in `Simple3`: own `properties` of an `allOf` schema (the model parses them under the
  names `<Child>.<prop>`; a primitive one ends COMPLETED in the tracker but unregistered, which the step invariant
  of the proof does not allow) – the model is evaluated on such a document below;
  inline objects nested in inline objects or in `allOf` members; `nullable` around a declared schema node.

  The four counterexamples at the end show what happens without `ctxInj` (F70: two properties promoted to ONE synthetic
  name share one schema), `ctxNodup`, `ctxFresh` and the cost of an enum / inline-object property.

  Side conditions of `Simple3` (all decidable, `inFragment3`):
    cost      (`nodeCostOK3 rank (rank n)`) for the owner `n`:  `$ref t` property: `rank t + 1 ≤ rank n`;
              array / map of a leaf: `leafCost + 1 ≤ rank n` (`leafCost ($ref t) = rank t + 2`, primitive `0`);
              enum property: `1 ≤ rank n`; inline object property: `1 ≤ rank n` and `innerCost p + 1 ≤ rank n` for each
              of its properties (`innerCost ($ref t) = rank t + 1`, array `leafCost + 1`, primitive `0`);
              declared array: `leafCost ≤ rank n`; `allOf` member `$ref t`: `rank t + 2 ≤ rank n`; inline `allOf` member:
              `1 ≤ rank n` and `innerCost p + 1 ≤ rank n`.
    ctxFresh  every context name (`ctxs3`: `mapCtx owner key` for maps and enums, `owner ++ sanClass key` for inline
              objects) is undeclared and class-cased
    ctxNodup  the context names of one schema are pairwise different
    ctxInj    a context name belongs to one schema only
-/
namespace Pog.C02c
open Pog Pog.Prs Pog.Trk Pog.C02 Pog.C02b

/-- `Simple2 ⊆ Simple3` (same `rank`). -/
theorem simple2_imp_simple3 (decls : Decls) (rank : Str → Nat) (hS : Simple2 decls rank) : Simple3 decls rank :=
  hS.toSimple3

/-- On the fragment `Simple3 decls rank` (see the header), with `rank n + 1 ≤ maxDepth`
    and the fuel, loading succeeds and EVERY declared name is `Faithful`. -/
theorem parse_faithful_partial3 (decls : Decls) (rank : Str → Nat) (hS : Simple3 decls rank) (maxDepth F : Nat)
    (hF : ∀ d ∈ decls, rank d.1 < F) (hD : ∀ d ∈ decls, rank d.1 + 1 ≤ maxDepth) :
    (buildSchemas maxDepth (F + 1) decls).oom = false ∧
    missing decls (buildSchemas maxDepth (F + 1) decls) = [] ∧
    ∀ d ∈ decls, Faithful decls (buildSchemas maxDepth (F + 1) decls) d.1 :=
  buildSchemas_faithful3 hS maxDepth F hF hD

/-- C19: on `Simple3` the declaration order is irrelevant to the declared schemas: both
    orders load without error and every declared name has the same set of fields. -/
theorem parse_perm_invariant_partial3 (d d' : Decls) (rank : Str → Nat) (hp : d.Perm d') (hS : Simple3 d rank)
    (maxDepth F : Nat) (hF : ∀ x ∈ d, rank x.1 < F) (hD : ∀ x ∈ d, rank x.1 + 1 ≤ maxDepth) :
    missing d (buildSchemas maxDepth (F + 1) d) = [] ∧ missing d' (buildSchemas maxDepth (F + 1) d') = [] ∧
    ∀ x ∈ d, ∃ fs fs', modelFields d (buildSchemas maxDepth (F + 1) d) x.1 = some fs ∧
      modelFields d' (buildSchemas maxDepth (F + 1) d') x.1 = some fs' ∧ ∀ f, f ∈ fs ↔ f ∈ fs' :=
  buildSchemas_perm_invariant3 d d' rank hp hS maxDepth F hF hD

/-- When the driver's `inFragment3 maxDepth fuel decls ranks` answers `true`, the run
    `buildSchemas maxDepth fuel decls` neither runs out of fuel nor raises, and every declared name is `Faithful`. -/
theorem inFragment3_sound (maxDepth fuel : Nat) (decls : Decls) (rs : List (Str × Nat))
    (h : inFragment3 maxDepth fuel decls rs = true) :
    (buildSchemas maxDepth fuel decls).oom = false ∧
    missing decls (buildSchemas maxDepth fuel decls) = [] ∧
    ∀ d ∈ decls, Faithful decls (buildSchemas maxDepth fuel decls) d.1 := by
  unfold inFragment3 at h
  simp only [Bool.and_eq_true, decide_eq_true_eq, List.all_eq_true] at h
  exact buildSchemas_faithful3_of_lt h.1.1 h.1.2 h.2

/-- everything `inFragment2` accepts, `inFragment3` accepts -/
theorem inFragment2_imp_inFragment3 (maxDepth fuel : Nat) (decls : Decls) (rs : List (Str × Nat))
    (h : inFragment2 maxDepth fuel decls rs = true) : inFragment3 maxDepth fuel decls rs = true := by
  unfold inFragment2 at h
  unfold inFragment3
  simp only [Bool.and_eq_true, decide_eq_true_eq] at h ⊢
  exact ⟨⟨h.1.1.toSimple3, h.1.2⟩, h.2⟩

def cInl (ps : List (String × Node)) (req : List String) : Node :=
  .obj (some (ps.map (fun kv => (kv.1.toList, kv.2)))) (req.map String.toList) none

/-- a pet-store document using every node kind of `Simple3` that is not in `Simple2`: an `allOf` child of an object (`Pet`), an `allOf` child of an
    `allOf` child (`Dog`), inline `allOf` members with primitive / array / `$ref` properties, an enum schema (`Color`),
    an enum property, an array of enums, a map of enums, an inline object property with a `$ref`, a primitive and an array
    inside, `nullable` around a primitive, a `$ref`, an array, a map, the items of an array and inside an inline object -/
def petDecls : Decls :=
  [("Base".toList, cInl [("id", .prim .integer false)] ["id"]),
   ("Color".toList, .prim .string true),
   ("Pet".toList, .allOf [cRef "Base",
        cInl [("name", .prim .string false), ("tags", .arr (.prim .string false)), ("color", cRef "Color")] ["name"]] [] []),
   ("Dog".toList, .allOf [cRef "Pet", cInl [("bark", .nullable (.prim .integer false))] []] [] ["bark".toList]),
   ("Order".toList, cInl [("id", .prim .integer false),
        ("status", .prim .string true),
        ("shipTo", cInl [("street", .prim .string false), ("pet", cRef "Dog"),
                         ("lines", .arr (.nullable (.prim .string false)))] ["street"]),
        ("note", .nullable (.prim .string false)),
        ("pet", .nullable (cRef "Pet")),
        ("tags", .nullable (.arr (.prim .string false))),
        ("meta", .nullable (cMap (.prim .string false))),
        ("dogs", .arr (.nullable (cRef "Dog"))),
        ("flags", .arr (.prim .string true)),
        ("byKind", cMap (.prim .integer true)),
        ("color", cRef "Color")] ["id", "shipTo"])]

def petRank (n : Str) : Nat :=
  if n = "Order".toList then 7 else if n = "Dog".toList then 4 else if n = "Pet".toList then 2 else 0

/-- the document is in `Simple3` … -/
theorem petDecls_simple3 : Simple3 petDecls petRank ∧ (∀ d ∈ petDecls, petRank d.1 < 8) ∧
    (∀ d ∈ petDecls, petRank d.1 + 1 ≤ 150) := by
  decide +kernel

/-- … and not in `Simple2` (whatever the rank) -/
theorem simple3_strict : ∀ rank, ¬ Simple2 petDecls rank := by
  intro rank h
  have := h.node ("Color".toList, _) (List.mem_cons_of_mem _ (List.mem_cons_self ..))
  revert this
  decide

/-- the fuel of the denotation on the example document (`Node.size` does not reduce in the kernel at `allOf`, see
    Pog/Lemmas/Simple3Dec.lean) -/
theorem petFuel : specFuel petDecls = 16 := by
  simp [specFuel, petDecls, Node.size, cInl, cRef, cMap]

theorem petFuel_rev : specFuel petDecls.reverse = 16 := by
  rw [← specFuel_perm (List.reverse_perm petDecls).symm, petFuel]

/-- the model evaluated on it: no error, and the fields of `Dog` and `Order` as read back by `modelFields` -/
example : let s := buildSchemas 150 9 petDecls
    s.oom = false ∧ missing petDecls s = [] ∧
    modelFields petDecls s "Dog".toList = some
      [⟨"id".toList, true, .prim .integer⟩, ⟨"name".toList, true, .prim .string⟩,
       ⟨"tags".toList, false, .arr (.prim .string)⟩, ⟨"color".toList, false, .ref "Color".toList⟩,
       ⟨"bark".toList, true, .prim .integer⟩] ∧
    modelFields petDecls s "Order".toList = some
      [⟨"id".toList, true, .prim .integer⟩, ⟨"status".toList, false, .prim .string⟩,
       ⟨"shipTo".toList, true, .obj⟩, ⟨"note".toList, false, .prim .string⟩,
       ⟨"pet".toList, false, .ref "Pet".toList⟩, ⟨"tags".toList, false, .arr (.prim .string)⟩,
       ⟨"meta".toList, false, .obj⟩, ⟨"dogs".toList, false, .arr (.ref "Dog".toList)⟩,
       ⟨"flags".toList, false, .arr (.prim .string)⟩, ⟨"byKind".toList, false, .obj⟩,
       ⟨"color".toList, false, .ref "Color".toList⟩] := by
  decide +kernel

/-- every schema is `Faithful`, by evaluation … -/
example : ∀ d ∈ petDecls, Faithful petDecls (buildSchemas 150 9 petDecls) d.1 := by
  simp only [faithful_iff_F, petFuel]
  decide +kernel

/-- … and by the theorem -/
example : ∀ d ∈ petDecls, Faithful petDecls (buildSchemas 150 9 petDecls) d.1 :=
  (parse_faithful_partial3 petDecls petRank petDecls_simple3.1 150 8 petDecls_simple3.2.1 petDecls_simple3.2.2).2.2

/-- declared in the opposite order (children before their parents): the fragment is closed under re-ordering -/
example : ∀ d ∈ petDecls, Faithful petDecls.reverse (buildSchemas 150 9 petDecls.reverse) d.1 :=
  fun d hd => (parse_faithful_partial3 petDecls.reverse petRank
    (petDecls_simple3.1.perm (List.reverse_perm _).symm) 150 8
    (fun x hx => petDecls_simple3.2.1 x (List.mem_reverse.mp hx))
    (fun x hx => petDecls_simple3.2.2 x (List.mem_reverse.mp hx))).2.2 d (List.mem_reverse.mpr hd)

/-- the decision procedure accepts the example document (and rejects it at a depth limit that is too small) -/
example : inFragment3 150 9 petDecls (petDecls.map (fun d => (d.1, petRank d.1))) = true := by decide +kernel
example : inFragment3 7 9 petDecls (petDecls.map (fun d => (d.1, petRank d.1))) = false := by
  unfold inFragment3
  exact Bool.and_eq_false_iff.mpr (Or.inr (by decide +kernel))
/-- the `Simple2` example document is accepted as well -/
example : inFragment3 150 6 invDecls (invDecls.map (fun d => (d.1, invRank d.1))) = true := by decide +kernel

/-- NOT covered by the theorem, evaluated only: own `properties` of an `allOf` schema (a primitive, an enum, an inline
    object, a `$ref`) – the model is faithful on this document, the decision procedure rejects it -/
def ownDecls : Decls :=
  [("Base".toList, cInl [("id", .prim .integer false)] ["id"]),
   ("Child".toList, .allOf [cRef "Base"]
      [("name".toList, .prim .string false), ("e".toList, .prim .string true),
       ("o".toList, cInl [("s", .prim .string false)] []), ("b".toList, cRef "Base")] ["name".toList])]

theorem ownFuel : specFuel ownDecls = 7 := by
  simp [specFuel, ownDecls, Node.size, cInl, cRef]

example : (∀ x ∈ ownDecls, Faithful ownDecls (buildSchemas 150 30 ownDecls) x.1) ∧
    inFragment3 150 30 ownDecls [("Child".toList, 2)] = false := by
  simp only [faithful_iff_F, ownFuel]
  decide +kernel

/-- ✗ `Simple3.ctxInj` (F70: synthetic names collide with EACH OTHER).  An enum property is promoted to a
    schema named `<Parent><Prop>` and registered under that name; `Order.itemKind` and `OrderItem.kind` both give
    `OrderItemKind`.  The second `_parse_schema("OrderItemKind", …)` finds the name COMPLETED and returns the
    registered object: `OrderItem.kind` (an INTEGER enum) silently becomes the STRING enum of `Order.itemKind`.
    (Real loader, same document: both properties have `type = "OrderItemKind"`, one schema `OrderItemKind` of type
    string with the values of the first enum.) -/
theorem parse_faithful_enum_ctx_shared_counterexample :
    let d : Decls := [("Order".toList, cObj [("itemKind", .prim .string true)]),
                      ("OrderItem".toList, cObj [("kind", .prim .integer true)])]
    let s := buildSchemas 150 30 d
    s.oom = false ∧ missing d s = [] ∧
    Faithful d s "Order".toList ∧
    modelFields d s "OrderItem".toList = some [⟨"kind".toList, false, .prim .string⟩] ∧
    specFields d "OrderItem".toList = [⟨"kind".toList, false, .prim .integer⟩] ∧
    ¬ Faithful d s "OrderItem".toList ∧
    -- in the opposite order the OTHER schema is wrong
    Faithful d.reverse (buildSchemas 150 30 d.reverse) "OrderItem".toList ∧
    ¬ Faithful d.reverse (buildSchemas 150 30 d.reverse) "Order".toList := by
  decide +kernel

/-- ✗ `Simple3.ctxNodup`: the same collision inside one schema (keys `ab` and `Ab` are both promoted to `OrderAb`). -/
theorem parse_faithful_enum_ctx_dup_counterexample :
    let d : Decls := [("Order".toList, cObj [("ab", .prim .string true), ("Ab", .prim .integer true)])]
    let s := buildSchemas 150 30 d
    s.oom = false ∧ missing d s = [] ∧
    modelFields d s "Order".toList = some [⟨"ab".toList, false, .prim .string⟩, ⟨"Ab".toList, false, .prim .string⟩] ∧
    ¬ Faithful d s "Order".toList := by
  decide +kernel

/-- ✗ `Simple3.ctxFresh` for enums: the promoted enum of `Order.status` is REGISTERED as `OrderStatus`; a declared
    schema of that name is then skipped by `build_schemas` (same defect class as
    `C02.parse_faithful_inline_named_like_schema_counterexample`, F37, reached through an enum). -/
theorem parse_faithful_enum_ctx_declared_counterexample :
    let d : Decls := [("Order".toList, cObj [("status", .prim .string true)]),
                      ("OrderStatus".toList, cObj [("code", .prim .integer false)])]
    let s := buildSchemas 150 30 d
    s.oom = false ∧ missing d s = [] ∧
    modelFields d s "OrderStatus".toList = some [] ∧
    ¬ Faithful d s "OrderStatus".toList ∧
    modelFields d s "Order".toList = some [⟨"status".toList, false, .ref "OrderStatus".toList⟩] ∧
    ¬ Faithful d s "Order".toList := by
  decide +kernel

/-- ✗ `propCostOK3`: an enum property (and an inline object property) is a NAMED `_parse_schema` call and is subject to
    the depth test; at `PYOPENAPI_MAX_DEPTH = 1` it is a depth placeholder. -/
theorem parse_faithful_enum_depth_counterexample :
    let de : Decls := [("Order".toList, cObj [("status", .prim .string true)])]
    let di : Decls := [("Order".toList, cObj [("addr", cInl [("street", .prim .string false)] [])])]
    ¬ Faithful de (buildSchemas 1 30 de) "Order".toList ∧
    modelFields de (buildSchemas 1 30 de) "Order".toList = some [⟨"status".toList, false, .ref "OrderStatus".toList⟩] ∧
    Faithful de (buildSchemas 2 30 de) "Order".toList ∧
    ¬ Faithful di (buildSchemas 1 30 di) "Order".toList ∧
    Faithful di (buildSchemas 2 30 di) "Order".toList := by
  decide +kernel

end Pog.C02c
