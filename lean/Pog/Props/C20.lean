import Pog.Props.ClientGen
import Pog.Props.Loader
import Pog.Props.Extract
/-
  C20 — name derivation is total, valid and collision-safe: every identifier the generator derives (class, module,
  method/field/parameter, enum member) is a non-empty ASCII Python identifier that is not a keyword, and names that collide
  inside one namespace receive distinct identifiers, none dropped.

  Models: `Pog.Model.Names` (`NameSanitizer`, the string-enum member names) and `Pog.Model.Fresh` (the suffix loops, the
  operation-id pass).  Per sanitiser a validity theorem for every input, or, where that is false of the code, a `_partial`
  (hypothesis: the input has an ASCII alphanumeric) with a `_counterexample`; for the loops and the pass: termination,
  pairwise distinct results, one result per input, idempotence of the pass.  An `example` after a theorem with a
  hypothesis shows that it can be met.
-/
/- Names invented by the inline-extraction passes (`{Parent}{Prop}Item`, `{Parent}{Prop}Enum`, numeric suffixes;
   `Pog/Model/Extract.lean`), proved in `Pog/Props/Extract.lean`. -/
-- INDEX Pog.ExtractProps: extract_keeps_original_names, extract_never_shrinks, suffix_loops_terminate, extract_new_names_fresh, extract_keys_nodup, enum_entry_name_counterexample
/- Names of schemas promoted from responses / request bodies / parameters (`{opId}{code}Response`, `{opId}Param{Name}`, …;
   `Pog/Model/Loader.lean`): when two requested names coincide, and the collisions that exist; proved in `Pog/Props/Loader.lean`. -/
-- INDEX Pog.LoaderProps: respPromoName_eq_iff, promotion_names_differ_unless_prefix, promotion_names_injective_same_operation, promotion_names_injective_partial, response_vs_body_promotion_names_disjoint, promotion_name_collision_arbitrary_keys, promotion_name_collision_same_response, promotion_name_collision_request_body, promotion_name_collision_parameters, promotion_name_collision_after_sanitize, post_process_response_name_collision_counterexample, post_process_request_name_collision_counterexample
/- The argument list of an endpoint method at the loader: an operation-level parameter overrides the path-level one with the
   same (name, in) (F4). -/
-- INDEX Pog.LoaderProps: parameters_no_duplicate_key, parameters_override_former_witness
/- Tag attribute names on `APIClient` (`Pog/Model/ClientGen.lean`): validity, never one of the client's own members
   (F64), distinctness; proved in `Pog/Props/ClientGen.lean`. -/
-- INDEX Pog.ClientGenProps: property_names_valid_partial, property_names_valid_counterexample, property_name_never_config, property_names_avoid_dunder, property_named_base_url_former_witness, property_names_pairwise_distinct_partial, property_names_pairwise_distinct_counterexample, private_attr_never_own_member, fixed_attrs_assigned_once, private_attr_names_distinct_from_public_partial, private_attr_base_url_former_witness, private_attr_counterexample
namespace Pog.C20
open Pog

/-- Every class name is a valid ASCII identifier — all inputs, no hypothesis. -/
theorem class_name_is_identifier (s : Str) : isPyIdent (sanClass s) = true :=
  Pog.sanClass_isPyIdent s

/-- For EVERY input the class name is a valid ASCII identifier and not a keyword: the capitalised keywords
    `None`/`True`/`False` get the `_` suffix too (F28). -/
theorem class_name_valid (s : Str) : isPyIdent (sanClass s) = true ∧ isKeyword (sanClass s) = false :=
  ⟨Pog.sanClass_isPyIdent s, classPost_not_keyword _⟩

/-- The inputs of F28 (the lower-cased name is no keyword, the capitalised one is) and two others. -/
theorem class_name_former_keywords :
    sanClass "none".toList = "None_".toList ∧ sanClass "true".toList = "True_".toList ∧ sanClass "FALSE".toList = "False_".toList ∧
    sanClass "class".toList = "Class_".toList ∧ sanClass "UserGroup".toList = "UserGroup".toList := by
  repeat rw [String.toList_ofList]
  decide +kernel

/-- The derived name is empty exactly when the input has no ASCII alphanumeric. -/
theorem method_name_empty_iff (s : Str) : sanMethod s = [] ↔ s.any isAlnumA = false :=
  Pog.sanMethod_empty_iff s

theorem method_name_valid_partial (s : Str) (h : s.any isAlnumA = true) :
    isPyIdent (sanMethod s) = true ∧ isKeyword (sanMethod s) = false :=
  Pog.sanMethod_valid s h

/-- ✗ witnesses: symbol-only and non-ASCII names derive the empty identifier. -/
theorem method_name_counterexample :
    sanMethod "$".toList = [] ∧ sanMethod "_".toList = [] ∧ sanMethod "用户".toList = [] := by
  decide +kernel

example : ("getUserById".toList).any isAlnumA = true := by decide +kernel

theorem module_name_valid_partial (u : UInfo) (s : Str) (h : s.any isAlnumA = true) :
    isPyIdent (sanModule u s) = true ∧ isKeyword (sanModule u s) = false :=
  Pog.sanModule_valid u s h

theorem module_name_counterexample : sanModule UInfo.ascii "-".toList = [] := by decide +kernel

/-- Total: the final `raise ValueError` of the python function is unreachable. -/
theorem enum_member_total (u : UInfo) (v : Str) : (enumMemberStr u v).isSome = true := by
  rw [enumMemberStr_some]; rfl

theorem enum_member_valid (u : UInfo) (v n : Str) (h : enumMemberStr u v = some n) :
    isPyIdent n = true ∧ isKeyword n = false := by
  rw [enumMemberStr_some, Option.some.injEq] at h
  rw [← h]
  exact enumOK_valid (enumS3_ok (enumS2_ok (enumS1_ok u v)))

/-- The python `while` loops terminate and yield pairwise distinct names, one per input. -/
theorem field_names_nodup (props : List Str) :
    ∃ l, fieldNames props = some l ∧ l.Nodup ∧ l.length = props.length :=
  Pog.assignAll_map_spec _ _ Pog.sufUnderscore_inj _ _

theorem enum_members_nodup (bases : List Str) :
    ∃ l, enumMemberNames bases = some l ∧ l.Nodup ∧ l.length = bases.length :=
  Pog.assignAll_spec _ _ Pog.sufUnderscore_inj _

theorem class_names_nodup (names : List Str) :
    ∃ l, classNames names = some l ∧ l.Nodup ∧ l.length = names.length :=
  Pog.assignAll_map_spec _ _ Pog.classCand_inj _ _

theorem module_stems_nodup (u : UInfo) (names : List Str) :
    ∃ l, moduleStems u names = some l ∧ l.Nodup ∧ l.length = names.length :=
  Pog.assignAll_map_spec _ _ Pog.sufUnderscore_inj _ _

theorem inline_name_fresh (taken : List Str) (base : Str) :
    ∃ n, inlineName taken base = some n ∧ n ∉ taken :=
  let ⟨n, h, hn, _⟩ := Pog.freshName_spec _ 1 taken base (Pog.sufPlain_inj base)
  ⟨n, h, hn⟩

/-- A suffixed field name is still a valid identifier and not a keyword. -/
theorem suffixed_name_valid (base : Str) (k : Nat) (h : isPyIdent base = true) :
    isPyIdent (sufUnderscore base k) = true ∧ isKeyword (sufUnderscore base k) = false := by
  unfold sufUnderscore
  constructor
  · cases base with
    | nil => cases h
    | cons c cs =>
      simp only [isPyIdent, Bool.and_eq_true, List.cons_append, List.all_append, List.all_cons] at *
      refine ⟨h.1, h.2, by decide, ?_⟩
      rw [List.all_eq_true]
      exact fun x hx => isIdChar_of_isAlnumA (isAlnumA_of_digit (natStr_digits k x hx))
  · obtain ⟨ds, d, hk, hd⟩ := natStr_snoc k
    rw [hk, ← List.cons_append, ← List.append_assoc]
    exact not_isKeyword_of_trail_digit _ _ hd

/-- Two suffix candidates of one id never sanitise to the same method name: `sanitize_method_name(f"{id}_{i}")` determines `i`
    (every id - braces, camelCase, non-ASCII, empty). -/
theorem suffixed_method_names_differ (id : Str) (i j : Nat) (h : sufMethod id i = sufMethod id j) : i = j :=
  Pog.sufMethod_inj id i j h

/-- Every `while` loop of the pass ends: from any state of `seen_methods` and any counter, the fuel `|seen_methods| + 1` of the
    model is enough, and the name found is not taken (pigeonhole over the injective candidates). -/
theorem op_ids_suffix_search_terminates (seen : List (Str × Nat)) (id : Str) (start : Nat) :
    ∃ k, findFresh (sufMethod id) (seenKeys seen) start (seen.length + 1) = some k ∧ sufMethod id k ∉ seenKeys seen :=
  Pog.dedup_search_ends seen id start

/-- The suffix search skips names that are taken and records the name it hands out (F17).  For EVERY list of operation ids the pass ends (`some`: the fuel bound is provably sufficient, not assumed), keeps
    one id per operation, every output id is the input id or the input id with a numeric suffix, and the METHOD NAMES of the
    output are pairwise distinct. -/
theorem op_ids_nodup (ids : List Str) :
    ∃ out, dedupOpIds? [] ids = some out ∧ out.length = ids.length ∧ (out.map sanMethod).Nodup ∧
      (∀ p ∈ ids.zip out, p.2 = p.1 ∨ ∃ n, p.2 = sufId p.1 n) := by
  obtain ⟨out, h1, h2, h3, _, h5⟩ := Pog.dedupOpIds?_spec ids []
  exact ⟨out, h1, h2, h3, h5⟩

/-- The same in terms of the total function used by the downstream models (`dedupOpIds? = some ∘ dedupOpIds`). -/
theorem method_names_nodup (ids : List Str) :
    dedupOpIds? [] ids = some (dedupOpIds [] ids) ∧ (methodNames ids).length = ids.length ∧ (methodNames ids).Nodup :=
  ⟨Pog.dedupOpIds?_eq_some [] ids, by simp [methodNames, (Pog.dedupOpIds_spec [] ids).1], (Pog.dedupOpIds_spec [] ids).2.1⟩

/-- The input of F17 (`foo, foo, foo_2`: a search that does not record the names it hands out gives `foo_2` twice) and three
    more inputs. -/
theorem op_ids_nodup_former_witness :
    dedupOpIds? [] ["foo".toList, "foo".toList, "foo_2".toList]
      = some ["foo".toList, "foo_2".toList, "foo_2_2".toList] ∧
    dedupOpIds? [] ["foo".toList, "foo".toList, "foo".toList]
      = some ["foo".toList, "foo_2".toList, "foo_3".toList] ∧
    dedupOpIds? [] ["foo_2".toList, "foo".toList, "foo".toList, "foo".toList]
      = some ["foo_2".toList, "foo".toList, "foo_3".toList, "foo_4".toList] ∧
    methodNames ["getUser".toList, "get_user".toList, "GetUser".toList, "get_user_2".toList]
      = ["get_user".toList, "get_user_2".toList, "get_user_3".toList, "get_user_2_2".toList] := by
  repeat rw [String.toList_ofList]
  decide +kernel

/-- The pass is idempotent on EVERY input (`foo, foo, foo_2` of F17 included): a second `emit` over the same operation
    objects changes nothing (C09). -/
theorem op_ids_idempotent (ids : List Str) : dedupOpIds [] (dedupOpIds [] ids) = dedupOpIds [] ids :=
  Pog.dedupOpIds_idempotent ids

/-- When the sanitised ids are already pairwise distinct the pass changes nothing. -/
theorem op_ids_unchanged_when_distinct (ids : List Str) (h : (ids.map sanMethod).Nodup) :
    dedupOpIds [] ids = ids ∧ (methodNames ids).Nodup :=
  Pog.dedupOpIds_of_nodup ids h

example : (["listPets".toList, "createPet".toList].map sanMethod).Nodup := by
  repeat rw [String.toList_ofList]
  decide +kernel

end Pog.C20
