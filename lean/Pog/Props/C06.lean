import Pog.Lemmas.Registry
import Pog.Props.Loader
import Pog.Lemmas.GenCode
/-
  C06 — a status outside 200-299 raises a status-carrying exception of the right class.  Two halves.

  The TABLES the generator reads (first part of the file): which base class an alias derives from, and that
  `get_exception_class_name` yields distinct, non-builtin, syntactically valid class names — for the table rows and for
  the `Error<code>` fallback.  Every table-level fact is re-checked by `decide`/`decide +kernel` against the regenerated
  `Pog/Gen/Status.lean`; the general statements are derived from those facts only.

  The BEHAVIOUR (`section behaviour`): what the caller observes, on the model `Pog.GenCode.handle`.
-/
/-
  C06 at the loader (Pog/Model/Loader.lean, tied by vf/corr/loader.py; theorems in Pog/Props/Loader.lean): for every kept
  operation the parsed status codes are the keys the responses are DECLARED under, in order - also when one
  `components.responses` entry is referenced under several keys, or a schema is referenced directly (an integer key is its
  decimal string, F16 repaired); what a dangling `#/components/responses/X` becomes.
-/
-- INDEX Pog.LoaderProps: response_status_is_declared_key, normKey_int, response_bad_key_raises, kept_operation_passes_respError, response_ref_resolves, dangling_response_ref_is_its_own_node, dangling_bare_response_ref
namespace Pog.C06
open Pog Pog.Reg

/-! ## base class by range -/

/-- The ranges the code uses are `[400,500)`, `[500,600)` and `[400,600)`. -/
theorem ranges_are :
    Gen.isClientErrorLo = 400 ∧ Gen.isClientErrorHi = 500 ∧
    Gen.isServerErrorLo = 500 ∧ Gen.isServerErrorHi = 600 ∧
    Gen.isErrorCodeLo = 400 ∧ Gen.isErrorCodeHi = 600 := bounds_gen

/-- `is_error_code` is the union of `is_client_error` and `is_server_error`: the defensive
    `else: continue` of the visitor is dead code. -/
theorem error_iff_client_or_server (code : Nat) :
    isErrorCode code = true ↔ (isClientError code = true ∨ isServerError code = true) :=
  isErrorCode_iff_client_or_server code

/-- Every alias of a 4xx code derives from `ClientError`, every alias of a 5xx code from
    `ServerError`, nothing else gets a class; stated on the generated bounds. -/
theorem alias_base_by_range (code : Nat) :
    (Gen.isClientErrorLo ≤ code ∧ code < Gen.isClientErrorHi → aliasBase code = some .clientError) ∧
    (Gen.isServerErrorLo ≤ code ∧ code < Gen.isServerErrorHi → aliasBase code = some .serverError) ∧
    (aliasBase code = none ↔ isErrorCode code = false) := by
  refine ⟨?_, ?_, ?_⟩
  · intro h
    exact aliasBase_client ((isClientError_iff code).mpr h)
  · intro h
    have hs := (isServerError_iff code).mpr h
    exact aliasBase_server hs (Bool.eq_false_iff.mpr fun hc => client_server_disjoint code ⟨hc, hs⟩)
  · rw [← Option.not_isSome_iff_eq_none, aliasBase_isSome_iff, Bool.not_eq_true]

/-- The same with the literal bounds. -/
theorem alias_base_by_range_literal (code : Nat) :
    (400 ≤ code ∧ code < 500 → aliasBase code = some .clientError) ∧
    (500 ≤ code ∧ code < 600 → aliasBase code = some .serverError) ∧
    (code < 400 ∨ 600 ≤ code → aliasBase code = none) := by
  obtain ⟨h1, h2, h3, h4, _⟩ := ranges_are
  have h := alias_base_by_range code
  rw [h1, h2, h3, h4] at h
  exact ⟨h.1, h.2.1, fun hc =>
    Option.not_isSome_iff_eq_none.mp (mt (aliasBase_isSome_iff_range code).mp (by omega))⟩

example : aliasBase 404 = some .clientError ∧ aliasBase 503 = some .serverError
    ∧ aliasBase 302 = none ∧ aliasBase 600 = none := by decide

/-! ## class names -/

/-- `get_exception_class_name` on the rows of `HTTP_EXCEPTION_NAMES` is duplicate-free (after the
    rename): no two statuses share an alias class. -/
theorem alias_names_distinct :
    (Gen.httpExceptionNames.map (fun r => aliasName r.1)).Nodup := table_names_nodup_gen

/-- No alias class shadows a Python builtin — this is what the rename of `NotImplementedError`
    (501) to `HttpNotImplementedError` achieves … -/
theorem alias_names_not_builtin :
    ∀ r ∈ Gen.httpExceptionNames, aliasName r.1 ∉ Gen.pyBuiltins := table_not_builtin_gen

/-- … and without the rename the raw table WOULD contain a builtin name. -/
theorem raw_table_has_builtin :
    ∃ r ∈ Gen.httpExceptionNames, r.2 ∈ Gen.pyBuiltins ∧ aliasName r.1 ≠ r.2 := by
  refine ⟨(501, "NotImplementedError".toList), ?_, ?_, ?_⟩
  all_goals decide +kernel

/-- The fallback name `Error<code>` is no builtin either (it ends in a digit, builtins checked
    by shape on the generated list). -/
theorem fallback_not_builtin (code : Nat) :
    Gen.exceptionFallbackPrefix ++ natStr code ∉ Gen.pyBuiltins := by
  intro h
  have hb : ∀ b ∈ Gen.pyBuiltins, isFallbackShaped b = false := by decide +kernel
  have := hb _ h
  rw [fallback_isFallbackShaped] at this
  cases this

/-- Alias names are ASCII Python identifiers: table rows … -/
theorem alias_names_are_identifiers :
    ∀ r ∈ Gen.httpExceptionNames, isPyIdent (aliasName r.1) = true := table_ident_gen

/-- … the fallback for every code … -/
theorem fallback_is_identifier (code : Nat) :
    isPyIdent (Gen.exceptionFallbackPrefix ++ natStr code) = true := fallback_ident code

/-- … hence the result of `get_exception_class_name` for EVERY code. -/
theorem alias_name_is_identifier (code : Nat) : isPyIdent (aliasName code) = true :=
  aliasName_ident code

/-- For a code without a table row the name is the fallback, and it differs from every table
    alias (no table alias has the shape `Error<digits>`). -/
theorem fallback_distinct_from_table (code : Nat) (h : code ∉ Gen.httpExceptionNames.map (·.1)) :
    aliasName code = Gen.exceptionFallbackPrefix ++ natStr code ∧
    ∀ r ∈ Gen.httpExceptionNames, aliasName r.1 ≠ aliasName code := by
  have hl : Gen.httpExceptionNames.lookup code = none := by
    rcases inTable_cases code with ⟨n, hn⟩ | hn
    · exact absurd (List.mem_map_of_mem (f := (·.1)) hn) h
    · exact hn
  refine ⟨aliasName_fallback code hl, ?_⟩
  intro r hr heq
  have h1 := table_not_fallback_gen r hr
  rw [heq, aliasName_fallback code hl, fallback_isFallbackShaped] at h1
  cases h1

example : (999 : Nat) ∉ Gen.httpExceptionNames.map (·.1) ∧ aliasName 999 = "Error999".toList := by
  decide +kernel

/-- `get_exception_class_name` is injective on all natural numbers: two different statuses never
    get the same class name (table rows, fallbacks, and mixed). -/
theorem alias_name_injective (c c' : Nat) (h : aliasName c = aliasName c') : c = c' :=
  aliasName_injective c c' h

/-- A set of codes and the set of its class names determine each other. -/
theorem alias_names_nodup_of_codes (codes : List Nat) (h : codes.Nodup) :
    (codes.map aliasName).Nodup :=
  List.Pairwise.map aliasName (fun c c' hne he => hne (aliasName_injective c c' he)) h

example : aliasName 404 = "NotFoundError".toList ∧ aliasName 501 = "HttpNotImplementedError".toList
    ∧ aliasName 599 = "Error599".toList := by decide +kernel


/-! # C06, behavioural half: what the caller observes for a status outside 200-299

  Model: `Pog.GenCode.handle` (Pog/Model/GenCode.lean), tied to the emitted code by `vf/corr/gencode.py`.

  FULL STATEMENT (C06): for every operation and every HTTP status outside 200-299, declared or not, the call never
  returns a value: it raises an instance of the package's `HTTPError` carrying that status code and the response;
  a 4xx status raises a `ClientError`, a 5xx status a `ServerError`.

  Proved in full for every three-digit status (`non2xx_raises_class_by_range`, `never_returns_non2xx`), from the cases:
  the bundled transport raises by range before the `match` is reached; with a pass-through transport a declared 4xx/5xx
  status raises its alias class, an undeclared one the class of its range from the `case _:` arm.
-/
section behaviour
open Pog.GenCode

/-- With the bundled `HttpxTransport` a status outside 200-299 never ends in a returned value — for EVERY
    operation (importable or not) and every reply; when the module is importable the outcome is the
    transport's own exception carrying the status and the response. -/
theorem never_returns_non2xx_bundled (op : Op) (r : Reply) (h : ¬ (200 ≤ r.status ∧ r.status < 300)) :
    (∀ k, handle .bundled op r ≠ .returned k) ∧
    (moduleOk op = true →
      handle .bundled op r = .raised (bundledClass r.status) r.status true .transport) := by
  refine ⟨fun k => ?_, fun hm => handle_bundled_non2xx hm h⟩
  by_cases hm : moduleOk op = true
  · rw [handle_bundled_non2xx hm h]
    nofun
  · rw [handle_not_importable _ r hm]
    nofun

/-- The class chosen by the `case _:` arms of the emitted `match` (`_write_raise_by_status_range`): `ClientError` for 400-499,
    `ServerError` for 500-599, the base `HTTPError` for everything else. -/
theorem rangeClass_by_range (s : Nat) :
    (400 ≤ s ∧ s < 500 → rangeClass s = .clientError ∧ (rangeClass s).isClient = true) ∧
    (500 ≤ s ∧ s < 600 → rangeClass s = .serverError ∧ (rangeClass s).isServer = true) ∧
    (s < 400 ∨ 600 ≤ s → rangeClass s = .httpError) := by
  unfold rangeClass
  refine ⟨fun h => ?_, fun h => ?_, fun h => ?_⟩
  · rw [if_pos h]
    exact ⟨rfl, rfl⟩
  · rw [if_neg (by omega), if_pos h]
    exact ⟨rfl, rfl⟩
  · rw [if_neg (by omega), if_neg (by omega)]

/-- The arms of the emitted `match` choose the class exactly as the bundled transport does. -/
theorem rangeClass_eq_bundledClass (s : Nat) : rangeClass s = bundledClass s := rfl

/-- The class the bundled transport raises is chosen by range: `ClientError` for 400-499, `ServerError` for
    500-599 (base `HTTPError` for 1xx, 3xx and ≥ 600) — status and response attached. -/
theorem bundled_class_by_range (op : Op) (r : Reply) (hm : moduleOk op = true) :
    (400 ≤ r.status ∧ r.status < 500 →
      handle .bundled op r = .raised .clientError r.status true .transport ∧ ExcCls.clientError.isClient = true) ∧
    (500 ≤ r.status ∧ r.status < 600 →
      handle .bundled op r = .raised .serverError r.status true .transport ∧ ExcCls.serverError.isServer = true) ∧
    (r.status < 200 ∨ (300 ≤ r.status ∧ r.status < 400) ∨ 600 ≤ r.status →
      handle .bundled op r = .raised .httpError r.status true .transport) := by
  obtain ⟨h4, h5, h⟩ := rangeClass_by_range r.status
  refine ⟨fun hr => ?_, fun hr => ?_, fun hr => ?_⟩
  · rw [handle_bundled_non2xx hm (by omega), ← rangeClass_eq_bundledClass, (h4 hr).1]
    exact ⟨rfl, rfl⟩
  · rw [handle_bundled_non2xx hm (by omega), ← rangeClass_eq_bundledClass, (h5 hr).1]
    exact ⟨rfl, rfl⟩
  · rw [handle_bundled_non2xx hm (by omega), ← rangeClass_eq_bundledClass, h (by omega)]

example : moduleOk ⟨"GET".toList, [.lit "/a".toList], [], none, [⟨.num 200, []⟩]⟩ = true := by decide +kernel

/-- The `match` of the emitted method selects `raise <alias>(response=response)` for a declared 4xx/5xx status. -/
theorem select_declared_error (rs : List Resp) (s : Nat) (hs : 400 ≤ s ∧ s < 600)
    (hd : ∃ x ∈ rs, x.key = .num s) : selectAction rs s = .raiseAlias s := by
  rw [select_declared_non2 rs s (not_starts2_of_3digits s (by omega) (by omega)) hd, if_pos ((aliasBase_isSome_iff_range s).mpr hs)]

/-- Pass-through transport, DECLARED 4xx/5xx status: the generated `match` raises the status-specific alias
    class with the status and the response; the alias derives from `ClientError` for 400-499 and from
    `ServerError` for 500-599. -/
theorem passthrough_declared_error_class (op : Op) (r : Reply) (hm : moduleOk op = true)
    (hs : 400 ≤ r.status ∧ r.status < 600) (hd : ∃ x ∈ op.responses, x.key = .num r.status) :
    handle .passthrough op r = .raised (.alias r.status) r.status true .aliasArm ∧
    (r.status < 500 → (ExcCls.alias r.status).isClient = true) ∧
    (500 ≤ r.status → (ExcCls.alias r.status).isServer = true) := by
  refine ⟨?_, ?_, ?_⟩
  · rw [handle_passthrough r hm, select_declared_error op.responses r.status hs hd]
    rfl
  · intro h
    have := (alias_base_by_range_literal r.status).1 ⟨hs.1, h⟩
    simp [ExcCls.isClient, this]
  · intro h
    have := (alias_base_by_range_literal r.status).2.1 ⟨h, hs.2⟩
    simp [ExcCls.isServer, this]

/-- An operation declaring 200 (a model), 404 and 503. -/
def exDeclared : Op :=
  ⟨"GET".toList, [.lit "/pets/".toList, .var "id".toList], [⟨"id".toList, .path, true, .plain⟩], none,
   [⟨.num 200, [⟨mtJson, .model "Pet".toList⟩]⟩, ⟨.num 404, []⟩, ⟨.num 503, []⟩]⟩

example : moduleOk exDeclared = true ∧ (∃ x ∈ exDeclared.responses, x.key = .num 404) ∧
    handle .passthrough exDeclared ⟨404, none⟩ = .raised (.alias 404) 404 true .aliasArm ∧
    handle .passthrough exDeclared ⟨503, none⟩ = .raised (.alias 503) 503 true .aliasArm := by
  unfold exDeclared mtJson
  repeat rw [String.toList_ofList]
  decide +kernel

/-- The former witness of F15 (pass-through transport, UNDECLARED error status; the catch-all arm raised the BASE
    `HTTPError` for 409 and 500): the catch-all now raises `ClientError` for 409, `ServerError` for 500 and the base
    class for 302, "Unhandled status code" each time. -/
theorem passthrough_undeclared_former_witness :
    handle .passthrough exDeclared ⟨409, none⟩ = .raised .clientError 409 true .unhandledArm ∧
    ExcCls.clientError.isClient = true ∧
    handle .passthrough exDeclared ⟨500, none⟩ = .raised .serverError 500 true .unhandledArm ∧
    ExcCls.serverError.isServer = true ∧
    handle .passthrough exDeclared ⟨302, none⟩ = .raised .httpError 302 true .unhandledArm := by
  unfold exDeclared mtJson
  repeat rw [String.toList_ofList]
  decide +kernel

/-- Pass-through transport, a status for which the operation declares no numeric response: the `case _:` arm raises the
    class of the status' range with the status and the response - "Default error" when a `default` response is declared,
    "Unhandled status code" otherwise.  The only undeclared statuses that do not raise are the 2xx ones under a `default`
    response with content (`h2`; F40 repaired: before, that arm returned for EVERY status). -/
theorem passthrough_undeclared_class_by_range (op : Op) (r : Reply) (hm : moduleOk op = true)
    (hu : ∀ x ∈ op.responses, x.key.code? ≠ some r.status)
    (h2 : ¬ (200 ≤ r.status ∧ r.status < 300) ∨ defaultAction op.responses ≠ .retDefault) :
    handle .passthrough op r = .raised (rangeClass r.status) r.status true
      (if op.responses.any (fun x => x.key.isDefault) then .defaultArm else .unhandledArm) := by
  rw [handle_passthrough r hm, select_undeclared hu]
  rcases defaultAction_cases op.responses with ⟨hany, hd | hd⟩ | ⟨hany, hd⟩
  · rcases h2 with h2 | h2
    · rw [hd, hany]
      simp [runAction, h2]
    · exact absurd hd h2
  · rw [hd, hany]
    simp [runAction]
  · rw [hd, hany]
    simp [runAction]

/-- An operation with a `default` response that has content. -/
def exDefaultContent : Op :=
  ⟨"GET".toList, [.lit "/pets".toList], [], none,
   [⟨.num 200, [⟨mtJson, .model "Pet".toList⟩]⟩, ⟨.default, [⟨mtJson, .model "Problem".toList⟩]⟩]⟩

/-- The hypotheses of `passthrough_undeclared_class_by_range` are satisfiable: without a `default` response, with one
    without content, and with one WITH content (the class F40 used to exclude). -/
example :
    let op : Op := ⟨"GET".toList, [.lit "/a".toList], [], none, [⟨.num 200, []⟩, ⟨.num 404, []⟩, ⟨.default, []⟩]⟩
    moduleOk op = true ∧ (∀ x ∈ op.responses, x.key.code? ≠ some 503) ∧
    handle .passthrough op ⟨503, none⟩ = .raised .serverError 503 true .defaultArm ∧
    moduleOk exDeclared = true ∧ (∀ x ∈ exDeclared.responses, x.key.code? ≠ some 409) ∧
    moduleOk exDefaultContent = true ∧ (∀ x ∈ exDefaultContent.responses, x.key.code? ≠ some 500) ∧
    defaultAction exDefaultContent.responses = .retDefault := by
  decide +kernel

/-- The former witness of F40 (a declared `default` response WITH content made the `case _:` arm `return` through the
    primary strategy: with a pass-through transport a 500, 404 or 302 reply was RETURNED, parsed as the success type
    `Pet`): these statuses now raise by range, "Default error"; an undeclared 2xx status (201) is still returned. -/
theorem default_with_content_former_witness :
    moduleOk exDefaultContent = true ∧
    handle .passthrough exDefaultContent ⟨500, none⟩ = .raised .serverError 500 true .defaultArm ∧
    handle .passthrough exDefaultContent ⟨404, none⟩ = .raised .clientError 404 true .defaultArm ∧
    handle .passthrough exDefaultContent ⟨302, none⟩ = .raised .httpError 302 true .defaultArm ∧
    handle .passthrough exDefaultContent ⟨201, none⟩ = .returned (.structure (.model "Pet".toList)) := by
  decide +kernel

/-- What is left of the returning `default` arm: when the `case _:` arm is the guarded strategy return, a 2xx status that
    matches no declared numeric arm is returned through the primary strategy (never the missing-import `NameError`) -
    with either transport. -/
theorem default_with_content_returns_undeclared_2xx (t : TransportKind) (op : Op) (r : Reply) (hm : moduleOk op = true)
    (hd : defaultAction op.responses = .retDefault)
    (hu : ∀ x ∈ op.responses, x.key.code? ≠ some r.status)
    (h2 : 200 ≤ r.status ∧ r.status < 300) :
    handle t op r = .returned (strategyRet (resolveStrategy op.responses) r) := by
  rw [handle_2xx t hm h2, select_undeclared hu, hd]
  simp only [runAction, h2, and_self, if_true, returnOf_strategy_of_retDefault r hd]

example : defaultAction exDefaultContent.responses = .retDefault ∧
    (∀ x ∈ exDefaultContent.responses, x.key.code? ≠ some 201) := by decide +kernel

/-- `isinstance(e, ClientError)` / `isinstance(e, ServerError)` for the status-specific alias of a DECLARED status that
    has one: exactly by range. -/
theorem alias_class_by_range (s : Nat) (h : (aliasBase s).isSome = true) :
    (ExcCls.alias s).isClient = decide (400 ≤ s ∧ s < 500) ∧ (ExcCls.alias s).isServer = decide (500 ≤ s ∧ s < 600) := by
  obtain ⟨h1, h2, h3⟩ := alias_base_by_range_literal s
  by_cases hc : 400 ≤ s ∧ s < 500
  · have hs : ¬ (500 ≤ s ∧ s < 600) := by omega
    simp [ExcCls.isClient, ExcCls.isServer, h1 hc, hc, hs]
  · by_cases hs : 500 ≤ s ∧ s < 600
    · simp [ExcCls.isClient, ExcCls.isServer, h2 hs, hc, hs]
    · rw [h3 (by omega)] at h
      cases h

/-- The same for the classes the `case _:` arms and the bundled transport choose. -/
theorem rangeClass_class_by_range (s : Nat) :
    (rangeClass s).isClient = decide (400 ≤ s ∧ s < 500) ∧ (rangeClass s).isServer = decide (500 ≤ s ∧ s < 600) := by
  by_cases hc : 400 ≤ s ∧ s < 500
  · have hs : ¬ (500 ≤ s ∧ s < 600) := by omega
    simp [rangeClass, ExcCls.isClient, ExcCls.isServer, hc, hs]
  · by_cases hs : 500 ≤ s ∧ s < 600 <;> simp [rangeClass, ExcCls.isClient, ExcCls.isServer, hc, hs]

/-- Pass-through transport, the emitted `match` alone: a status that the GENERATOR does not treat as 2xx (its decimal
    string does not start with `2`: `hns`) and that is not in 200-299 raises - declared (its own arm: the alias class or,
    for 1xx/3xx, the base class) or not (the `case _:` arm) - with the status and the response attached; the exception is
    a `ClientError` exactly for 400-499 and a `ServerError` exactly for 500-599. -/
theorem passthrough_non2xx_raises_class_by_range (op : Op) (r : Reply) (hm : moduleOk op = true)
    (hns : (StatusKey.num r.status).starts2 = false) (h2 : ¬ (200 ≤ r.status ∧ r.status < 300)) :
    ∃ cls why, handle .passthrough op r = .raised cls r.status true why ∧
      cls.isClient = decide (400 ≤ r.status ∧ r.status < 500) ∧
      cls.isServer = decide (500 ≤ r.status ∧ r.status < 600) := by
  by_cases hd : ∃ x ∈ op.responses, x.key = .num r.status
  · have hsel := select_declared_non2 op.responses r.status hns hd
    by_cases hab : (aliasBase r.status).isSome = true
    · refine ⟨.alias r.status, .aliasArm, ?_, alias_class_by_range r.status hab⟩
      rw [handle_passthrough r hm, hsel, if_pos hab]
      rfl
    · have hout := mt (aliasBase_isSome_iff_range r.status).mpr hab
      refine ⟨.httpError, .unhandledArm, ?_, (decide_eq_false (by omega)).symm, (decide_eq_false (by omega)).symm⟩
      rw [handle_passthrough r hm, hsel, if_neg hab]
      rfl
  · have hu : ∀ x ∈ op.responses, x.key.code? ≠ some r.status := fun x hx hk => hd ⟨x, hx, code?_eq_some.mp hk⟩
    exact ⟨_, _, passthrough_undeclared_class_by_range op r hm hu (Or.inl h2), rangeClass_class_by_range r.status⟩

/-- **C06, behavioural half, in full**: for every operation whose module imports, either transport and every three-digit
    status outside 200-299 - declared or not, `default` response or not - the call RAISES an exception of the package
    carrying that status code and the response; it is a `ClientError` exactly for 400-499 and a `ServerError` exactly for
    500-599 (F14, F15, F40 repaired).  "Three-digit" is the domain of HTTP status codes; the generator recognises a 2xx key
    by its first character, see the example below. -/
theorem non2xx_raises_class_by_range (t : TransportKind) (op : Op) (r : Reply) (hm : moduleOk op = true)
    (h3 : 100 ≤ r.status ∧ r.status < 1000) (h2 : ¬ (200 ≤ r.status ∧ r.status < 300)) :
    ∃ cls why, handle t op r = .raised cls r.status true why ∧
      cls.isClient = decide (400 ≤ r.status ∧ r.status < 500) ∧
      cls.isServer = decide (500 ≤ r.status ∧ r.status < 600) := by
  cases t with
  | passthrough => exact passthrough_non2xx_raises_class_by_range op r hm (not_starts2_of_3digits r.status h3 h2) h2
  | bundled =>
    refine ⟨bundledClass r.status, .transport, (never_returns_non2xx_bundled op r h2).2 hm, ?_⟩
    rw [← rangeClass_eq_bundledClass]
    exact rangeClass_class_by_range r.status

/-- … and for EVERY operation (importable or not) such a status never ends in a returned value. -/
theorem never_returns_non2xx (t : TransportKind) (op : Op) (r : Reply)
    (h3 : 100 ≤ r.status ∧ r.status < 1000) (h2 : ¬ (200 ≤ r.status ∧ r.status < 300)) :
    ∀ k, handle t op r ≠ .returned k := by
  intro k
  by_cases hm : moduleOk op = true
  · obtain ⟨cls, why, h, _⟩ := non2xx_raises_class_by_range t op r hm h3 h2
    rw [h]
    nofun
  · rw [handle_not_importable t r hm]
    nofun

/-- The hypotheses are satisfiable - and the three-digit bound is needed: a response declared under the key `2000` is a
    "2xx" response for the generator (the key starts with `2`), so a status 2000, which no HTTP server can send, is returned. -/
example : moduleOk exDefaultContent = true ∧
    handle .passthrough exDefaultContent ⟨999, none⟩ = .raised .httpError 999 true .defaultArm ∧
    handle .passthrough ⟨"GET".toList, [.lit "/a".toList], [], none, [⟨.num 2000, []⟩]⟩ ⟨2000, none⟩ = .returned .none := by
  decide +kernel

end behaviour

end Pog.C06
