import Pog.Props.C02
import Pog.Props.Loader
import Pog.Props.Dc
import Pog.Lemmas.GenCode
/-
  C19 (re-ordering part) — reordering `components.schemas` (or an object's properties) changes at
  most the order of the emitted declarations: the set of models and their fields stay the same.

  The full statement `decls ~ decls' → ∀ n, modelFields (build decls) n ≈ modelFields (build decls') n` is false of the
  current code: three counterexamples below (declaration order with a prefix-named pair, declaration order at a small
  depth limit, property order inside one object).  Proved: the document's meaning (`specFields`) is order-independent;
  where both orders are faithful they agree; on the fragment `Simple` of `C02.parse_faithful_partial` every re-ordering
  of the declarations gives every declared schema the same fields (C02b / C02c: the same on `Simple2` / `Simple3`).

  C19 (key order of the `responses` mapping) — the response an operation's return type is taken from (and the arm
  that returns through it) does not depend on the order in which the keys of `responses` are written
  (`primary_response_key_order_invariant`, both copies of `_get_primary_response` as repaired, F57).

  The order of an object's `properties` and of its `required` list (Pog/Props/Dc.lean) and the loader's independence of
  the order of the component tables (Pog/Props/Loader.lean) are proved there and claimed by the INDEX lines below.
-/
-- MODULE Pog.Props.C02b
-- MODULE Pog.Props.C02c
-- MODULE Pog.Props.C02d
-- INDEX Pog.C02d: model_invariant_under_permutation3
-- INDEX Pog.C02c: parse_perm_invariant_partial3
-- INDEX Pog.C02b: parse_perm_invariant_partial2
-- INDEX Pog.DcProps: sorted_props_is_sorted, sorted_props_order_independent, sorted_props_required_order_independent, generate_order_independent
-- INDEX Pog.LoaderProps: parse_is_local, parse_depends_on_lookups_only, promotion_name_media, promotion_name_response, promotion_name_parameter, promotion_name_body
namespace Pog.C19
open Pog Pog.Prs Pog.Trk Pog.C02

/-- The document's meaning does not depend on the declaration order (`C02.specFields_decl_perm_invariant` again). -/
theorem spec_perm_invariant (d d' : Decls) (hp : d.Perm d') (hn : (d.map (·.1)).Nodup) (n : Str) :
    specFields d n = specFields d' n :=
  specFields_decl_perm_invariant d d' hp hn n

/-- ✗ The same two schemas, declared in the two possible orders: with `User` first it is a cycle
    placeholder without fields, with `UserGroup` first it is a full model with its field. -/
theorem parse_perm_invariant_counterexample :
    userDecls.Perm userDecls.reverse ∧
    modelFields userDecls (buildSchemas 150 30 userDecls) "User".toList = some [] ∧
    modelFields userDecls.reverse (buildSchemas 150 30 userDecls.reverse) "User".toList
      = some [⟨"group".toList, false, .ref "UserGroup".toList⟩] ∧
    (∀ n ∈ userDecls.map (·.1), Faithful userDecls.reverse (buildSchemas 150 30 userDecls.reverse) n) :=
  ⟨(List.reverse_perm _).symm, by decide +kernel⟩

/-- ✗ `A → B → C` at `PYOPENAPI_MAX_DEPTH = 2`: declared in this order `C` is a depth placeholder without fields,
    declared in the opposite order it is a full model with its field. -/
theorem parse_perm_invariant_depth_counterexample :
    chainDecls.Perm chainDecls.reverse ∧
    modelFields chainDecls (buildSchemas 2 30 chainDecls) "C".toList = some [] ∧
    modelFields chainDecls.reverse (buildSchemas 2 30 chainDecls.reverse) "C".toList
      = some [⟨"x".toList, false, .prim .string⟩] :=
  ⟨(List.reverse_perm _).symm, by decide +kernel⟩

/-- ✗ Reordering the PROPERTIES of one object.  `Aa = {p: Aa, q: Bb}`, `Bb = {p: Aa, q: Aa}`.  With `p`
    first everything is faithful; with `q` first, `Bb` is entered before the self reference of `Aa` has
    been seen, `Bb.p → Aa` is a two-step cycle whose balancing exit marks `Aa` COMPLETED, `Bb.q → Aa`
    then re-parses `Aa` (RETURN_EXISTING fall-through) and the copies end up in the fields: `Aa.p` and
    `Bb.q` are typed as anonymous objects instead of `Aa`. -/
theorem parse_property_order_counterexample :
    let bb : Node := cObj [("p", cRef "Aa"), ("q", cRef "Aa")]
    let d1 : Decls := [("Aa".toList, cObj [("p", cRef "Aa"), ("q", cRef "Bb")]), ("Bb".toList, bb)]
    let d2 : Decls := [("Aa".toList, cObj [("q", cRef "Bb"), ("p", cRef "Aa")]), ("Bb".toList, bb)]
    (∀ n ∈ d1.map (·.1), Faithful d1 (buildSchemas 150 30 d1) n) ∧
    modelFields d2 (buildSchemas 150 30 d2) "Aa".toList
      = some [⟨"q".toList, false, .ref "Bb".toList⟩, ⟨"p".toList, false, .obj⟩] ∧
    modelFields d2 (buildSchemas 150 30 d2) "Bb".toList
      = some [⟨"p".toList, false, .ref "Aa".toList⟩, ⟨"q".toList, false, .obj⟩] ∧
    ¬ Faithful d2 (buildSchemas 150 30 d2) "Aa".toList := by
  decide +kernel

/-- Order independence is a corollary of faithfulness: whenever the results for two orders of the
    same declarations are both faithful for `n`, they have the same fields (as sets).  So every
    fragment on which C02 holds is a fragment on which this part of C19 holds. -/
theorem parse_perm_invariant_of_faithful (d d' : Decls) (hp : d.Perm d') (hn : (d.map (·.1)).Nodup)
    (s s' : Prs.PSt) (n : Str) (h : Faithful d s n) (h' : Faithful d' s' n) :
    ∃ fs fs', modelFields d s n = some fs ∧ modelFields d' s' n = some fs' ∧ ∀ f, f ∈ fs ↔ f ∈ fs' :=
  h.perm_invariant hp hn h'

example : Faithful userDecls.reverse (buildSchemas 150 30 userDecls.reverse) "User".toList := by
  decide +kernel

/-- On the fragment `Simple` (see `C02.parse_faithful_partial`) the
    declaration order is irrelevant — both orders load without error and every name has the same set
    of fields. -/
theorem parse_perm_invariant_partial (d d' : Decls) (rank : Str → Nat) (hp : d.Perm d') (hS : Simple d rank)
    (maxDepth F : Nat) (hF : ∀ x ∈ d, rank x.1 < F) (hD : ∀ x ∈ d, rank x.1 + 1 ≤ maxDepth) :
    missing d (buildSchemas maxDepth (F + 1) d) = [] ∧ missing d' (buildSchemas maxDepth (F + 1) d') = [] ∧
    ∀ x ∈ d, ∃ fs fs', modelFields d (buildSchemas maxDepth (F + 1) d) x.1 = some fs ∧
      modelFields d' (buildSchemas maxDepth (F + 1) d') x.1 = some fs' ∧ ∀ f, f ∈ fs ↔ f ∈ fs' :=
  buildSchemas_perm_invariant3 d d' rank hp hS.toSimple2.toSimple3 maxDepth F hF hD

example : orderDecls.Perm orderDecls.reverse := (List.reverse_perm _).symm

open Pog.GenCode in
/-- For every list of responses with pairwise distinct status keys (they are the keys of one mapping) and every
    re-ordering of it, `ResponseStrategyResolver._get_primary_response` (return type) and
    `endpoint_utils._get_primary_response` (the `match` arm that returns) select the same response as before.
    Before the repair of F57 the steps "other 2xx" and "first response" returned the first LISTED candidate. -/
theorem primary_response_key_order_invariant (rs rs' : List Resp) (hp : rs.Perm rs')
    (hk : (rs.map (·.key.str)).Nodup) :
    primaryA rs = primaryA rs' ∧ primaryB rs = primaryB rs' := by
  have h := primaryA_perm hp hk
  exact ⟨h, by rw [← primaryA_eq_primaryB, ← primaryA_eq_primaryB, h]⟩

open Pog.GenCode in
/-- Non-vacuity + the shape that used to fail: 206 listed before 203. -/
theorem primary_response_key_order_nonvacuous :
    let a : List Resp := [⟨.num 206, []⟩, ⟨.num 203, []⟩, ⟨.default, []⟩, ⟨.num 404, []⟩]
    let b : List Resp := [⟨.num 404, []⟩, ⟨.default, []⟩, ⟨.num 203, []⟩, ⟨.num 206, []⟩]
    (a.map (·.key.str)).Nodup ∧ (primaryA a).map (·.key) = some (.num 203) ∧ (primaryA b).map (·.key) = some (.num 203) ∧
    (primaryA [⟨.num 500, []⟩, ⟨.num 404, []⟩]).map (·.key) = some (.num 404) := by
  decide +kernel

end Pog.C19
