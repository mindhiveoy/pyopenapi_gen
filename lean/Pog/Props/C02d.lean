import Pog.Props.C02c
import Pog.Lemmas.SpecKeys
/-
  C02, the TYPE-LEVEL consequences of `parse_faithful_partial3` spelled out.  `Faithful decls s n` (Pog/Model/ParserSpec.lean)
  is one statement: the name has a full model whose fields are, AS A SET of (key, required, kind) triples, the fields
  `specFields decls n` of the document.  Because the denotation has ONE field per key (`specFields_keys_nodup`,
  Pog/Lemmas/SpecKeys.lean) the set equality splits into the facts a reader of C02 asks for, each on the fragment
  `Simple3 decls rank` with the rank / depth / fuel hypotheses of `C02c.parse_faithful_partial3`, for
  `s := buildSchemas maxDepth (F + 1) decls` and EVERY declared name: a full model is registered, its keys are the
  document's keys, and per key the required flag and the kind agree; the same under every re-ordering of the declarations.
  Nothing here is new mathematics over `parse_faithful_partial3`; the theorems exist so that the claims of C02 can be
  cited one by one.
-/
namespace Pog.C02d
open Pog Pog.Prs Pog.Trk Pog.C02 Pog.C02b Pog.C02c

/-- For every document and every name, the keys of `specFields` are pairwise different (the
    denotation merges `allOf` parts first-wins and own properties in place, like a Python `dict`).  This is what lets
    the per-key theorems below speak of THE document field with a given key. -/
theorem spec_keys_unique (decls : Decls) (n : Str) : ((specFields decls n).map (·.key)).Nodup :=
  specFields_keys_nodup decls n

/-- On `Simple3 decls rank` (rank below the fuel and the depth limit) the load
    `buildSchemas maxDepth (F + 1) decls` does not run out of fuel, raises no RuntimeError (`missing = []`), and for
    EVERY declared name the registry holds an object that is a full schema (kind `.full`, i.e. neither a cycle nor a
    depth placeholder) and can be read back (`modelFields … = some _`): `build_schemas` returns a model for each. -/
theorem every_declared_name_registered3 (decls : Decls) (rank : Str → Nat) (hS : Simple3 decls rank) (maxDepth F : Nat)
    (hF : ∀ d ∈ decls, rank d.1 < F) (hD : ∀ d ∈ decls, rank d.1 + 1 ≤ maxDepth) :
    (buildSchemas maxDepth (F + 1) decls).oom = false ∧
    missing decls (buildSchemas maxDepth (F + 1) decls) = [] ∧
    ∀ d ∈ decls, ∃ id fs, (buildSchemas maxDepth (F + 1) decls).lookup d.1 = some id ∧
      ((buildSchemas maxDepth (F + 1) decls).get id).kind = .full ∧
      modelFields decls (buildSchemas maxDepth (F + 1) decls) d.1 = some fs := by
  have h := parse_faithful_partial3 decls rank hS maxDepth F hF hD
  exact ⟨h.1, h.2.1, fun d hd => (h.2.2 d hd).registered⟩

/-- On the same fragment, for every declared name the SET of field keys of the model
    equals the set of property keys the document declares for it (own properties and those of every `allOf` part,
    transitively): no property is lost and none is invented. -/
theorem model_keys_are_spec_keys3 (decls : Decls) (rank : Str → Nat) (hS : Simple3 decls rank) (maxDepth F : Nat)
    (hF : ∀ d ∈ decls, rank d.1 < F) (hD : ∀ d ∈ decls, rank d.1 + 1 ≤ maxDepth) :
    ∀ d ∈ decls, ∃ fs, modelFields decls (buildSchemas maxDepth (F + 1) decls) d.1 = some fs ∧
      ∀ k, k ∈ fs.map (·.key) ↔ k ∈ (specFields decls d.1).map (·.key) :=
  fun d hd => ((parse_faithful_partial3 decls rank hS maxDepth F hF hD).2.2 d hd).keys

/-- On the same fragment, a field of the model is required iff the document requires the
    property of the same key: whenever a model field `f` and a document field `g` have the same key, their `required`
    flags agree (by `model_keys_are_spec_keys3` such a `g` exists for every `f` and conversely, by `spec_keys_unique`
    it is the only one). -/
theorem model_required_iff_spec3 (decls : Decls) (rank : Str → Nat) (hS : Simple3 decls rank) (maxDepth F : Nat)
    (hF : ∀ d ∈ decls, rank d.1 < F) (hD : ∀ d ∈ decls, rank d.1 + 1 ≤ maxDepth) :
    ∀ d ∈ decls, ∃ fs, modelFields decls (buildSchemas maxDepth (F + 1) decls) d.1 = some fs ∧
      ∀ f ∈ fs, ∀ g ∈ specFields decls d.1, f.key = g.key → (f.required = true ↔ g.required = true) := by
  intro d hd
  obtain ⟨fs, h1, h2⟩ := ((parse_faithful_partial3 decls rank hS maxDepth F hF hD).2.2 d hd).field_eq
  exact ⟨fs, h1, fun f hf g hg hk => by rw [h2 f hf g hg hk]⟩

/-- On the same fragment, the kind of each model field (primitive type, reference to a
    named schema, array of …, object, union; `Kind` of Pog/Model/ParserSpec.lean, read off the IR by `irKind`) is the
    kind the document declares for the property of the same key (`nodeKind`). -/
theorem model_kind_is_spec_kind3 (decls : Decls) (rank : Str → Nat) (hS : Simple3 decls rank) (maxDepth F : Nat)
    (hF : ∀ d ∈ decls, rank d.1 < F) (hD : ∀ d ∈ decls, rank d.1 + 1 ≤ maxDepth) :
    ∀ d ∈ decls, ∃ fs, modelFields decls (buildSchemas maxDepth (F + 1) decls) d.1 = some fs ∧
      ∀ f ∈ fs, ∀ g ∈ specFields decls d.1, f.key = g.key → f.kind = g.kind := by
  intro d hd
  obtain ⟨fs, h1, h2⟩ := ((parse_faithful_partial3 decls rank hS maxDepth F hF hD).2.2 d hd).field_eq
  exact ⟨fs, h1, fun f hf g hg hk => by rw [h2 f hf g hg hk]⟩

/-- `model_invariant_under_permutation3` (`parse_perm_invariant_partial3` restated fact by fact).  On the same fragment,
    for every permutation `d'` of the declarations `d`: both loads end without out-of-fuel and without RuntimeError, and
    every declared name has a model in both whose fields have the same set of keys and, key by key, the same required
    flag and the same kind. -/
theorem model_invariant_under_permutation3 (d d' : Decls) (rank : Str → Nat) (hp : d.Perm d') (hS : Simple3 d rank)
    (maxDepth F : Nat) (hF : ∀ x ∈ d, rank x.1 < F) (hD : ∀ x ∈ d, rank x.1 + 1 ≤ maxDepth) :
    ((buildSchemas maxDepth (F + 1) d).oom = false ∧ missing d (buildSchemas maxDepth (F + 1) d) = []) ∧
    ((buildSchemas maxDepth (F + 1) d').oom = false ∧ missing d' (buildSchemas maxDepth (F + 1) d') = []) ∧
    ∀ x ∈ d, ∃ fs fs', modelFields d (buildSchemas maxDepth (F + 1) d) x.1 = some fs ∧
      modelFields d' (buildSchemas maxDepth (F + 1) d') x.1 = some fs' ∧
      (∀ k, k ∈ fs.map (·.key) ↔ k ∈ fs'.map (·.key)) ∧
      (∀ f ∈ fs, ∀ f' ∈ fs', f.key = f'.key → (f.required = true ↔ f'.required = true)) ∧
      (∀ f ∈ fs, ∀ f' ∈ fs', f.key = f'.key → f.kind = f'.kind) := by
  have h1 := parse_faithful_partial3 d rank hS maxDepth F hF hD
  have h2 := parse_faithful_partial3 d' rank (hS.perm hp) maxDepth F
    (fun x hx => hF x (hp.mem_iff.mpr hx)) (fun x hx => hD x (hp.mem_iff.mpr hx))
  refine ⟨⟨h1.1, h1.2.1⟩, ⟨h2.1, h2.2.1⟩, fun x hx => ?_⟩
  obtain ⟨fs, e1, _, m1⟩ := h1.2.2 x hx
  obtain ⟨fs', e2, _, m2⟩ := h2.2.2 x (hp.mem_iff.mp hx)
  rw [← specFields_perm hp hS.nodup x.1] at m2
  have hmem : ∀ f, f ∈ fs ↔ f ∈ fs' := fun f => (m1 f).trans (m2 f).symm
  have heq : ∀ f ∈ fs, ∀ f' ∈ fs', f.key = f'.key → f = f' := fun f hf f' hf' hk =>
    field_eq_of_key_eq (specFields_keys_nodup d x.1) ((m1 f).mp hf) ((m2 f').mp hf') hk
  exact ⟨fs, fs', e1, e2, fun k => by simp only [List.mem_map, hmem],
    fun f hf f' hf' hk => by rw [heq f hf f' hf' hk], fun f hf f' hf' hk => by rw [heq f hf f' hf' hk]⟩

/-- the five theorems instantiated on `petDecls` (rank `petRank`, `PYOPENAPI_MAX_DEPTH = 150`, fuel 9) and on its
    reversal (children declared before their parents) -/
example :
    let s := buildSchemas 150 9 petDecls
    (s.oom = false ∧ missing petDecls s = [] ∧
      ∀ d ∈ petDecls, ∃ id fs, s.lookup d.1 = some id ∧ (s.get id).kind = .full ∧ modelFields petDecls s d.1 = some fs) ∧
    (∀ d ∈ petDecls, ∃ fs, modelFields petDecls s d.1 = some fs ∧
      ∀ k, k ∈ fs.map (·.key) ↔ k ∈ (specFields petDecls d.1).map (·.key)) ∧
    (∀ d ∈ petDecls, ∃ fs, modelFields petDecls s d.1 = some fs ∧
      ∀ f ∈ fs, ∀ g ∈ specFields petDecls d.1, f.key = g.key → (f.required = true ↔ g.required = true)) ∧
    (∀ d ∈ petDecls, ∃ fs, modelFields petDecls s d.1 = some fs ∧
      ∀ f ∈ fs, ∀ g ∈ specFields petDecls d.1, f.key = g.key → f.kind = g.kind) :=
  have h := petDecls_simple3
  ⟨every_declared_name_registered3 petDecls petRank h.1 150 8 h.2.1 h.2.2,
   model_keys_are_spec_keys3 petDecls petRank h.1 150 8 h.2.1 h.2.2,
   model_required_iff_spec3 petDecls petRank h.1 150 8 h.2.1 h.2.2,
   model_kind_is_spec_kind3 petDecls petRank h.1 150 8 h.2.1 h.2.2⟩

example := model_invariant_under_permutation3 petDecls petDecls.reverse petRank (List.reverse_perm _).symm
  petDecls_simple3.1 150 8 petDecls_simple3.2.1 petDecls_simple3.2.2

/-- what the document says about `Dog` (an `allOf` child of the `allOf` child `Pet` of `Base`, with an inline member):
    five properties, `id`, `name` (inherited) and `bark` (required by the child itself) required … -/
theorem petDog_spec : specFields petDecls "Dog".toList =
    [⟨"id".toList, true, .prim .integer⟩, ⟨"name".toList, true, .prim .string⟩,
     ⟨"tags".toList, false, .arr (.prim .string)⟩, ⟨"color".toList, false, .ref "Color".toList⟩,
     ⟨"bark".toList, true, .prim .integer⟩] := by
  show specFieldsF (specFuel petDecls) petDecls "Dog".toList = _
  rw [petFuel]
  decide +kernel

/-- … hence, BY THE THEOREMS (no evaluation of the parser), the model of `Dog` has a field `bark`, every field of the
    model with that key is required and an integer, and the model has no field `owner` -/
example : ∃ fs, modelFields petDecls (buildSchemas 150 9 petDecls) "Dog".toList = some fs ∧
    "bark".toList ∈ fs.map (·.key) ∧ "owner".toList ∉ fs.map (·.key) ∧
    ∀ f ∈ fs, f.key = "bark".toList → f.required = true ∧ f.kind = .prim .integer := by
  have h := petDecls_simple3
  have hd : ("Dog".toList, Node.allOf [cRef "Pet", cInl [("bark", .nullable (.prim .integer false))] []] [] ["bark".toList])
      ∈ petDecls :=
    List.mem_cons_of_mem _ (List.mem_cons_of_mem _ (List.mem_cons_of_mem _ (List.mem_cons_self ..)))
  obtain ⟨fs, e, hk⟩ := model_keys_are_spec_keys3 petDecls petRank h.1 150 8 h.2.1 h.2.2 _ hd
  obtain ⟨fs1, e1, hr⟩ := model_required_iff_spec3 petDecls petRank h.1 150 8 h.2.1 h.2.2 _ hd
  obtain ⟨fs2, e2, hkd⟩ := model_kind_is_spec_kind3 petDecls petRank h.1 150 8 h.2.1 h.2.2 _ hd
  rw [e] at e1 e2
  cases e1
  cases e2
  have hb : (⟨"bark".toList, true, .prim .integer⟩ : Field) ∈ specFields petDecls "Dog".toList := by
    rw [petDog_spec]; decide
  refine ⟨fs, e, (hk _).mpr (by rw [petDog_spec]; decide), fun hc => ?_, fun f hf hkey => ?_⟩
  · have := (hk _).mp hc
    rw [petDog_spec] at this
    revert this
    decide
  · exact ⟨(hr f hf _ hb hkey).mpr rfl, hkd f hf _ hb hkey⟩

end Pog.C02d
