import Pog.Lemmas.Registry
/-
  C11 — clients sharing one core package keep working as more are generated.

  FULL STATEMENT ✗ (false of the current code): after ANY sequence of generations of different
  clients into one project with a shared core package, every status-specific exception class a
  client generated so far raises still exists in `core/exception_aliases.py`:

      ∀ hist c, (∃ g ∈ hist, g.client = some c) → ∀ code ∈ needs hist c, code ∈ (run hist).aliases

  It is proved for the histories in which every generation goes through the registry (`Gen.usesRegistry`: a
  `client_package_name` is passed and `_is_shared_core` answers `True`): `registry_invariant`,
  `regeneration_monotone_for_others`; one registry step keeps the others' codes from any state.  Two witnesses show how a
  generation that bypasses the registry breaks it (`unshared_overwrites_counterexample`,
  `unnamed_overwrites_counterexample`).  The second half characterises `_is_shared_core`: its first test (`isSharedCore`)
  recognises core directories one or two levels below the project root only; since the repair of F22 the function
  (`isSharedCoreFor`) also answers `True` for every core directory outside the package of the client being generated.

  `needs hist c` are the 4xx/5xx codes of c's latest spec (the classes `exception_aliases.py` is supposed to provide).
-/
namespace Pog.C11
open Pog Pog.Reg

/-- Every generation of the history goes through the registry branch of `emit`:
    `_is_shared_core` answered `True` and a non-empty `client_package_name` was given. -/
def AllRegistry (hist : List Gen) : Prop := ∀ g ∈ hist, g.usesRegistry = true

instance (hist : List Gen) : Decidable (AllRegistry hist) := by unfold AllRegistry; infer_instance

theorem uses_registry_iff (g : Gen) :
    g.usesRegistry = true ↔ g.shared = true ∧ ∃ n, g.client = some n ∧ n ≠ [] :=
  Reg.usesRegistry_iff g

/-- C11 for the layouts the heuristic recognises: after any history of registry generations the
    alias file holds exactly the union of the registry values, and every code needed by any client
    generated so far is among them. -/
theorem registry_invariant (hist : List Gen) (hh : AllRegistry hist) :
    (∀ code, code ∈ (run hist).aliases ↔
        ∃ c codes, (c, codes) ∈ (run hist).registry ∧ code ∈ codes) ∧
    (∀ c, (∃ g ∈ hist, g.client = some c) → ∀ code ∈ needs hist c, code ∈ (run hist).aliases) := by
  have hi := inv_run hist hh
  refine ⟨hi.aliases, ?_⟩
  intro c hc code hcode
  obtain ⟨codes, hm, hcodes⟩ := hi.latest c hc
  exact (hi.aliases code).mpr ⟨c, codes, hm, (hcodes code).mpr hcode⟩

/-- Additional facts carried by the same induction: the registry has one entry per client, the entry
    of every client holds exactly the codes of its latest generation, and only 4xx/5xx codes are
    ever recorded. -/
theorem registry_entries (hist : List Gen) (hh : AllRegistry hist) :
    ((run hist).registry.map (·.1)).Nodup ∧
    (∀ c, (∃ g ∈ hist, g.client = some c) →
        ∃ codes, (c, codes) ∈ (run hist).registry ∧ ∀ a, a ∈ codes ↔ a ∈ needs hist c) ∧
    (∀ c codes, (c, codes) ∈ (run hist).registry → ∀ a ∈ codes, isErrorCode a = true) :=
  let hi := inv_run hist hh
  ⟨hi.keys, hi.latest, hi.regErr⟩

example : AllRegistry
    [⟨some "a".toList, [200, 404, 409], true⟩, ⟨some "b".toList, [500], true⟩,
     ⟨some "a".toList, [422], true⟩] := by decide

/-- (Re)generating client `g.client` never removes a class another client `c'` needs: the codes of
    `c'` are present before and after the step. -/
theorem regeneration_monotone_for_others (hist : List Gen) (g : Gen)
    (hh : AllRegistry hist) (hg : g.usesRegistry = true)
    (c' : Str) (hocc : ∃ h ∈ hist, h.client = some c') (hne : g.client ≠ some c') :
    ∀ code ∈ needs hist c',
      code ∈ (run hist).aliases ∧ code ∈ (step (run hist) g).aliases := by
  intro code hcode
  refine ⟨(registry_invariant hist hh).2 c' hocc code hcode, ?_⟩
  have hi := inv_step hist _ g (inv_run hist hh) hg
  obtain ⟨codes, hm, hcodes⟩ := hi.latest c' (hocc.imp fun _ hx => ⟨List.mem_append_left _ hx.1, hx.2⟩)
  rw [needs_snoc, if_neg hne] at hcodes
  exact (hi.aliases code).mpr ⟨c', codes, hm, (hcodes code).mpr hcode⟩

example : (⟨some "b".toList, [500], true⟩ : Gen).usesRegistry = true ∧
    (⟨some "b".toList, [500], true⟩ : Gen).client ≠ some "a".toList := by decide

/-- The same, locally and for ANY state of the core directory (reachable or not): a registry step
    for one client keeps every error code recorded for every other client. -/
theorem step_keeps_others (s : State) (g : Gen) (hg : g.usesRegistry = true)
    (c' : Str) (codes : List Nat) (hm : (c', codes) ∈ s.registry) (hne : g.client ≠ some c') :
    (c', codes) ∈ (step s g).registry ∧
    ∀ code ∈ codes, isErrorCode code = true → code ∈ (step s g).aliases := by
  obtain ⟨n, hn, hstep⟩ := step_shared s g hg
  have hm' : (c', codes) ∈ (step s g).registry := by
    rw [hstep]
    refine mem_regSet_of_ne _ _ _ _ _ ?_ hm
    intro h; subst h; exact hne hn
  refine ⟨hm', ?_⟩
  intro code hc he
  exact (mem_step_aliases s g hg code).mpr ⟨⟨c', codes, hm', hc⟩, he⟩

/-- A registry step rebuilds the alias file from the registry alone, whatever was in the file
    before (so it also repairs the damage of an earlier non-registry generation). -/
theorem registry_step_repairs (s : State) (g : Gen) (hg : g.usesRegistry = true) (code : Nat) :
    code ∈ (step s g).aliases ↔
      (∃ c codes, (c, codes) ∈ (step s g).registry ∧ code ∈ codes) ∧ isErrorCode code = true :=
  mem_step_aliases s g hg code

/-- A non-registry generation leaves the registry file alone and OVERWRITES the alias file with the
    classes of its own spec only. -/
theorem unshared_step (s : State) (g : Gen) (hg : g.usesRegistry = false) :
    step s g = ⟨s.registry, specCodes g.declared⟩ :=
  step_unshared s g hg

/-- ✗ witness for the full statement.  `_is_shared_core` answers `False` for both generations (as it does when no
    project root is known, `is_shared_core_no_root`, or for a core embedded three levels deep in the client's own
    package, `embedded_deep_core_not_shared`), so both take the plain branch.  Client A needs `NotFoundError` (404);
    after client B (only 500) has been generated, 404 has no class any more although A still needs it. -/
theorem unshared_overwrites_counterexample :
    let A : Gen := ⟨some "client_a".toList, [200, 404], false⟩
    let B : Gen := ⟨some "client_b".toList, [200, 500], false⟩
    404 ∈ (run [A]).aliases ∧
    404 ∈ needs [A, B] "client_a".toList ∧
    404 ∉ (run [A, B]).aliases ∧
    (run [A, B]).aliases = [500] ∧ (run [A, B]).registry = [] := by
  decide +kernel

/-- ✗ witness: the layout is recognised as shared, but the second generation passes no
    `client_package_name` (the parameter defaults to `None`): the alias file is overwritten
    although the registry still lists 404 for client A. -/
theorem unnamed_overwrites_counterexample :
    let A : Gen := ⟨some "client_a".toList, [404], true⟩
    let B : Gen := ⟨none, [500], true⟩
    404 ∈ needs [A, B] "client_a".toList ∧
    404 ∉ (run [A, B]).aliases ∧
    (run [A, B]).registry = [("client_a".toList, [404])] := by
  decide +kernel

/-- In the recognised layouts the same two-step history keeps 404 (contrast). -/
example :
    (run [⟨some "client_a".toList, [200, 404], true⟩, ⟨some "client_b".toList, [200, 500], true⟩]).aliases
      = [404, 500] := by decide +kernel

/-! ## the heuristic `_is_shared_core` -/

/-- `overall_project_root` unset: never shared. -/
theorem is_shared_core_no_root (d : Path) : isSharedCore none d = false := rfl

/-- Exact characterisation of the first test of `_is_shared_core` (`isSharedCore`) for a core directory `comps` below
    the project root `r`: it answers `True` iff the core directory is ONE or TWO levels below the root — core package
    `core` or `a.core`.  (The third disjunct is the degenerate `r = coreDir = /`, where `Path.parent` of the
    filesystem root is the root itself.)  A core package `x.y.core` (three levels) is recognised by the second test
    only (`is_shared_core_complete`). -/
theorem is_shared_core_depth (r comps : Path) :
    isSharedCore (some r) (r ++ comps) = true ↔
      (comps.length = 1 ∨ comps.length = 2 ∨ (r = [] ∧ comps = [])) :=
  isSharedCore_append r comps

/-- … and it never answers `True` for a directory that is not below the root. -/
theorem is_shared_core_only_below_root (r d : Path) (h : isSharedCore (some r) d = true) :
    ∃ comps, d = r ++ comps ∧ comps.length ≤ 2 :=
  isSharedCore_prefix r d h

/-- `is_shared_core_depth` for a proper project root: exactly depth 1 or 2. -/
theorem is_shared_core_depth_proper (r comps : Path) (hr : r ≠ []) :
    isSharedCore (some r) (r ++ comps) = true ↔ (comps.length = 1 ∨ comps.length = 2) := by
  simp only [is_shared_core_depth, hr, false_and, or_false]

example : (["srv".toList, "proj".toList] : Path) ≠ [] := by decide

/-- The old heuristic ALONE (`isSharedCore`, still the first test of the code) is not complete: concrete layouts `proj/core`, `proj/a/core` (recognised) and
    `proj/x/y/core`, `proj/x/y/z/core` (core packages `x.y.core`, `x.y.z.core`: NOT recognised). -/
theorem is_shared_core_depth3_counterexample :
    let root : Path := ["srv".toList, "proj".toList]
    isSharedCore (some root) (root ++ ["core".toList]) = true ∧
    isSharedCore (some root) (root ++ ["a".toList, "core".toList]) = true ∧
    isSharedCore (some root) (root ++ ["x".toList, "y".toList, "core".toList]) = false ∧
    isSharedCore (some root) (root ++ ["x".toList, "y".toList, "z".toList, "core".toList]) = false ∧
    isSharedCore (some root) root = false := by
  decide +kernel

/-- Every depth ≥ 3 is rejected. -/
theorem is_shared_core_deep_false (r comps : Path) (h : 3 ≤ comps.length) :
    isSharedCore (some r) (r ++ comps) = false := by
  rw [← Bool.not_eq_true, is_shared_core_depth]
  rintro (h1 | h1 | ⟨_, rfl⟩)
  · omega
  · omega
  · exact absurd h (by decide)

/-! ## `_is_shared_core(core_dir, client_package_name)` since the repair of F22 -/

/-- COMPLETE: whenever the core directory is neither the directory of the client package being generated nor inside it, the emitter
    takes the registry path - at EVERY depth (`x.y.core`, `x.y.z.core`, …), for every project root. -/
theorem is_shared_core_complete (r coreDir : Path) (c : Str) (cs : Path)
    (h : (r ++ (c :: cs)).isPrefixOf coreDir = false) : isSharedCoreFor (some r) coreDir (some (c :: cs)) = true := by
  simp [isSharedCoreFor, h]

/-- … and it still answers `True` wherever the old heuristic did. -/
theorem is_shared_core_for_extends (root : Option Path) (d : Path) (cl : Option Path) (h : isSharedCore root d = true) :
    isSharedCoreFor root d cl = true := by
  cases root with
  | none => simp [isSharedCore] at h
  | some r =>
    simp only [isSharedCore, Bool.or_eq_true] at h
    simp only [isSharedCoreFor, Bool.or_eq_true]
    exact Or.inl h

/-- A core package EMBEDDED three or more levels deep in its own client package is (still) not a shared core. -/
theorem embedded_deep_core_not_shared (r : Path) (c : Str) (cs rest : Path) (h : 3 ≤ (c :: cs).length + rest.length) :
    isSharedCoreFor (some r) (r ++ ((c :: cs) ++ rest)) (some (c :: cs)) = false := by
  have hp : (r ++ (c :: cs)).isPrefixOf (r ++ ((c :: cs) ++ rest)) = true := by
    rw [List.isPrefixOf_iff_prefix, ← List.append_assoc]; exact List.prefix_append _ _
  have hold := is_shared_core_deep_false r ((c :: cs) ++ rest) (by rw [List.length_append]; exact h)
  simp only [isSharedCore, Bool.or_eq_false_iff] at hold
  unfold isSharedCoreFor
  simp only [hold.1, hold.2, hp, Bool.not_true, Bool.or_self]

/-- The layouts of the former counterexample: `proj/x/y/core` and `proj/x/y/z/core` shared by clients `client_a`, `x.y.api`. -/
theorem is_shared_core_deep_layouts :
    let root : Path := ["srv".toList, "proj".toList]
    isSharedCoreFor (some root) (root ++ ["x".toList, "y".toList, "core".toList]) (some ["client_a".toList]) = true ∧
    isSharedCoreFor (some root) (root ++ ["x".toList, "y".toList, "z".toList, "core".toList]) (some ["x".toList, "y".toList, "api".toList]) = true ∧
    isSharedCoreFor (some root) (root ++ ["pkg".toList, "client".toList, "core".toList]) (some ["pkg".toList, "client".toList]) = false := by
  decide +kernel

end Pog.C11
