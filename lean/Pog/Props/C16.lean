import Pog.Lemmas.ConvEnc
import Pog.Lemmas.ConvSerTerm
/-
  C16 — the bundled converter round-trips dataclasses; the convenience serialiser is total and JSON-safe.

  FULL STATEMENT: for any dataclass type, with or without wire-key maps, nested arbitrarily through lists,
  dicts, optionals and other dataclasses and using the supported leaf types, decoding then encoding a
  conforming JSON value returns that value and encoding then decoding an instance returns an equal
  instance; decoding failures are reported as ValueError naming the offending field.  The convenience
  serialiser terminates on object graphs that contain reference cycles and always returns
  JSON-serialisable data without null-valued keys.

  The theorems are about the model `Pog.Model.Conv` / `Pog.Model.ConvSer` of core/cattrs_converter.py and
  `DataclassSerializer` (tied to the code by vf/corr/conv.py).  Proved in full for the union-free fragment: both
  round-trip laws (`decode_encode`, also through the public entry points, and `encode_decode` for lawful leaf codecs),
  independence of the order of hook registration, and that a failing field of a dict payload is named; the serializer
  returns no `None`-valued key and terminates on every object graph, cyclic or not.  FALSE of the code: below an
  `Optional[...]` / union field the inner path of an error is lost (`error_path_through_optional_counterexample`).
  JSON-safety of the serializer is not proved in general (the model keeps `bytearray` and ill-typed attribute values
  that cattrs passes through); the `_former_witness` theorems are the recorded defects F10, F26, F48 after their repair.
-/
namespace Pog.C16
open Pog

/-- For well-formed declarations (distinct field names, distinct wire keys, dump map inverse to load map) whose
    unstructure hooks are registered, every codec, every depth budget `n`, every type `t` and every JSON
    document `j` that conforms to `t` (union-free; leaves spelled canonically; checked to depth `n`):
    structuring succeeds and unstructuring the result by the declared type gives `normaliseF n decls t j`,
    i.e. `j` with the absent defaulted properties filled in.  No law about the codecs is needed here: a
    conforming leaf IS a fixpoint of decode-then-encode (`LeafCodec.canon`); `canon_of_lawful` shows that a
    lawful codec's own output always is. -/
theorem decode_encode (c : Codecs) (n : Nat) (reg : List Str) (decls : Decls) (t : Ty) (j : JsonV)
    (hwf : declsOk decls = true) (hreg : allRegistered reg decls = true)
    (hconf : conformsF c n decls t j = true) :
    ∃ v, structF c n decls t j = .ok v ∧ unstrF c n reg decls (some t) v = .ok (normaliseF n decls t j) := by
  obtain ⟨v, h1, h2, _⟩ := roundtrip_core c reg decls hwf hreg n t j hconf
  exact ⟨v, h1, h2⟩

/-- A lawful codec's encoder output is canonical, so every JSON produced by encoding a valid leaf value
    is accepted by `conformsF`. -/
theorem canon_of_lawful (c : LeafCodec) (hl : c.Lawful) (v : Str) (hv : c.Valid v) : c.canon (c.encode v) = true := by
  obtain ⟨s, hs⟩ := hv
  simp [LeafCodec.canon, hl s v hs]

/-- Through the public entry points: `structure_from_dict(j, C)` then `unstructure_to_dict(·)`.  The hypothesis
    on the registry is about the registry the call itself computes (`regTy`: the classes reachable from `C`)
    — it holds when the declaration table lists only classes reachable from `C`, whatever was registered before. -/
theorem decode_encode_top (c : Codecs) (n : Nat) (reg : List Str) (decls : Decls) (name : Str) (j : JsonV)
    (hwf : declsOk decls = true)
    (hreg : allRegistered ((regTy n decls [] (.dc name)).foldl insertName reg) decls = true)
    (hconf : conformsF c n decls (.dc name) j = true) :
    roundtrip c n reg decls (.dc name) j = .ok (.ok (normaliseF n decls (.dc name) j)) := by
  obtain ⟨v, h1, h2⟩ := decode_encode c n _ decls (.dc name) j hwf hreg hconf
  obtain ⟨fs, rfl⟩ := structF_dc_ok_inst c n decls name j v h1
  simp only [roundtrip, structureFromDict, h1, unstructureToDict, unstrF, h2]

/-! ### the hypotheses are satisfiable: a nested example with `Meta` maps, every container kind, a datetime -/

def H : ClassDecl :=
  { fields := [⟨"z".toList, .leaf .int, .required⟩, ⟨"w".toList, .optional (.leaf .int), .none⟩],
    loadMap := none, dumpMap := none }
def C : ClassDecl :=
  { fields := [⟨"a".toList, .leaf .int, .required⟩, ⟨"when".toList, .leaf .datetime, .required⟩,
               ⟨"b_".toList, .optional (.leaf .str), .none⟩, ⟨"c".toList, .list (.leaf .int), .list⟩,
               ⟨"d".toList, .optional (.dc "H".toList), .none⟩, ⟨"f".toList, .dict (.dc "H".toList), .dict⟩,
               ⟨"g".toList, .list (.dc "H".toList), .list⟩, ⟨"m".toList, .optional (.dict .any), .none⟩],
    loadMap := some [("b".toList, "b_".toList), ("A".toList, "a".toList), ("class".toList, "c".toList)],
    dumpMap := some [("b_".toList, "b".toList), ("a".toList, "A".toList), ("c".toList, "class".toList)] }
def decls : Decls := [("H".toList, H), ("C".toList, C)]

def doc : JsonV :=
  .obj [("when".toList, .str "2020-01-01T00:00:00+00:00".toList), ("A".toList, .int 1),
        ("d".toList, .obj [("z".toList, .int 5)]),
        ("g".toList, .arr [.obj [("w".toList, .int 2), ("z".toList, .int 1)]]),
        ("m".toList, .obj [("k".toList, .arr [.int 1, .null])])]

example : declsOk decls = true := by decide +kernel
example : allRegistered ((regTy 6 decls [] (.dc "C".toList)).foldl insertName []) decls = true := by decide +kernel
example : conformsF Codecs.exec 6 decls (.dc "C".toList) doc = true := by decide +kernel

/-- … and what comes back: keys in declaration order, the absent `b`, `class`, `f`, `w` filled in. -/
example : roundtrip Codecs.exec 6 [] decls (.dc "C".toList) doc = .ok (.ok (
    .obj [("A".toList, .int 1), ("when".toList, .str "2020-01-01T00:00:00+00:00".toList), ("b".toList, .null),
          ("class".toList, .arr []), ("d".toList, .obj [("z".toList, .int 5), ("w".toList, .null)]),
          ("f".toList, .obj []), ("g".toList, .arr [.obj [("z".toList, .int 1), ("w".toList, .int 2)]]),
          ("m".toList, .obj [("k".toList, .arr [.int 1, .null])])])) := by decide +kernel

/-- For well-formed, registered declarations and LAWFUL leaf codecs (every decodable value is recovered from its own
    encoding): a value that is well typed for `t` (`HasTypeF`: fields hold values of their annotated types, `Optional`
    fields `None` or a value, leaf values are ones the codec can produce) unstructures to some JSON `j`, and structuring
    `j` gives the value back. -/
theorem encode_decode (c : Codecs) (hl : c.Lawful) (n : Nat) (reg : List Str) (decls : Decls) (t : Ty) (v : Val)
    (hwf : declsOk decls = true) (hreg : allRegistered reg decls = true)
    (hty : HasTypeF c n decls t v) :
    ∃ j, unstrF c n reg decls (some t) v = .ok j ∧ structF c n decls t j = .ok v := by
  obtain ⟨j, h1, h2, _⟩ := encdec_core c hl reg decls hwf hreg n t v hty
  exact ⟨j, h1, h2⟩

/-- The hypothesis on the codecs is satisfiable: the executable codecs of the driver are lawful. -/
example : Codecs.exec.Lawful := exec_lawful

/-- A well-typed instance: `H(z=5, w=None)`, and a list of them inside an `Optional`. -/
example : HasTypeF Codecs.exec 4 decls (.optional (.list (.dc "H".toList)))
    (.list [.inst "H".toList [("z".toList, .int 5), ("w".toList, .none)]]) := by
  refine ⟨rfl, Or.inr ⟨by simp, rfl, _, rfl, ?_⟩⟩
  intro x hx
  simp only [List.mem_singleton] at hx
  subst hx
  refine ⟨rfl, H, rfl, by decide, fun f => if f.pyName = "z".toList then .int 5 else .none, by decide, ?_⟩
  intro f hf
  simp only [H, List.mem_cons, List.not_mem_nil, or_false] at hf
  rcases hf with rfl | rfl
  · exact ⟨rfl, 5, rfl⟩
  · exact ⟨rfl, Or.inl rfl⟩

/-- Hooks are registered per class with the predicate `t is cls`, so they never shadow one another: the result of
    unstructuring depends on the registry only as a SET — not on the order in which classes were registered, nor on
    how often (`unstructure_to_dict` re-registers on every call).  Structuring does not depend on the registry at all:
    `structure_from_dict` registers every class reachable from the target type before it structures (`structF` has no
    registry argument; vf/corr/conv.py drives the real converter with shuffled declaration tables and arbitrary earlier
    calls, and compares the order `regTy` predicts with the order the converter registered). -/
theorem hook_registration_order_irrelevant (c : Codecs) (n : Nat) (decls : Decls) (reg1 reg2 : List Str)
    (t : Option Ty) (v : Val) (h : ∀ x, reg1.contains x = reg2.contains x) :
    unstrF c n reg1 decls t v = unstrF c n reg2 decls t v := by
  induction n generalizing t v with
  | zero => rfl
  | succ n ih =>
    -- the registry is consulted in one place only, `reg.contains name` of the dataclass case
    have ihf : ∀ t, unstrF c n reg1 decls t = unstrF c n reg2 decls t := fun t => funext (ih t)
    cases t with
    | none => cases v <;> simp only [unstrF, ihf]
    | some t =>
      cases t <;> simp only [unstrF, ihf, h]
      all_goals (first | rfl | (split <;> simp only [ihf, h]))

/-- Every failure of `structure_from_dict` is a `ValueError`: `structureFromDict` has a single error type
    (`TopErr`, the text of that ValueError).  For a dict payload of a dataclass: the call fails iff some field
    fails (its value does not decode, or it is required and missing); the message is then the bulleted
    list, and every bullet's path starts with the PYTHON attribute name of a failing field. -/
theorem error_names_field (c : Codecs) (n : Nat) (decls : Decls) (name : Str) (cd : ClassDecl)
    (kvs : List (Str × JsonV)) (hcd : aget decls name = some cd)
    (hres : cd.fields.all (fun f => resolvable f.ty) = true) :
    structureFromDict c (n + 1) decls (.dc name) (.obj kvs) =
        (if (cd.fields.filterMap (fieldError (structF c n decls) cd kvs)).isEmpty
         then .ok (.inst name (cd.fields.filterMap (fieldValue (structF c n decls) cd kvs)))
         else .error ⟨true, extractCls (cd.fields.filterMap (fieldError (structF c n decls) cd kvs)) []⟩)
    ∧ ∀ pk ∈ extractCls (cd.fields.filterMap (fieldError (structF c n decls) cd kvs)) [],
        ∃ fe ∈ cd.fields.filterMap (fieldError (structF c n decls) cd kvs), fe.1 <+: pk.1 := by
  refine ⟨?_, ?_⟩
  · simp only [structureFromDict, structF_dc, structClass_obj _ decls name cd kvs hcd hres]
    by_cases he : (cd.fields.filterMap (fieldError (structF c n decls) cd kvs)).isEmpty = true
    · simp only [he, if_true]
    · simp only [he, if_false, topErr, extractErrors, Bool.false_eq_true]
  · intro pk hpk
    obtain ⟨fe, hfe, hp⟩ := extractCls_paths _ pk hpk
    exact ⟨fe, hfe, extractErrors_prefix fe.2 fe.1 pk hp⟩

/-- A failing field is one of the class's fields, reported under its python name with the error its own
    decoding produced (or `KeyError(<wire key>)` when a required key is missing). -/
theorem error_entry_is_field (rec : Ty → JsonV → Except SErr Val) (cd : ClassDecl) (kvs : List (Str × JsonV))
    (fe : Str × SErr) (h : fe ∈ cd.fields.filterMap (fieldError rec cd kvs)) :
    ∃ f ∈ cd.fields, fe.1 = f.pyName ∧ fieldOutcome rec cd kvs f = some (.error fe.2) := by
  obtain ⟨f, hf, he⟩ := List.mem_filterMap.mp h
  refine ⟨f, hf, ?_⟩
  unfold fieldError at he
  split at he
  · cases he; exact ⟨rfl, by assumption⟩
  · cases he

/-- Example: two bad fields and a bad list item — all three are named (`a`, `c[]`, `h.z`); the python name `a` is
    used, not the wire key `A`; the list index is not reported. -/
example : structureFromDict Codecs.exec 6
    [("H".toList, H), ("C".toList, { C with fields := C.fields ++ [⟨"h".toList, .dc "H".toList, .none⟩] })]
    (.dc "C".toList)
    (.obj [("A".toList, .str "x".toList), ("when".toList, .str "2020-01-01T00:00:00".toList),
           ("class".toList, .arr [.int 1, .str "y".toList]), ("h".toList, .obj [("z".toList, .str "q".toList)])])
    = .error ⟨true, [("a".toList, .numLiteral), ("c[]".toList, .numLiteral), ("h.z".toList, .numLiteral)]⟩ := by
  decide +kernel

/-- ✗ FULL STATEMENT (false): the message names the offending field WITH ITS PATH.
    Witness: `C.d : Optional[H]`, payload `{"A": 1, "when": …, "d": {"z": "q"}}`.  The offending field is `d.z`;
    the message is `d: Could not structure dict into any variant of Optional[H] …` — `Optional` goes through
    `_structure_union`, which flattens the inner `ClassValidationError` to its one-line `str()`.  The same
    payload under a NON-optional field `h : H` reports `h.z`. -/
theorem error_path_through_optional_counterexample :
    structureFromDict Codecs.exec 6 decls (.dc "C".toList)
      (.obj [("A".toList, .int 1), ("when".toList, .str "2020-01-01T00:00:00".toList),
             ("d".toList, .obj [("z".toList, .str "q".toList)])])
      = .error ⟨true, [("d".toList, .unionNoVariant)]⟩ := by
  decide +kernel

/-- Every dict anywhere in the value returned by `DataclassSerializer.serialize` is free of `None` values —
    for every heap (cyclic or not), every root, every registry, every budget. -/
theorem serializer_no_null_keys (c : Codecs) (fuel : Nat) (heap : Heap) (decls : Decls) (reg : List Str) (root : HVal)
    (out : PV) (reg' : List Str) (h : serialize c fuel heap decls reg root = .ok (out, reg')) :
    out.noNullKeys = true :=
  serF_track_noNull c fuel heap decls [] reg root out reg' h

/-- (`None` ITEMS of lists are kept: the guarantee is about keys only.) -/
example : serialize Codecs.exec 5 [(0, .list [.none, .int 1, .ref 1]), (1, .dict [("a".toList, .none)])] [] []
    (.ref 0) = .ok (.arr [.null, .int 1, .obj []], []) := by decide +kernel

/-- `serializer_terminates`: for EVERY heap (cyclic or not), every root, every declaration table and every hook registry
    some budget suffices — the call returns a result or a Python exception other than RecursionError.  (Every container
    the walk enters — by the serializer's own recursion or inside cattrs, behind the cycle guard — is added to the one
    `visited` set and never entered again while it is there; the heap has finitely many objects.) -/
theorem serializer_terminates (c : Codecs) (heap : Heap) (decls : Decls) (root : HVal) :
    ∃ N, ∀ fuel, N ≤ fuel → ∀ reg, serialize c fuel heap decls reg root ≠ .error .fuel :=
  serF_ev_all c heap decls _ [] (Nat.lt_succ_self _) root

/-- The former first witness against termination (F26, repaired): two instances of `class N: name: str; nxt: Optional[N]`
    referencing each other, the annotation resolved to the class.  cattrs follows `nxt` itself — now behind the guard:
    the back reference from `b` to `a` becomes `None` and is dropped, exactly as for the unresolved annotation below. -/
theorem serializer_terminates_former_witness :
    serialize Codecs.exec 8 cycle2 (nodeDecls true) [] (.ref 0)
      = .ok (.obj [("name".toList, .str "a".toList), ("nxt".toList, .obj [("name".toList, .str "b".toList)])],
             ["N".toList]) := by decide +kernel

/-- A shared, acyclic graph is serialised in full, every occurrence: `[s, s]` with `s = N("s")` (the guard holds the
    objects that are being unstructured, not the ones that have been). -/
example : serialize Codecs.exec 8
    [(0, .list [.ref 1, .ref 1]), (1, .inst "N".toList [("name".toList, .str "s".toList), ("nxt".toList, .none)])]
    (nodeDecls true) [] (.ref 0)
    = .ok (.arr [.obj [("name".toList, .str "s".toList)], .obj [("name".toList, .str "s".toList)]], ["N".toList]) := by decide +kernel

/-- The SAME two objects when the annotation is the unresolved forward reference `Optional["N"]` (what the generator
    emits for self references): cattrs passes `b` through unchanged, `_ensure_all_dicts` serialises it with the
    shared `visited` set, the back reference becomes `None` and is dropped. -/
example : serialize Codecs.exec 8 cycle2 (nodeDecls false) [] (.ref 0)
    = .ok (.obj [("name".toList, .str "a".toList), ("nxt".toList, .obj [("name".toList, .str "b".toList)])],
           ["N".toList]) := by decide +kernel

/-- A list that contains itself is cut as well: `[1, <itself>]` ↦ `[1, None]`. -/
example : serialize Codecs.exec 8 [(0, .list [.int 1, .ref 0])] [] [] (.ref 0) = .ok (.arr [.int 1, .null], []) := by decide +kernel

/-- The former second witness (F26, repaired): a dict that contains itself (`d = {}; d["x"] = d`).  The inner
    occurrence becomes `None`, and `None`-valued entries are dropped.  (A dict nested in a field is cut by the guard
    inside cattrs, a root dict — since the repair of F48 — by the serializer's own tracked recursion.) -/
theorem serializer_dict_cycle_former_witness :
    serialize Codecs.exec 8 dictSelf [] [] (.ref 0) = .ok (.obj [], []) := by decide +kernel

/-- The former third witness (F26, repaired): an instance that references itself through an `Any`-typed field
    (`class A: other: Any`, `a.other = a`). -/
theorem serializer_any_cycle_former_witness :
    serialize Codecs.exec 8 anySelf anyDecls [] (.ref 0) = .ok (.obj [], ["A".toList]) := by decide +kernel

/-- The former first witness against JSON safety (F10, repaired).  `class U: u: UUID` — the converter used to have no
    unstructure hook for `UUID` (C03): the object was passed through and `json.dumps` rejected the result.  With the hook
    the value is written as its canonical string and the result is JSON. -/
theorem serializer_json_safe_former_witness :
    ∃ out reg', serialize Codecs.exec 5
        [(0, .inst "U".toList [("u".toList, .uuid "123e4567-e89b-12d3-a456-426614174000".toList)])]
        [("U".toList, { fields := [⟨"u".toList, .leaf .uuid, .required⟩], loadMap := none, dumpMap := none })] []
        (.ref 0) = .ok (out, reg')
      ∧ out.toJson? = some (.obj [("u".toList, .str "123e4567-e89b-12d3-a456-426614174000".toList)]) := by
  -- the long literals as character lists first: evaluating `"…".toList` costs far more than the rest of the check
  repeat rw [String.toList_ofList]
  exact ⟨_, _, rfl, rfl⟩

/-- The former second witness against JSON safety (F48, repaired) — no cycle, no exotic leaf:
    `class Node: name: str; children: List["Node"]` (a self reference as the generator writes it) held by a DICT.  The
    dict used to take the "everything else" branch (cattrs on the whole dict, no `_ensure_all_dicts`) and the children
    stayed live `Node` instances.  Now the value goes through `_serialize_with_tracking` like a list item: the result is
    plain data, and the same as `serialize(node)` gives under the key. -/
theorem serializer_dict_leak_former_witness :
    let Node : ClassDecl := { fields := [⟨"name".toList, .leaf .str, .required⟩,
                                         ⟨"children".toList, .list (.fwd "Node".toList), .list⟩],
                              loadMap := none, dumpMap := none }
    let heap : Heap := [(0, .dict [("k".toList, .ref 1)]),
                        (1, .inst "Node".toList [("name".toList, .str "root".toList), ("children".toList, .ref 2)]),
                        (2, .list [.ref 3]),
                        (3, .inst "Node".toList [("name".toList, .str "kid".toList), ("children".toList, .ref 4)]),
                        (4, .list [])]
    serialize Codecs.exec 6 heap [("Node".toList, Node)] [] (.ref 0)
        = .ok (.obj [("k".toList, .obj [("name".toList, .str "root".toList),
                                        ("children".toList, .arr [.obj [("name".toList, .str "kid".toList),
                                                                        ("children".toList, .arr [])]])])],
               ["Node".toList])
    ∧ (serialize Codecs.exec 6 heap [("Node".toList, Node)] [] (.ref 0)).toOption.map (fun r => r.1.toJson?.isSome) = some true
    ∧ (serialize Codecs.exec 6 heap [("Node".toList, Node)] [] (.ref 0)).toOption.map (fun r => r.1)
        = (serialize Codecs.exec 6 heap [("Node".toList, Node)] [] (.ref 1)).toOption.map
            (fun r => PV.obj [("k".toList, r.1)]) := by
  decide +kernel

/-- The former witness of registry dependence (F48, repaired).  `serialize({"k": R(my_f=1)})` used to give
    `{"k": {"my_f": 1}}` when `R`'s hook had never been registered and `{"k": {"myF": 1}}` afterwards (the dict was
    unstructured without registering anything).  The instance inside the dict now registers its class like any other:
    the wire name in both histories. -/
theorem serializer_registry_dependent_former_witness :
    let R : ClassDecl := { fields := [⟨"my_f".toList, .leaf .int, .required⟩],
                           loadMap := some [("myF".toList, "my_f".toList)], dumpMap := some [("my_f".toList, "myF".toList)] }
    let heap : Heap := [(0, .dict [("k".toList, .ref 1)]), (1, .inst "R".toList [("my_f".toList, .int 1)])]
    serialize Codecs.exec 6 heap [("R".toList, R)] [] (.ref 0)
        = .ok (.obj [("k".toList, .obj [("myF".toList, .int 1)])], ["R".toList])
    ∧ serialize Codecs.exec 6 heap [("R".toList, R)] ["R".toList] (.ref 0)
        = .ok (.obj [("k".toList, .obj [("myF".toList, .int 1)])], ["R".toList]) := by
  decide +kernel

end Pog.C16
