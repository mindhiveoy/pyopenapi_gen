import Pog.Props.C02
import Pog.Lemmas.Simple2Dec
/-
  C02 / C19 on the fragment `Simple2 ⊇ Simple` (Pog/Lemmas/ParserFragments.lean), which adds

    * properties that are ARRAYS of a plain primitive or of a `$ref` to a declared schema,
    * properties that are MAPS (`{type: object, additionalProperties: <primitive | $ref>}`, no `properties`),
    * declared (top-level) schemas that are themselves an array of a primitive / of a `$ref`, or a plain
      primitive alias (`{type: string}`); such a schema has no fields, and `$ref`s to it are kind `.ref`.

  The theorems are about the `Faithful` of Pog/Model/ParserSpec.lean; `Kind` has no map constructor: a map property is
  `.obj` on both sides (`nodeKind (.obj _ _ _) = .obj`; the model's reference holder → registered `<Parent><Prop>`
  object of type `object` reads as `.obj`), so the value type of a map is not compared.

  Side conditions of `Simple2` beyond `Simple` (all decidable, see `invDecls_simple2`):
    cost      `rank` must leave room for the anonymous levels: an array / a map of `$ref t` needs
              `rank t + 3 ≤ rank owner` (array node, anonymous `$ref` node, target), an array / a map of a primitive
              needs `1 ≤ rank owner`; a top-level array of `$ref t` needs `rank t + 2 ≤ rank owner`
    ctxFresh  the context name `mapCtx owner key` (`<Owner><Key>`, or `<Key>` when it already starts with the
              owner's name) of a map property is not a declared name and is class-cased
    ctxInj    different map properties have different context names
  The two counterexamples at the end show what happens without `ctxFresh` and without the cost of a map.
-/
namespace Pog.C02b
open Pog Pog.Prs Pog.Trk Pog.C02

/-- `Simple ⊆ Simple2` (same `rank`). -/
theorem simple_imp_simple2 (decls : Decls) (rank : Str → Nat) (hS : Simple decls rank) : Simple2 decls rank :=
  hS.toSimple2

/-- On the fragment `Simple2 decls rank`
    * every declared schema is an object `{type: object, properties, required}` whose property nodes are plain
      primitives, `$ref`s to declared schemas, arrays of either, or maps (`additionalProperties`) of either —
      or it is itself an array of a primitive / `$ref`, or a plain primitive;
    * names non-empty, pairwise different, class-cased; property keys non-empty, pairwise different;
    * `rank` bounds the nesting below every schema (`Simple2.cost`: one level per named schema AND per anonymous
      node — the items node of an array is an anonymous `_parse_schema` call, a `$ref` inside it another one);
    * the context names under which map properties are parsed and registered are fresh and pairwise different;
    and with `rank n + 1 ≤ maxDepth` and the fuel, loading succeeds and EVERY declared name is `Faithful`. -/
theorem parse_faithful_partial2 (decls : Decls) (rank : Str → Nat) (hS : Simple2 decls rank) (maxDepth F : Nat)
    (hF : ∀ d ∈ decls, rank d.1 < F) (hD : ∀ d ∈ decls, rank d.1 + 1 ≤ maxDepth) :
    (buildSchemas maxDepth (F + 1) decls).oom = false ∧
    missing decls (buildSchemas maxDepth (F + 1) decls) = [] ∧
    ∀ d ∈ decls, Faithful decls (buildSchemas maxDepth (F + 1) decls) d.1 :=
  buildSchemas_faithful3 hS.toSimple3 maxDepth F hF hD

/-- C19: on `Simple2` the declaration order is irrelevant to the declared schemas — both
    orders load without error and every declared name has the same set of fields. -/
theorem parse_perm_invariant_partial2 (d d' : Decls) (rank : Str → Nat) (hp : d.Perm d') (hS : Simple2 d rank)
    (maxDepth F : Nat) (hF : ∀ x ∈ d, rank x.1 < F) (hD : ∀ x ∈ d, rank x.1 + 1 ≤ maxDepth) :
    missing d (buildSchemas maxDepth (F + 1) d) = [] ∧ missing d' (buildSchemas maxDepth (F + 1) d') = [] ∧
    ∀ x ∈ d, ∃ fs fs', modelFields d (buildSchemas maxDepth (F + 1) d) x.1 = some fs ∧
      modelFields d' (buildSchemas maxDepth (F + 1) d') x.1 = some fs' ∧ ∀ f, f ∈ fs ↔ f ∈ fs' :=
  buildSchemas_perm_invariant3 d d' rank hp hS.toSimple3 maxDepth F hF hD

def cMap (a : Node) : Node := .obj none [] (some a)

/-- an inventory document: arrays of primitives / of `$ref`s, maps of primitives / of `$ref`s, a `$ref` to a
    top-level array, top-level arrays and a primitive alias -/
def invDecls : Decls :=
  [("Order".toList, .obj (some [("id".toList, .prim .integer false),
        ("tags".toList, .arr (.prim .string false)),
        ("lines".toList, .arr (cRef "Line")),
        ("meta".toList, cMap (.prim .string false)),
        ("byName".toList, cMap (cRef "Line")),
        ("first".toList, cRef "Line"),
        ("labels".toList, cRef "Labels")]) ["id".toList, "lines".toList] none),
   ("Line".toList, .obj (some [("sku".toList, cRef "Sku"), ("attrs".toList, cMap (.prim .integer false))])
                     ["sku".toList] none),
   ("Labels".toList, .arr (.prim .string false)),
   ("Lines".toList, .arr (cRef "Line")),
   ("Sku".toList, .prim .string false)]

def invRank (n : Str) : Nat :=
  if n = "Order".toList then 4 else if n = "Lines".toList then 3 else if n = "Line".toList then 1 else 0

/-- the document is in `Simple2` … -/
theorem invDecls_simple2 : Simple2 invDecls invRank ∧ (∀ d ∈ invDecls, invRank d.1 < 5) ∧
    (∀ d ∈ invDecls, invRank d.1 + 1 ≤ 150) := by
  decide +kernel

/-- … and not in `Simple` (whatever the rank) -/
theorem simple2_strict : ∀ rank, ¬ Simple invDecls rank := by
  intro rank h
  have := h.node ("Order".toList, _) (List.mem_cons_self ..)
  revert this
  decide

/-- the model evaluated on it: no error, every schema faithful (this is what `parse_faithful_partial2` proves
    for it, here checked by evaluation); `Order` has an array-of-primitive, an array-of-`$ref`, two map
    properties -/
example : let s := buildSchemas 150 6 invDecls
    s.oom = false ∧ missing invDecls s = [] ∧ (∀ d ∈ invDecls, Faithful invDecls s d.1) ∧
    modelFields invDecls s "Order".toList = some
      [⟨"id".toList, true, .prim .integer⟩, ⟨"tags".toList, false, .arr (.prim .string)⟩,
       ⟨"lines".toList, true, .arr (.ref "Line".toList)⟩, ⟨"meta".toList, false, .obj⟩,
       ⟨"byName".toList, false, .obj⟩, ⟨"first".toList, false, .ref "Line".toList⟩,
       ⟨"labels".toList, false, .ref "Labels".toList⟩] := by
  decide +kernel

example : ∀ d ∈ invDecls, Faithful invDecls (buildSchemas 150 6 invDecls) d.1 :=
  (parse_faithful_partial2 invDecls invRank invDecls_simple2.1 150 5 invDecls_simple2.2.1 invDecls_simple2.2.2).2.2

example : invDecls.Perm invDecls.reverse := (List.reverse_perm _).symm

example : ∀ d ∈ invDecls, Faithful invDecls.reverse (buildSchemas 150 6 invDecls.reverse) d.1 :=
  fun d hd => (buildSchemas_faithful3
    (invDecls_simple2.1.toSimple3.perm (List.reverse_perm _).symm) 150 5
    (fun x hx => invDecls_simple2.2.1 x (List.mem_reverse.mp hx))
    (fun x hx => invDecls_simple2.2.2 x (List.mem_reverse.mp hx))).2.2 d (List.mem_reverse.mpr hd)

/-- When the driver's `inFragment2 maxDepth fuel decls ranks` answers `true`, the run
    `buildSchemas maxDepth fuel decls` it performs next neither runs out of fuel nor raises, and every declared
    name is `Faithful`.  (The harness marks every failure of the REAL loader on such a document as
    `UNEXPECTED-in-proved-fragment`: it would contradict this theorem or the model/code correspondence.) -/
theorem inFragment2_sound (maxDepth fuel : Nat) (decls : Decls) (rs : List (Str × Nat))
    (h : inFragment2 maxDepth fuel decls rs = true) :
    (buildSchemas maxDepth fuel decls).oom = false ∧
    missing decls (buildSchemas maxDepth fuel decls) = [] ∧
    ∀ d ∈ decls, Faithful decls (buildSchemas maxDepth fuel decls) d.1 := by
  unfold inFragment2 at h
  simp only [Bool.and_eq_true, decide_eq_true_eq, List.all_eq_true] at h
  exact buildSchemas_faithful3_of_lt h.1.1.toSimple3 h.1.2 h.2

/-- non-vacuity: the decision procedure accepts the example document (and rejects it at a depth limit that is too small) -/
example : inFragment2 150 6 invDecls (invDecls.map (fun d => (d.1, invRank d.1))) = true := by decide +kernel
example : inFragment2 3 6 invDecls (invDecls.map (fun d => (d.1, invRank d.1))) = false := by
  unfold inFragment2
  exact Bool.and_eq_false_iff.mpr (Or.inr (by decide +kernel))

/-- ✗ `Simple2.ctxFresh`.  The map property `Order.meta` is parsed under the name `OrderMeta` and REGISTERED in
    `parsed_schemas` under it (schema_parser.py `_parse_properties` → `_parse_schema(schema_name_for_parsing, …)`
    → registration at the end of `_parse_schema`).  A DECLARED schema `OrderMeta` later in the document is then
    "already registered": `build_schemas` skips it and it keeps the map object — zero fields instead of `code`.
    (Same defect class as `C02.parse_faithful_inline_named_like_schema_counterexample`, reached through a map.) -/
theorem parse_faithful_map_ctx_counterexample :
    let d : Decls := [("Order".toList, cObj [("meta", cMap (.prim .string false))]),
                      ("OrderMeta".toList, cObj [("code", .prim .string false)])]
    let s := buildSchemas 150 30 d
    s.oom = false ∧ missing d s = [] ∧
    modelFields d s "OrderMeta".toList = some [] ∧
    specFields d "OrderMeta".toList = [⟨"code".toList, false, .prim .string⟩] ∧
    ¬ Faithful d s "OrderMeta".toList ∧
    -- and `Order.meta` reads as a reference to the declared schema, not as a map
    modelFields d s "Order".toList = some [⟨"meta".toList, false, .ref "OrderMeta".toList⟩] ∧
    ¬ Faithful d s "Order".toList ∧
    -- declared in the opposite order `OrderMeta` is parsed first and is faithful, `Order.meta` still is not
    Faithful d.reverse (buildSchemas 150 30 d.reverse) "OrderMeta".toList ∧
    ¬ Faithful d.reverse (buildSchemas 150 30 d.reverse) "Order".toList := by
  decide +kernel

/-- ✗ `Simple2.cost` for maps.  A map property is a NAMED `_parse_schema` call, so it is subject to the depth
    test; an array of primitives is an anonymous one and is not.  At `PYOPENAPI_MAX_DEPTH = 1`: -/
theorem parse_faithful_map_depth_counterexample :
    let dm : Decls := [("Order".toList, cObj [("meta", cMap (.prim .string false))])]
    let da : Decls := [("Order".toList, cObj [("tags", .arr (.prim .string false))])]
    ¬ Faithful dm (buildSchemas 1 30 dm) "Order".toList ∧
    modelFields dm (buildSchemas 1 30 dm) "Order".toList = some [⟨"meta".toList, false, .ref "OrderMeta".toList⟩] ∧
    Faithful da (buildSchemas 1 30 da) "Order".toList ∧
    Faithful dm (buildSchemas 2 30 dm) "Order".toList := by
  decide +kernel

end Pog.C02b
