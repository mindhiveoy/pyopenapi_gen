import Pog.Props.C02d
/-
  C02, own `properties` NEXT TO `allOf` (`{allOf: […], properties: {…}, required: […]}`) – NOT covered by
  `C02c.parse_faithful_partial3` (`simpleNode3` wants `.allOf parts [] _`).  The model is evaluated in the kernel on four
  such documents of different shape, in both declaration orders: it IS faithful on them.  Two boundaries: an own
  primitive property costs a depth level, and a property list with a repeated own key is read differently by model and
  denotation.

  Why the theorem does not reach these documents: `parseOwn` parses the own property `k` of `Child` under the tracker
  name `Child.k`; for a plain primitive `finish.finishReg` does not register the object and `doExit` marks `Child.k`
  COMPLETED, so the tracker ends with a COMPLETED name that is not in the registry.  `Step.states`
  (Pog/Lemmas/ParserSteps.lean) and the third clause of `TK3` (Pog/Lemmas/ParserInvariants.lean) exclude exactly that state.
-/
namespace Pog.C02e
open Pog Pog.Prs Pog.Trk Pog.C02 Pog.C02b Pog.C02c

/-- `{allOf: parts, properties: ps, required: req}` -/
def cOwn (parts : List Node) (ps : List (String × Node)) (req : List String) : Node :=
  .allOf parts (ps.map (fun kv => (kv.1.toList, kv.2))) (req.map String.toList)

/-! ### shape 1: one parent, own plain primitives -/

def ownA : Decls :=
  [("Base".toList, cInl [("id", .prim .integer false)] ["id"]),
   ("Child".toList, cOwn [cRef "Base"]
      [("name", .prim .string false), ("age", .nullable (.prim .integer false)),
       ("score", .prim .number false), ("ok", .prim .boolean false)] ["name", "ok"])]

theorem ownA_fuel : specFuel ownA = 7 := by simp [specFuel, ownA, Node.size, cInl, cRef, cOwn]

/-- Every schema is `Faithful`, in both declaration orders; the own properties are parsed under
    the tracker names `Child.name`, … which end COMPLETED and unregistered (the state the step invariant excludes);
    `inFragment3` rejects the document -/
theorem own_prims_faithful :
    (∀ x ∈ ownA, Faithful ownA (buildSchemas 150 30 ownA) x.1) ∧
    (∀ x ∈ ownA, Faithful ownA.reverse (buildSchemas 150 30 ownA.reverse) x.1) ∧
    modelFields ownA (buildSchemas 150 30 ownA) "Child".toList = some
      [⟨"id".toList, true, .prim .integer⟩, ⟨"name".toList, true, .prim .string⟩,
       ⟨"age".toList, false, .prim .integer⟩, ⟨"score".toList, false, .prim .number⟩,
       ⟨"ok".toList, true, .prim .boolean⟩] ∧
    dGet "Child.name".toList (buildSchemas 150 30 ownA).tr.states = some .completed ∧
    (buildSchemas 150 30 ownA).regHas "Child.name".toList = false ∧
    (buildSchemas 150 30 ownA).regHas "ChildName".toList = false ∧
    inFragment3 150 30 ownA [("Child".toList, 2)] = false := by
  simp only [faithful_iff_F, ← specFuel_perm (List.reverse_perm ownA).symm, ownA_fuel]
  decide +kernel

/-! ### shape 2: an own property overrides an inherited one -/

def ownB : Decls :=
  [("Base".toList, cInl [("id", .prim .integer false), ("x", .prim .string false)] ["id"]),
   ("Child".toList, cOwn [cRef "Base"] [("id", .prim .string false), ("y", .prim .boolean false)] ["y"])]

theorem ownB_fuel : specFuel ownB = 7 := by simp [specFuel, ownB, Node.size, cInl, cRef, cOwn]

/-- `Child.id` is the child's STRING, at the inherited position, still required (by `Base`) -/
theorem own_override_faithful :
    (∀ x ∈ ownB, Faithful ownB (buildSchemas 150 30 ownB) x.1) ∧
    (∀ x ∈ ownB, Faithful ownB.reverse (buildSchemas 150 30 ownB.reverse) x.1) ∧
    modelFields ownB (buildSchemas 150 30 ownB) "Child".toList = some
      [⟨"id".toList, true, .prim .string⟩, ⟨"x".toList, false, .prim .string⟩, ⟨"y".toList, true, .prim .boolean⟩] := by
  simp only [faithful_iff_F, ← specFuel_perm (List.reverse_perm ownB).symm, ownB_fuel]
  decide +kernel

/-! ### shape 3: a chain, own properties at every level, an inline member, children declared first -/

def ownC : Decls :=
  [("GrandChild".toList, cOwn [cRef "Child"] [("g", .prim .boolean false)] ["g", "id"]),
   ("Child".toList, cOwn [cRef "Base", cInl [("tags", .arr (.prim .string false))] []]
      [("name", .prim .string false)] ["name"]),
   ("Base".toList, cInl [("id", .prim .integer false)] [])]

theorem ownC_fuel : specFuel ownC = 11 := by simp [specFuel, ownC, Node.size, cInl, cRef, cOwn]

/-- `GrandChild` has the four fields of the chain; `id` is required only by the grandchild -/
theorem own_chain_faithful :
    (∀ x ∈ ownC, Faithful ownC (buildSchemas 150 30 ownC) x.1) ∧
    (∀ x ∈ ownC, Faithful ownC.reverse (buildSchemas 150 30 ownC.reverse) x.1) ∧
    modelFields ownC (buildSchemas 150 30 ownC) "GrandChild".toList = some
      [⟨"id".toList, true, .prim .integer⟩, ⟨"tags".toList, false, .arr (.prim .string)⟩,
       ⟨"name".toList, true, .prim .string⟩, ⟨"g".toList, true, .prim .boolean⟩] ∧
    modelFields ownC (buildSchemas 150 30 ownC) "Child".toList = some
      [⟨"id".toList, false, .prim .integer⟩, ⟨"tags".toList, false, .arr (.prim .string)⟩,
       ⟨"name".toList, true, .prim .string⟩] := by
  simp only [faithful_iff_F, ← specFuel_perm (List.reverse_perm ownC).symm, ownC_fuel]
  decide +kernel

/-! ### shape 4: siblings with the same own key, referenced from elsewhere -/

def ownD : Decls :=
  [("Base".toList, cInl [("id", .prim .integer false)] ["id"]),
   ("Cat".toList, cOwn [cRef "Base"] [("name", .prim .string false)] ["name"]),
   ("Dog".toList, cOwn [cRef "Base"] [("name", .prim .integer false)] []),
   ("Owner".toList, cInl [("cat", cRef "Cat"), ("dogs", .arr (cRef "Dog"))] [])]

theorem ownD_fuel : specFuel ownD = 12 := by simp [specFuel, ownD, Node.size, cInl, cRef, cOwn]

/-- `Cat.name` is a required string, `Dog.name` an optional integer; no cross-talk -/
theorem own_siblings_faithful :
    (∀ x ∈ ownD, Faithful ownD (buildSchemas 150 30 ownD) x.1) ∧
    (∀ x ∈ ownD, Faithful ownD.reverse (buildSchemas 150 30 ownD.reverse) x.1) ∧
    modelFields ownD (buildSchemas 150 30 ownD) "Cat".toList = some
      [⟨"id".toList, true, .prim .integer⟩, ⟨"name".toList, true, .prim .string⟩] ∧
    modelFields ownD (buildSchemas 150 30 ownD) "Dog".toList = some
      [⟨"id".toList, true, .prim .integer⟩, ⟨"name".toList, false, .prim .integer⟩] := by
  simp only [faithful_iff_F, ← specFuel_perm (List.reverse_perm ownD).symm, ownD_fuel]
  decide +kernel

/-- ✗ An own primitive property costs a depth level.  `Child = {allOf: [], properties: {name: string}}` at
    `PYOPENAPI_MAX_DEPTH = 1`: `_parse_schema("Child.name", …)` is entered at depth 1 and hits the limit, the field is
    the depth placeholder `ChildName` (kind `.ref ChildName`); at depth limit 2 the model is faithful.  The same
    property of a plain object (`{type: object, properties: {name: string}}`) is parsed anonymously and is faithful at
    depth limit 1.  (Real loader, same two documents, `PYOPENAPI_MAX_DEPTH=1`: `Child.properties["name"]` is
    `IRSchema(name="ChildName", type="object", _max_depth_exceeded_marker=True)` and `parsed_schemas` gains the key
    `Child.name`; the plain object gives `type="string"`; at limit 2 both give `type="string"`.) -/
theorem parse_faithful_own_prim_depth_counterexample :
    let d : Decls := [("Child".toList, cOwn [] [("name", .prim .string false)] [])]
    let o : Decls := [("Child".toList, cInl [("name", .prim .string false)] [])]
    specFields d "Child".toList = [⟨"name".toList, false, .prim .string⟩] ∧
    modelFields d (buildSchemas 1 30 d) "Child".toList = some [⟨"name".toList, false, .ref "ChildName".toList⟩] ∧
    ¬ Faithful d (buildSchemas 1 30 d) "Child".toList ∧
    Faithful d (buildSchemas 2 30 d) "Child".toList ∧
    Faithful o (buildSchemas 1 30 o) "Child".toList := by
  decide +kernel

/-- A property LIST with a repeated own key (not expressible in a JSON / YAML mapping): the model keeps the last
    (`parseOwn` assigns `merged_props[k]` twice), the denotation the first; a fragment with own properties must ask for `Nodup` own keys. -/
theorem own_dup_key_model_vs_denotation :
    let d : Decls := [("Child".toList, cOwn [] [("a", .prim .string false), ("a", .prim .integer false)] [])]
    modelFields d (buildSchemas 150 30 d) "Child".toList = some [⟨"a".toList, false, .prim .integer⟩] ∧
    specFields d "Child".toList = [⟨"a".toList, false, .prim .string⟩] := by
  decide +kernel

end Pog.C02e
