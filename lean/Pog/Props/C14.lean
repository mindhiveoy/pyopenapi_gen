import Pog.Lemmas.ConvRound
/-
  C14 — oneOf / anyOf unions are decoded to the variant the payload belongs to.

  FULL STATEMENT: when a field, list item or response is a oneOf/anyOf union, decoding a payload that
  conforms to one variant yields a value that re-encodes to the same payload: no key of the payload is
  silently discarded by matching a different variant.  With a discriminator, the variant is exactly the
  one the discriminator value maps to, an unmapped value is an error rather than a guess, and a payload
  of a mapped variant that fails to decode is reported, not retried as another variant.

  The theorems are about the model `Pog.Model.Conv` of `_structure_union` (core/cattrs_converter.py; tied to the code by
  vf/corr/conv.py).  The discriminator half of the statement holds in full: the mapped class decides alone, an unmapped
  value is an error, a failure is not retried, and the list of members plays no part.  The first half is FALSE of the
  code (`firstmatch_lossless_counterexample`, `firstmatch_prim_coercion_counterexample`: sequential first match drops
  keys and coerces primitives); what does hold without a discriminator is that a successful result is one member's
  decode of the whole payload, and that the payload's own variant wins when every member listed before it rejects it
  (the `_partial` theorems).
-/
namespace Pog.C14
open Pog

/-- The payload carries the discriminator property with a mapped value `s ↦ variant`: whatever the
    union's members and their order, the result is exactly that of structuring the payload as `variant`,
    and it is an instance of `variant`. -/
theorem discriminated_exact (c : Codecs) (n : Nat) (decls : Decls) (args : List Ty) (d : Disc)
    (kvs : List (Str × JsonV)) (m : List (Str × Str)) (s variant : Str) (v : Val)
    (hm : d.mapping = some m) (hp : aget kvs d.prop = some (.str s)) (hv : aget m s = some variant)
    (hok : structF c n decls (.dc variant) (.obj kvs) = .ok v) :
    structF c (n + 1) decls (.union args (some d)) (.obj kvs) = .ok v ∧ ∃ fs, v = .inst variant fs := by
  refine ⟨?_, structF_dc_ok_inst c n decls variant _ v hok⟩
  rw [structF_union, structUnion_disc_mapped _ args d kvs m s variant hm hp hv, hok]

/-- The mapping is non-empty and the discriminator value is not one of its keys (a string that is not
    mapped, or `null`, a number, a boolean, a list, an object): an error, for every list of members —
    no variant is guessed. -/
theorem discriminated_unmapped_is_error (c : Codecs) (n : Nat) (decls : Decls) (args : List Ty) (d : Disc)
    (kvs : List (Str × JsonV)) (m : List (Str × Str)) (dv : JsonV)
    (hm : d.mapping = some m) (hne : m ≠ []) (hp : aget kvs d.prop = some dv)
    (hun : ∀ s, dv = .str s → aget m s = none) :
    ∃ k, structF c (n + 1) decls (.union args (some d)) (.obj kvs) = .error (.leaf k)
      ∧ (k = .discUnknown ∨ k = .unhashable) := by
  rw [structF_union, structUnion_disc_used _ args d kvs m dv hm hne hp]
  cases dv with
  | str s => exact ⟨.discUnknown, by simp only [discOutcome, hun s rfl], .inl rfl⟩
  | arr _ => exact ⟨.unhashable, rfl, .inr rfl⟩
  | obj _ => exact ⟨.unhashable, rfl, .inr rfl⟩
  | _ => exact ⟨.discUnknown, rfl, .inl rfl⟩

/-- The mapped class rejects the payload: the error is `Failed to deserialize as <variant> …` whatever
    the other members would have done with it. -/
theorem discriminated_failure_not_retried (c : Codecs) (n : Nat) (decls : Decls) (args : List Ty) (d : Disc)
    (kvs : List (Str × JsonV)) (m : List (Str × Str)) (s variant : Str) (e : SErr)
    (hm : d.mapping = some m) (hp : aget kvs d.prop = some (.str s)) (hv : aget m s = some variant)
    (hfail : structF c n decls (.dc variant) (.obj kvs) = .error e) :
    structF c (n + 1) decls (.union args (some d)) (.obj kvs) = .error (.leaf (.discFailed variant)) := by
  rw [structF_union, structUnion_disc_mapped _ args d kvs m s variant hm hp hv, hfail]

/-- `get_mapping()` returns `None` or `{}`, or the payload lacks the property (or is not a dict): the
    union is decoded exactly as if it had no discriminator (sequential first match, see below). -/
theorem no_mapping_falls_through (c : Codecs) (n : Nat) (decls : Decls) (args : List Ty) (d : Disc) (j : JsonV)
    (h : d.mapping = none ∨ d.mapping = some [] ∨ (∀ kvs, j = .obj kvs → aget kvs d.prop = none)) :
    structF c (n + 1) decls (.union args (some d)) j = structF c (n + 1) decls (.union args none) j := by
  rw [structF_union, structF_union, structUnion_disc_ignored _ args d j h]

def V1 : ClassDecl := { fields := [⟨"a".toList, .leaf .int, .required⟩], loadMap := none, dumpMap := none }
def V2 : ClassDecl :=
  { fields := [⟨"a".toList, .leaf .int, .required⟩, ⟨"b".toList, .leaf .int, .required⟩], loadMap := none, dumpMap := none }
def V3 : ClassDecl :=
  { fields := [⟨"kind".toList, .leaf .str, .required⟩, ⟨"c".toList, .leaf .int, .none⟩], loadMap := none, dumpMap := none }
def decls : Decls := [("V1".toList, V1), ("V2".toList, V2), ("V3".toList, V3)]
def disc : Disc :=
  { prop := "kind".toList, mapping := some [("one".toList, "V1".toList), ("two".toList, "V2".toList), ("three".toList, "V3".toList)] }
def members : List Ty := [.dc "V1".toList, .dc "V2".toList, .dc "V3".toList]

/-- `{"kind": "two", "a": 1, "b": 2}` — `V1` comes first and would accept it, the mapping says `V2`. -/
example : structF Codecs.exec 4 decls (.union members (some disc))
    (.obj [("kind".toList, .str "two".toList), ("a".toList, .int 1), ("b".toList, .int 2)])
      = .ok (.inst "V2".toList [("a".toList, .int 1), ("b".toList, .int 2)]) := by decide +kernel

/-- `{"kind": "zzz", "a": 1}` — `V1` would accept it; it is an error. -/
example : structF Codecs.exec 4 decls (.union members (some disc))
    (.obj [("kind".toList, .str "zzz".toList), ("a".toList, .int 1)]) = .error (.leaf .discUnknown) := by decide +kernel

/-- `{"kind": "two", "a": 1}` — not a `V2` (no `b`); `V1` would accept it; the failure is reported. -/
example : structF Codecs.exec 4 decls (.union members (some disc))
    (.obj [("kind".toList, .str "two".toList), ("a".toList, .int 1)])
      = .error (.leaf (.discFailed "V2".toList)) := by decide +kernel

/-- … and without the mapping the same payload is taken for a `V1`. -/
example : structF Codecs.exec 4 decls (.union members (some { disc with mapping := none }))
    (.obj [("kind".toList, .str "two".toList), ("a".toList, .int 1)])
      = .ok (.inst "V1".toList [("a".toList, .int 1)]) := by decide +kernel

/-- With a usable mapping and the discriminator property present in the payload, the LIST of members plays no part at all:
    any two unions carrying the same discriminator metadata decode the payload identically - reordering, adding or removing
    members (even the mapped class itself) cannot change the variant, turn an error into a guess or a guess into an error. -/
theorem discriminated_independent_of_members (c : Codecs) (n : Nat) (decls : Decls) (args args' : List Ty) (d : Disc)
    (kvs : List (Str × JsonV)) (m : List (Str × Str)) (dv : JsonV)
    (hm : d.mapping = some m) (hne : m ≠ []) (hp : aget kvs d.prop = some dv) :
    structF c (n + 1) decls (.union args (some d)) (.obj kvs) = structF c (n + 1) decls (.union args' (some d)) (.obj kvs) := by
  rw [structF_union, structF_union, structUnion_disc_used _ args d kvs m dv hm hne hp,
    structUnion_disc_used _ args' d kvs m dv hm hne hp]

/-- Non-vacuity and contrast: the same payload, members reversed - with the mapping both orders give `V2`; without it the
    order decides (`V1` first: `V1`; reversed: `V3` rejects, `V2` accepts). -/
example : structF Codecs.exec 4 decls (.union members.reverse (some disc))
      (.obj [("kind".toList, .str "two".toList), ("a".toList, .int 1), ("b".toList, .int 2)])
    = .ok (.inst "V2".toList [("a".toList, .int 1), ("b".toList, .int 2)])
  ∧ structF Codecs.exec 4 decls (.union members none) (.obj [("a".toList, .int 1), ("b".toList, .int 2)])
    ≠ structF Codecs.exec 4 decls (.union members.reverse none) (.obj [("a".toList, .int 1), ("b".toList, .int 2)]) := by
  decide +kernel

/-- Whatever the members, their order and the discriminator metadata: when decoding a payload as a union succeeds, the
    value is (a) `None`, for a `null` payload of a union that lists `NoneType`; (b) exactly what ONE listed member yields
    for the whole payload; (c) exactly what the class the discriminator value maps to yields for the whole payload; or
    (d) the payload itself, when `dict[str, Any]` is a member.  The union never assembles a value from several members,
    never decodes a part of the payload, and never returns a class that neither is listed nor is mapped. -/
theorem union_result_is_one_members (c : Codecs) (n : Nat) (decls : Decls) (args : List Ty) (disc : Option Disc)
    (j : JsonV) (v : Val) (h : structF c (n + 1) decls (.union args disc) j = .ok v) :
    (j = .null ∧ v = .none ∧ args.any isNoneTy = true)
    ∨ (∃ t ∈ args, structF c n decls t j = .ok v)
    ∨ (∃ d m s variant kvs, disc = some d ∧ j = .obj kvs ∧ d.mapping = some m ∧ aget kvs d.prop = some (.str s)
          ∧ aget m s = some variant ∧ structF c n decls (.dc variant) j = .ok v)
    ∨ (args.any isDictAny = true ∧ isObj j = true ∧ v = Val.ofJson j) := by
  rw [structF_union] at h
  exact structUnion_ok_cases _ args disc j v h

/-- … hence a dict payload decoded by a union of dataclasses only (no discriminator) is an instance of a LISTED class,
    obtained from that class's own structure hook. -/
theorem union_of_classes_yields_listed_class (c : Codecs) (n : Nat) (decls : Decls) (args : List Ty)
    (kvs : List (Str × JsonV)) (v : Val) (hall : ∀ t ∈ args, isDcTy t = true)
    (h : structF c (n + 1) decls (.union args none) (.obj kvs) = .ok v) :
    ∃ name fs, Ty.dc name ∈ args ∧ v = .inst name fs ∧ structF c n decls (.dc name) (.obj kvs) = .ok v := by
  rcases union_result_is_one_members c n decls args none _ v h with h1 | ⟨t, ht, hr⟩ | ⟨d, _, _, _, _, hd, _⟩ | ⟨hany, _, _⟩
  · cases h1.1
  · have := hall t ht
    cases t <;> simp [isDcTy] at this
    rename_i name
    obtain ⟨fs, rfl⟩ := structF_dc_ok_inst c n decls name _ v hr
    exact ⟨name, fs, ht, rfl, hr⟩
  · cases hd
  · obtain ⟨t, ht, hta⟩ := List.any_eq_true.mp hany
    have := hall t ht
    cases t <;> simp [isDcTy, isDictAny] at this hta

/-- Non-vacuity: `{"a": 1, "b": 2}` against `Union[V1, V2, V3]` succeeds (as a `V1`, case (b)). -/
example : structF Codecs.exec 4 decls (.union members none) (.obj [("a".toList, .int 1), ("b".toList, .int 2)])
    = .ok (.inst "V1".toList [("a".toList, .int 1)]) := by decide +kernel

/-! ## without a discriminator: sequential first match

  ✗ FULL STATEMENT (false): for a payload `j` that conforms to member `t` of `Union[args]`,
      structF … (.union args none) j = .ok v  →  unstructuring `v` gives back `j`. -/

/-- Dict payload: if every dataclass member listed before `t` rejects the payload and `t` accepts it with
    `v`, the union yields `v` — so whatever holds for decoding `j` as `t` alone (C16 `decode_encode`: it
    re-encodes to `j`) holds for the union. -/
theorem firstmatch_lossless_partial (c : Codecs) (n : Nat) (decls : Decls) (args pre post : List Ty) (t : Ty)
    (kvs : List (Str × JsonV)) (v : Val)
    (hsplit : args.filter isDcTy = pre ++ t :: post)
    (hpre : ∀ u ∈ pre, ∃ e, structF c n decls u (.obj kvs) = .error e)
    (h : structF c n decls t (.obj kvs) = .ok v) :
    structF c (n + 1) decls (.union args none) (.obj kvs) = .ok v := by
  rw [structF_union, structUnion_obj, hsplit, firstOk_append_of_fail _ _ pre t v post hpre h]

/-- … spelled out with C16 `decode_encode`: a document that conforms to the dataclass member `name` and is rejected by
    every dataclass member listed before it comes back from the union as itself (absent defaulted properties filled
    in): no key is lost, the union's runtime-class re-encoding picks `name`'s own hook. -/
theorem firstmatch_roundtrip_partial (c : Codecs) (n : Nat) (reg : List Str) (decls : Decls) (args pre post : List Ty)
    (name : Str) (kvs : List (Str × JsonV))
    (hwf : declsOk decls = true) (hreg : allRegistered reg decls = true)
    (hsplit : args.filter isDcTy = pre ++ .dc name :: post)
    (hpre : ∀ u ∈ pre, ∃ e, structF c n decls u (.obj kvs) = .error e)
    (hconf : conformsF c n decls (.dc name) (.obj kvs) = true) :
    ∃ v, structF c (n + 1) decls (.union args none) (.obj kvs) = .ok v
      ∧ unstrF c (n + 2) reg decls (some (.union args none)) v = .ok (normaliseF n decls (.dc name) (.obj kvs)) := by
  obtain ⟨v, h1, h2, _⟩ := roundtrip_core c reg decls hwf hreg n (.dc name) (.obj kvs) hconf
  obtain ⟨fs, rfl⟩ := structF_dc_ok_inst c n decls name _ v h1
  refine ⟨_, firstmatch_lossless_partial c n decls args pre post (.dc name) kvs _ hsplit hpre h1, ?_⟩
  simp only [unstrF, h2]

/-- Scalar / list payload: the same for the non-dataclass members. -/
theorem firstmatch_scalar_partial (c : Codecs) (n : Nat) (decls : Decls) (args pre post : List Ty) (t : Ty)
    (j : JsonV) (v : Val) (hj : isObj j = false) (hnull : j ≠ .null)
    (hsplit : args.filter isOtherVariant = pre ++ t :: post)
    (hpre : ∀ u ∈ pre, ∃ e, structF c n decls u j = .error e)
    (h : structF c n decls t j = .ok v) :
    structF c (n + 1) decls (.union args none) j = .ok v := by
  rw [structF_union, structUnion_scalar _ args j hj hnull, hsplit, firstOk_append_of_fail _ _ pre t v post hpre h]

/-- The hypotheses are satisfiable non-trivially: `{"a": 1, "b": 2}` against `Union[V3, V2, V1]` — `V3`
    rejects (no `kind`), `V2` accepts. -/
example : ([.dc "V3".toList, .dc "V2".toList, .dc "V1".toList] : List Ty).filter isDcTy
      = [.dc "V3".toList] ++ .dc "V2".toList :: [.dc "V1".toList]
    ∧ (∃ e, structF Codecs.exec 3 decls (.dc "V3".toList) (.obj [("a".toList, .int 1), ("b".toList, .int 2)]) = .error e)
    ∧ structF Codecs.exec 3 decls (.dc "V2".toList) (.obj [("a".toList, .int 1), ("b".toList, .int 2)])
        = .ok (.inst "V2".toList [("a".toList, .int 1), ("b".toList, .int 2)]) := by
  refine ⟨rfl, ⟨_, rfl⟩, by decide +kernel⟩

/-- ✗ witness 1: `Union[V1, V2]` with `V1 = {a}`, `V2 = {a, b}`.  The payload `{"a": 1, "b": 2}` is a `V2`;
    it is decoded as `V1(a=1)` (unknown keys are ignored, first success wins) and re-encodes to
    `{"a": 1}` — `b` is gone. -/
theorem firstmatch_lossless_counterexample :
    structF Codecs.exec 4 decls (.union [.dc "V1".toList, .dc "V2".toList] none)
        (.obj [("a".toList, .int 1), ("b".toList, .int 2)])
      = .ok (.inst "V1".toList [("a".toList, .int 1)])
    ∧ roundtrip Codecs.exec 4 [] decls (.union [.dc "V1".toList, .dc "V2".toList] none)
        (.obj [("a".toList, .int 1), ("b".toList, .int 2)])
      = .ok (.ok (.obj [("a".toList, .int 1)])) := by
  decide +kernel

/-- … while the same payload against `Union[V2, V1]` survives: the outcome depends on the member order. -/
theorem firstmatch_order_dependent :
    roundtrip Codecs.exec 4 [] decls (.union [.dc "V2".toList, .dc "V1".toList] none)
        (.obj [("a".toList, .int 1), ("b".toList, .int 2)])
      = .ok (.ok (.obj [("a".toList, .int 1), ("b".toList, .int 2)])) := by
  decide +kernel

/-- ✗ witness 2: `Union[str, int]`: the integer `5` is decoded by CALLING `str` — it becomes the string
    `"5"` and is sent back as a string.  (`Union[int, str]` turns the string `"7"` into the number 7.) -/
theorem firstmatch_prim_coercion_counterexample :
    roundtrip Codecs.exec 4 [] [] (.union [.leaf .str, .leaf .int] none) (.int 5) = .ok (.ok (.str "5".toList))
    ∧ roundtrip Codecs.exec 4 [] [] (.union [.leaf .int, .leaf .str] none) (.str "7".toList) = .ok (.ok (.int 7)) := by
  decide +kernel

/-- The first counterexample is outside the hypothesis of `firstmatch_lossless_partial` for `t = V2`:
    the earlier member `V1` does not reject the payload. -/
example : ¬ ∃ e, structF Codecs.exec 3 decls (.dc "V1".toList) (.obj [("a".toList, .int 1), ("b".toList, .int 2)])
    = .error e := by
  intro ⟨e, h⟩
  have hv : structF Codecs.exec 3 decls (.dc "V1".toList) (.obj [("a".toList, .int 1), ("b".toList, .int 2)])
      = .ok (.inst "V1".toList [("a".toList, .int 1)]) := by decide +kernel
  rw [hv] at h
  cases h

end Pog.C14
