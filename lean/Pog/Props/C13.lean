import Pog.Lemmas.Surface
import Pog.Props.ClientGen
/-
  C13 — client class, Protocol and mock expose the same operation methods with identical signatures;
        every mock method raises NotImplementedError; MockAPIClient has the tag properties of APIClient.
  C07 (tag-grouping part) — every operation is a method of the client of each of its tags (or `default`),
        and that tag client is a property of APIClient.

  The Protocol stubs and the mock methods are cut TEXTUALLY out of the generated method source
  (`Pog.protoStub`, `Pog.toMock`, Pog/Model/Surface.lean); a signature is what `Pog.sigOf` reads off a text
  (checked against CPython's parser by the correspondence).

  Text level: for every method text of the emitted shape (`WellFormedMethod`) the stub and the mock keep the signature, except
  that the stub drops `async` exactly when the return annotation is `AsyncIterator[...]`; the mock body is the fixed docstring and
  a `raise`.  Grouping level (every operation list, every CPython case table `UInfo`): emitter, client visitor and mocks emitter
  compute the same groups; every operation is in the group of each of its tags exactly once.  The three top-level classes
  (Pog/Model/ClientGen.lean) are treated in Pog/Props/ClientGen.lean and claimed here; `clientProps` / `mockClientProps` below list
  the MODULE names of the tag tuples in property order, the property name is `ClientGen.tagAttr` of it in all three classes.
  A statement marked `✗` in a doc comment is FALSE of the current code: it appears as a `_counterexample` and a `_partial`
  (the nature of the mock of a method annotated `AsyncIterator[...]` whose body does not yield; the class named in the error
  message of an untagged operation; module files of non-ASCII tags).
-/
-- INDEX Pog.ClientGenProps: surfaces_agree, mock_surface, mock_surface_former_witness, mock_surface_empty_tag_former_witness, mock_duplicate_argument_former_witness, mock_init_keywords_distinct_partial, mock_self_argument_former_witness, mock_self_never_a_keyword
namespace Pog.C13
open Pog

/-! ## Text level -/

/-- A method text as `EndpointMethodGenerator.generate` emits it for a two-content-type operation. -/
def sampleMethod : List Str := [
  "@overload".toList,
  "async def create_user(".toList,
  "    self,".toList,
  "    *,".toList,
  "    body: User,".toList,
  "    content_type: Literal[\"application/json\"] = \"application/json\"".toList,
  ") -> User: ...".toList,
  [],
  "async def create_user(".toList,
  "    self,".toList,
  "    id_: int,".toList,
  "    *,".toList,
  "    body: User | None = None,".toList,
  "    content_type: str = \"application/json\"".toList,
  ") -> User:".toList,
  "    \"\"\"".toList,
  "    createUser".toList,
  "    \"\"\"".toList,
  "    url = f\"{self.base_url}/users\"".toList]

example : WellFormedMethod sampleMethod = true := by
  unfold sampleMethod
  -- read the characters off each literal: evaluating `String.toList` would make the kernel decode its UTF-8 bytes
  repeat rw [String.toList_ofList]
  decide +kernel

/-- What `sigOf` reads off `sampleMethod`. -/
example : sigOf sampleMethod = some
    { isAsync := true, name := "create_user".toList,
      params := [⟨"self".toList, none, none, false⟩, ⟨"id_".toList, some "int".toList, none, false⟩,
        ⟨"body".toList, some "User | None".toList, some "None".toList, true⟩,
        ⟨"content_type".toList, some "str".toList, some "\"application/json\"".toList, true⟩],
      ret := some "User".toList, multiLine := true } := by
  unfold sampleMethod
  repeat rw [String.toList_ofList]
  decide +kernel

/-- **Protocol stub.**  For every method text of the emitted shape the stub has a signature, and it is the
    client's signature — same name, parameters (names, order, keyword-only marker, annotations, defaults) and
    return annotation — except that `async` is dropped exactly when the return annotation is `AsyncIterator[...]`
    itself (the visitor's convention for async generators; F47 repaired: a type NAME containing that text, as in
    `-> AsyncIteratorResult` or `-> List[AsyncIteratorResult]`, keeps `async`). -/
theorem proto_preserves_signature (m : List Str) (h : WellFormedMethod m = true) :
    ∃ sg, sigOf m = some sg ∧ sg.isAsync = true ∧
      sigOf (protoStub m) = some { sg with isAsync := !retIsAsyncIter sg.ret } := by
  obtain ⟨sg, hsg, ha, _, _⟩ := wf_sigOf m h
  refine ⟨sg, hsg, ha, ?_⟩
  rw [sigOf_protoStub m h, hsg]
  simp [adjAsync, ha]

/-- **Mock.**  The mock method has exactly the client's signature (`async` included). -/
theorem mock_preserves_signature (cls meth : Str) (m : List Str) (h : WellFormedMethod m = true) :
    sigOf (toMock cls meth m) = sigOf m ∧ (sigOf m).isSome = true := by
  obtain ⟨sg, hsg, _⟩ := wf_sigOf m h
  exact ⟨(toMock_spec cls meth m h).1, by rw [hsg]; rfl⟩

/-- Hence client, Protocol and mock agree on everything but the `async` keyword of the Protocol stub. -/
theorem three_way_signature (cls meth : Str) (m : List Str) (h : WellFormedMethod m = true) :
    ∃ sg, sigOf m = some sg ∧ sigOf (toMock cls meth m) = some sg ∧
      ∃ sp, sigOf (protoStub m) = some sp ∧ sp.name = sg.name ∧ sp.params = sg.params ∧ sp.ret = sg.ret := by
  obtain ⟨sg, hsg, _, hp⟩ := proto_preserves_signature m h
  exact ⟨sg, hsg, by rw [(mock_preserves_signature cls meth m h).1, hsg], _, hp, rfl, rfl, rfl⟩

/-- **Mock body.**  The body of the mock method is exactly the fixed docstring, one
    `raise NotImplementedError("<cls>.<meth>() not implemented. …")` line and — iff `returns_async_iterator` holds of
    the line closing the signature (`mockYields`) — the unreachable `yield`. -/
theorem mock_body_raises (cls meth : Str) (m : List Str) (h : WellFormedMethod m = true) :
    bodyOf (toMock cls meth m) = mockBody cls meth (mockYields m) :=
  (toMock_spec cls meth m h).2

example : mockBody "MockUsersClient".toList "get_user".toList false =
    ["    \"\"\"".toList, "    Mock implementation that raises NotImplementedError.".toList, "    ".toList,
     "    Override this method in your test subclass to provide".toList,
     "    the behavior needed for your test scenario.".toList, "    \"\"\"".toList,
     ("    raise NotImplementedError(\"MockUsersClient.get_user() not implemented. " ++
      "Override this method in your test subclass.\")").toList] := by
  unfold mockBody mockDoc mockRaise
  rw [String.toList_append]
  repeat rw [String.toList_ofList]
  decide +kernel

/-- **Mock nature.**  The mock is an async generator iff `mockYields`, else a coroutine. -/
theorem mock_nature (cls meth : Str) (m : List Str) (h : WellFormedMethod m = true) :
    natureOf (toMock cls meth m) = some (if mockYields m then .asyncGen else .coroutine) := by
  obtain ⟨sg, hsg, ha, _⟩ := wf_sigOf m h
  unfold natureOf
  rw [(toMock_spec cls meth m h).1, (toMock_spec cls meth m h).2, mockBody_yields, hsg]
  cases mockYields m <;> simp [ha]

/-- **One criterion** (F47 repaired: both transformers call `returns_async_iterator` on the line closing the signature):
    the mock gets its `yield` exactly when the return annotation `sigOf` reads off the text is `AsyncIterator[...]` —
    exactly when the Protocol stub drops `async` (`proto_preserves_signature`). -/
theorem mock_proto_same_criterion (m : List Str) (h : WellFormedMethod m = true) :
    ∃ sg, sigOf m = some sg ∧ mockYields m = retIsAsyncIter sg.ret ∧
      (sigOf (protoStub m)).map (·.isAsync) = some (!mockYields m) := by
  obtain ⟨sg, hsg, ha, _, hy⟩ := wf_sigOf m h
  refine ⟨sg, hsg, hy, ?_⟩
  rw [sigOf_protoStub m h, hsg, hy]
  simp [adjAsync, ha]

/-- Whether the client body (after its docstring) contains a `yield` statement. -/
def clientYields (m : List Str) : Bool := (skipDoc (bodyOf m)).any isYieldLine

theorem nature_of_wf (m : List Str) (h : WellFormedMethod m = true) :
    natureOf m = some (if clientYields m then .asyncGen else .coroutine) := by
  obtain ⟨sg, hsg, ha, _⟩ := wf_sigOf m h
  unfold natureOf clientYields
  rw [hsg]
  cases (skipDoc (bodyOf m)).any isYieldLine <;> simp [ha]

/-- The mock has the nature of the client method exactly when the two yield criteria agree on the text. -/
theorem mock_nature_agrees_iff (cls meth : Str) (m : List Str) (h : WellFormedMethod m = true) :
    natureOf (toMock cls meth m) = natureOf m ↔ mockYields m = clientYields m := by
  rw [mock_nature cls meth m h, nature_of_wf m h]
  cases mockYields m <;> cases clientYields m <;> simp

/-- ✗ `mock_nature_agrees : natureOf (toMock cls meth m) = natureOf m` — false at the text level
    (`mock_nature_agrees_counterexample`).  Restricted to the texts whose body yields exactly when the return annotation is
    `AsyncIterator[...]` — the contract of `EndpointMethodGenerator` for a streaming operation.  The hypothesis speaks of the
    return annotation (`retIsAsyncIter`): a coroutine returning `AsyncIteratorResult` satisfies it. -/
theorem mock_nature_agrees_partial (cls meth : Str) (m : List Str) (h : WellFormedMethod m = true)
    (hy : ∀ sg, sigOf m = some sg → clientYields m = retIsAsyncIter sg.ret) :
    natureOf (toMock cls meth m) = natureOf m := by
  obtain ⟨sg, hsg, hcrit, _⟩ := mock_proto_same_criterion m h
  exact (mock_nature_agrees_iff cls meth m h).2 (by rw [hcrit, hy sg hsg])

/-- An operation whose response schema happens to be called `AsyncIteratorResult`. -/
def asyncIterNamed : List Str := [
  "async def get_it(".toList,
  "    self,".toList,
  ") -> AsyncIteratorResult:".toList,
  "    \"\"\"Get it.\"\"\"".toList,
  "    return structure_from_dict(response.json(), AsyncIteratorResult)".toList]

/-- A streaming method as the generator emits it. -/
def streamingMethod : List Str := [
  "async def watch(".toList,
  "    self,".toList,
  "    q: str | None = None,".toList,
  ") -> AsyncIterator[dict[str, Any]]:".toList,
  "    \"\"\"Watch.\"\"\"".toList,
  "    async for chunk in iter_sse_events_text(response):".toList,
  "        yield json.loads(chunk)".toList]

/-- The three sample texts, evaluated once: each has the emitted shape; whether its body yields; whether its return annotation is
    `AsyncIterator[...]` (`mockYields`).  What the statements below say of them follows by the general theorems. -/
theorem samples_evaluated :
    (WellFormedMethod sampleMethod = true ∧ clientYields sampleMethod = false ∧ mockYields sampleMethod = false) ∧
    (WellFormedMethod asyncIterNamed = true ∧ clientYields asyncIterNamed = false ∧ mockYields asyncIterNamed = false) ∧
    (WellFormedMethod streamingMethod = true ∧ clientYields streamingMethod = true ∧ mockYields streamingMethod = true) := by
  unfold sampleMethod asyncIterNamed streamingMethod
  repeat rw [String.toList_ofList]
  decide +kernel

/-- The hypothesis of `mock_nature_agrees_partial`, from the two Booleans. -/
theorem yields_as_annotated (m : List Str) (h : WellFormedMethod m = true) (e : clientYields m = mockYields m) :
    ∀ sg, sigOf m = some sg → clientYields m = retIsAsyncIter sg.ret := by
  obtain ⟨sg', hsg', hcrit, _⟩ := mock_proto_same_criterion m h
  intro sg hsg
  rw [hsg', Option.some.injEq] at hsg
  rw [e, hcrit, hsg]

/-- The hypothesis of `mock_nature_agrees_partial` is satisfiable by a coroutine, by the former F47 witness and by a stream. -/
example : (∀ m ∈ [sampleMethod, asyncIterNamed, streamingMethod], WellFormedMethod m = true ∧
    ∀ sg, sigOf m = some sg → clientYields m = retIsAsyncIter sg.ret) ∧
    natureOf streamingMethod = some .asyncGen := by
  obtain ⟨⟨w1, c1, y1⟩, ⟨w2, c2, y2⟩, w3, c3, y3⟩ := samples_evaluated
  refine ⟨?_, by rw [nature_of_wf _ w3, c3]; rfl⟩
  intro m hm
  simp only [List.mem_cons, List.not_mem_nil, or_false] at hm
  rcases hm with rfl | rfl | rfl
  · exact ⟨w1, yields_as_annotated _ w1 (c1.trans y1.symm)⟩
  · exact ⟨w2, yields_as_annotated _ w2 (c2.trans y2.symm)⟩
  · exact ⟨w3, yields_as_annotated _ w3 (c3.trans y3.symm)⟩

/-- The former witness of F47 (defect class `mock-asyncgen-nature`): the client method is a coroutine and so is its mock
    (before the repair the mock was an async generator — `await mock.get_it()` raised `TypeError` instead of
    `NotImplementedError`); a real stream still gets the async-generator mock. -/
theorem mock_nature_former_witness :
    WellFormedMethod asyncIterNamed = true ∧ natureOf asyncIterNamed = some .coroutine ∧
      natureOf (toMock "MockXClient".toList "get_it".toList asyncIterNamed) = some .coroutine ∧
      natureOf (toMock "MockXClient".toList "watch".toList streamingMethod) = some .asyncGen := by
  obtain ⟨-, ⟨w, c, y⟩, w', -, y'⟩ := samples_evaluated
  refine ⟨w, ?_, ?_, ?_⟩
  · rw [nature_of_wf _ w, c]; rfl
  · rw [mock_nature _ _ _ w, y]; rfl
  · rw [mock_nature _ _ _ w', y']; rfl

/-- The former witness of F47 (defect class `protocol-async-dropped`): for the same text the Protocol keeps `async def`
    (before the repair it declared a plain `def` on the TEXT test `"AsyncIterator" in line`); the stub of a real stream
    is the plain `def` of the documented convention. -/
theorem proto_async_kept_former_witness :
    natureOf asyncIterNamed = some .coroutine ∧
      (sigOf (protoStub asyncIterNamed)).map (·.isAsync) = some true ∧
      (sigOf (protoStub streamingMethod)).map (·.isAsync) = some false := by
  obtain ⟨-, ⟨w, c, y⟩, w', -, y'⟩ := samples_evaluated
  obtain ⟨_, _, _, hp⟩ := mock_proto_same_criterion _ w
  obtain ⟨_, _, _, hp'⟩ := mock_proto_same_criterion _ w'
  refine ⟨?_, ?_, ?_⟩
  · rw [nature_of_wf _ w, c]; rfl
  · rw [hp, y]; rfl
  · rw [hp', y']; rfl

/-- A method annotated `AsyncIterator[...]` whose body never yields (a streamed response under a key that gets no `case`
    of its own, e.g. `2XX`). -/
def streamWithoutYield : List Str := [
  "async def watch(".toList,
  "    self,".toList,
  ") -> AsyncIterator[bytes]:".toList,
  "    \"\"\"Watch.\"\"\"".toList,
  "    raise HTTPError(response=response, message=\"Unhandled status code\", status_code=response.status_code)".toList]

/-- ✗ witness for the hypothesis that remains (not the F47 class): annotated `AsyncIterator[bytes]` without a `yield`,
    the client is a coroutine, its mock an async generator. -/
theorem mock_nature_agrees_counterexample :
    WellFormedMethod streamWithoutYield = true ∧ natureOf streamWithoutYield = some .coroutine ∧
      natureOf (toMock "MockXClient".toList "watch".toList streamWithoutYield) = some .asyncGen := by
  have h : WellFormedMethod streamWithoutYield = true ∧ clientYields streamWithoutYield = false ∧
      mockYields streamWithoutYield = true := by
    unfold streamWithoutYield
    repeat rw [String.toList_ofList]
    decide +kernel
  obtain ⟨w, c, y⟩ := h
  refine ⟨w, ?_, ?_⟩
  · rw [nature_of_wf _ w, c]; rfl
  · rw [mock_nature _ _ _ w, y]; rfl

/-- Latent (not reachable today: `write_function_signature` always receives `self`, so the one-line form is
    never emitted for endpoint methods): on a ONE-LINE signature the stub keeps `async` even for an async
    generator, because only `signature_lines[:-1]` is rewritten. -/
theorem proto_oneline_keeps_async :
    (sigOf (protoStub ["async def f(self) -> AsyncIterator[bytes]:".toList, "    yield b".toList])).map (·.isAsync)
      = some true := by
  repeat rw [String.toList_ofList]
  decide +kernel

/-- ✗ witness: the error message of an UNTAGGED operation names `MockClient_Client` (`client` is a reserved name,
    so `sanitize_class_name("Client")` is `Client_`), but the class that contains the method is
    `MockDefaultClient` (`op.tags[0] if op.tags else "Client"` vs. the group tag `default`). -/
theorem mock_error_class_untagged_counterexample :
    mockErrClass [] = "MockClient_Client".toList ∧
      (groupMocks UInfo.ascii [⟨"ping".toList, []⟩]).map (fun g => "Mock".toList ++ g.cls) = ["MockDefaultClient".toList] := by
  repeat rw [String.toList_ofList]
  decide +kernel

/-! ## Grouping level -/

/-- **C07: the two tag maps agree.**  `ClientVisitor.visit` recomputes the map of `EndpointsEmitter.emit`;
    its unguarded `max` never raises and the result is the same association list (same order, same canonical tags). -/
theorem tag_maps_agree (u : UInfo) (ops : List TagOp) : tagMapVisitor u ops = some (tagMapEmitter u ops) :=
  Pog.tagMapVisitor_eq u ops

/-- `tag_map[key]` in the emitter's file loop never raises `KeyError`; the loop is the fused formulation. -/
theorem group_endpoints_total (u : UInfo) (ops : List TagOp) :
    groupEndpointsRaw u ops = some (groupEndpoints u ops) :=
  Pog.groupEndpointsRaw_eq u ops

/-- One group per normalised key. -/
theorem group_keys_distinct (u : UInfo) (ops : List TagOp) : ((groupEndpoints u ops).map (·.key)).Nodup :=
  Pog.groupEndpoints_keys_nodup u ops

/-- Names of a group: module and class derive from the canonical tag, which is one of the tags that some
    operation carries (or `default`) and normalises to the group key. -/
theorem group_names (u : UInfo) (ops : List TagOp) (g : TagGroup) (hg : g ∈ groupEndpoints u ops) :
    g.key = normTagKey u g.canon ∧ (∃ op ∈ ops, g.canon ∈ tagsOrDefault op) ∧
      g.module = sanModule u g.canon ∧ g.cls = sanClass g.canon ++ kClientSuffix :=
  Pog.groupEndpoints_canon u ops g hg

/-- **C07: every operation is in the tag client of each of its tags** (or of `default`). -/
theorem every_op_in_each_tag_client (u : UInfo) (ops : List TagOp) (op : TagOp) (t : Str) (hop : op ∈ ops)
    (ht : t ∈ tagsOrDefault op) :
    ∃ g ∈ groupEndpoints u ops, g.key = normTagKey u t ∧ op.id ∈ g.ops :=
  Pog.every_op_present u ops op t hop ht

/-- `every_op_exactly_once` at full strength over the tags (F45 repaired: an operation is appended once per normalised key):
    however many spellings of a tag the operation carries, its id occurs exactly ONCE in the group of that tag.
    (`hids`: the ids identify the operations - the method names of a document are pairwise distinct, `Pog.C07.method_names_distinct`.) -/
theorem every_op_exactly_once (u : UInfo) (ops : List TagOp) (op : TagOp) (t : Str) (hop : op ∈ ops)
    (ht : t ∈ tagsOrDefault op) (hids : (ops.map (·.id)).Nodup)
    (g : TagGroup) (hg : g ∈ groupEndpoints u ops) (hk : g.key = normTagKey u t) :
    g.ops.count op.id = 1 :=
  Pog.every_op_once u ops op t hop ht hids g hg hk

/-- … and it does not occur in the group of any key none of its tags normalises to. -/
theorem op_in_no_other_tag_client (u : UInfo) (ops : List TagOp) (op : TagOp) (hop : op ∈ ops) (hids : (ops.map (·.id)).Nodup)
    (g : TagGroup) (hg : g ∈ groupEndpoints u ops) (hk : g.key ∉ (tagsOrDefault op).map (normTagKey u)) :
    op.id ∉ g.ops :=
  Pog.op_absent_elsewhere u ops op hop hids g hg hk

/-- The members of a group, exactly: the ids of the operations that carry a tag (or `default`) with the group's key, each once,
    in document order - every operation list, no hypothesis. -/
theorem group_members (u : UInfo) (ops : List TagOp) (g : TagGroup) (hg : g ∈ groupEndpoints u ops) :
    g.ops = (ops.filter (hasKey u g.key)).map (·.id) :=
  Pog.groupEndpoints_ops u ops g hg

/-- The hypotheses are satisfiable by an operation that carries two spellings of one tag. -/
example : (([⟨"a".toList, ["Users".toList, "users".toList, "admin-ops".toList]⟩, ⟨"b".toList, []⟩] : List TagOp).map (·.id)).Nodup ∧
    "users".toList ∈ tagsOrDefault ⟨"a".toList, ["Users".toList, "users".toList, "admin-ops".toList]⟩ := by
  repeat rw [String.toList_ofList]
  decide +kernel

/-- The former witness of F45: tags `Users` and `users` on the same operation used to emit its method twice into `UsersClient`. -/
theorem every_op_exactly_once_former_witness :
    (groupEndpoints UInfo.ascii [⟨"a".toList, ["Users".toList, "users".toList]⟩]).map (·.ops) = [["a".toList]] ∧
    groupEndpointsRaw UInfo.ascii [⟨"a".toList, ["Users".toList, "users".toList]⟩, ⟨"b".toList, ["x".toList, "USERS".toList]⟩]
      = some [⟨"users".toList, "USERS".toList, "users".toList, "UsersClient".toList, ["a".toList, "b".toList]⟩,
              ⟨"x".toList, "x".toList, "x".toList, "XClient".toList, ["b".toList]⟩] := by
  repeat rw [String.toList_ofList]
  decide +kernel

/-- **C07: each tag client is a property of `APIClient`**: the module names of the tag tuples, from which the properties are
    named (`ClientGen.tagAttr`), are, up to order (`sorted(tag_map)`), exactly the module names of the tag clients. -/
theorem tag_clients_reachable (u : UInfo) (ops : List TagOp) :
    ∃ L, clientProps u ops = some L ∧ L.Perm ((groupEndpoints u ops).map (·.module)) :=
  Pog.clientProps_perm u ops

/-- The module name determines the normalised key of an ASCII tag: `key = module without underscores`. -/
theorem tag_key_of_module (u : UInfo) (t : Str) (h : t.all isAscii = true) :
    normTagKey u t = (sanModule u t).filter (· != '_') :=
  Pog.normTagKey_eq_noUs_sanModule u t h

/-- **C07: tag modules are injective** on ASCII tags: equal module files imply equal normalised keys … -/
theorem tag_modules_injective (u : UInfo) (a b : Str) (ha : a.all isAscii = true) (hb : b.all isAscii = true)
    (h : sanModule u a = sanModule u b) : normTagKey u a = normTagKey u b := by
  rw [tag_key_of_module u a ha, tag_key_of_module u b hb, h]

/-- … so no two tag clients are written to the same `endpoints/<module>.py` (and no two `APIClient`
    properties collide) when every tag is ASCII. -/
theorem tag_module_files_distinct_partial (u : UInfo) (ops : List TagOp)
    (hascii : ∀ op ∈ ops, ∀ t ∈ op.tags, t.all isAscii = true) :
    ((groupEndpoints u ops).map (·.module)).Nodup :=
  Pog.groupEndpoints_modules_nodup u ops hascii

example : ∀ op ∈ ([⟨"a".toList, ["a1".toList, "a_1".toList, "User Group".toList]⟩] : List TagOp),
    ∀ t ∈ op.tags, t.all isAscii = true := by
  repeat rw [String.toList_ofList]
  decide +kernel

/-- CPython's view of `é`: a word character, lower-case of itself. -/
def uLatin : UInfo := { UInfo.ascii with word := fun c => c == 'é' }

/-- ✗ witness (non-ASCII): tags `aé` and `a` have different keys but the same module `a` — the second tag
    client overwrites `endpoints/a.py` of the first, and `APIClient` gets two properties named `a`. -/
theorem tag_module_files_distinct_counterexample :
    (groupEndpoints uLatin [⟨"x".toList, ["aé".toList]⟩, ⟨"y".toList, ["a".toList]⟩]).map
      (fun g => (g.key, g.module)) = [("aé".toList, "a".toList), ("a".toList, "a".toList)] := by
  repeat rw [String.toList_ofList]
  decide +kernel

/-! ### Mock grouping -/

/-- **`grouping_agree`** (F23 repaired; before the repair the mocks emitter grouped by FIRST tag, RAW string, and this was
    false for multi-tag operations, spelling variants of a tag and the empty tag): the list comprehension of
    `MocksEmitter._group_operations_by_tag` never raises, and the mock groups are exactly the groups of the endpoints emitter —
    same key, canonical tag, module, class and operations — taken in the order `sorted(keys)`.  Every operation list. -/
theorem grouping_agree (u : UInfo) (ops : List TagOp) :
    groupMocksRaw u ops = some (groupMocks u ops) ∧
    (groupMocks u ops).Perm (groupEndpoints u ops) ∧
    (surfaces (groupMocks u ops)).Perm (surfaces (groupEndpoints u ops)) ∧
    (groupMocks u ops).map (·.key) = sortKeys ((groupEndpoints u ops).map (·.key)) :=
  ⟨Pog.groupMocksRaw_eq u ops, Pog.groupMocks_perm u ops, (Pog.groupMocks_perm u ops).map _, Pog.groupMocks_keys u ops⟩

/-- Former witness of F23 (defect class `mock-groups-by-first-raw-tag`): an operation with two tags is a method of two tag
    clients and of two mock classes (before the repair `AdminOpsClient` had no mock at all). -/
theorem grouping_agree_former_witness_multi_tag :
    surfaces (groupEndpoints UInfo.ascii [⟨"a".toList, ["Users".toList, "admin-ops".toList]⟩]) =
      [("users".toList, "UsersClient".toList, ["a".toList]), ("admin_ops".toList, "AdminOpsClient".toList, ["a".toList])] ∧
    surfaces (groupMocks UInfo.ascii [⟨"a".toList, ["Users".toList, "admin-ops".toList]⟩]) =
      [("admin_ops".toList, "AdminOpsClient".toList, ["a".toList]), ("users".toList, "UsersClient".toList, ["a".toList])] := by
  repeat rw [String.toList_ofList]
  decide +kernel

/-- Former witness of F23 (defect class `mock-tag-case-variants-collide`): tags `Users` / `users` give ONE tag client and ONE mock
    group (before the repair: two mock groups with the same file and class, and `MockAPIClient` got the parameter `users` twice —
    `mock_client.py` was a `SyntaxError`). -/
theorem grouping_agree_former_witness_case_variants :
    surfaces (groupEndpoints UInfo.ascii [⟨"a".toList, ["Users".toList]⟩, ⟨"b".toList, ["users".toList]⟩]) =
      [("users".toList, "UsersClient".toList, ["a".toList, "b".toList])] ∧
    surfaces (groupMocks UInfo.ascii [⟨"a".toList, ["Users".toList]⟩, ⟨"b".toList, ["users".toList]⟩]) =
      [("users".toList, "UsersClient".toList, ["a".toList, "b".toList])] ∧
    mockClientProps UInfo.ascii [⟨"a".toList, ["Users".toList]⟩, ⟨"b".toList, ["users".toList]⟩] = ["users".toList] := by
  repeat rw [String.toList_ofList]
  decide +kernel

/-- Former witness of F23 (the empty tag): the empty tag `""` is the group `""` (file `.py`, class `UnnamedClassClient`) for the endpoints and for
    the mocks (before the repair: `default` for the mocks). -/
theorem grouping_agree_former_witness_empty_tag :
    surfaces (groupEndpoints UInfo.ascii [⟨"a".toList, [[]]⟩]) = [([], "UnnamedClassClient".toList, ["a".toList])] ∧
    surfaces (groupMocks UInfo.ascii [⟨"a".toList, [[]]⟩]) = [([], "UnnamedClassClient".toList, ["a".toList])] := by
  repeat rw [String.toList_ofList]
  decide +kernel

/-- **`mock_client_props`** (F23 repaired): `MockAPIClient` exposes the tag properties of `APIClient` — the module names of the
    tag tuples (from which both classes name the properties) are the same, in the same order (`for key in sorted(...)` in both) —
    for every operation list. -/
theorem mock_client_props (u : UInfo) (ops : List TagOp) : clientProps u ops = some (mockClientProps u ops) :=
  Pog.clientProps_eq_mock u ops

/-- The former witness: the second tag of an operation has its property on `MockAPIClient`. -/
theorem mock_client_props_former_witness :
    clientProps UInfo.ascii [⟨"a".toList, ["Users".toList, "admin-ops".toList]⟩] =
      some ["admin_ops".toList, "users".toList] ∧
    mockClientProps UInfo.ascii [⟨"a".toList, ["Users".toList, "admin-ops".toList]⟩] = ["admin_ops".toList, "users".toList] := by
  repeat rw [String.toList_ofList]
  decide +kernel

/-- Hence the mock files are pairwise distinct whenever the endpoint files are (ASCII tags, `tag_module_files_distinct_partial`). -/
theorem mock_module_files_distinct_partial (u : UInfo) (ops : List TagOp)
    (hascii : ∀ op ∈ ops, ∀ t ∈ op.tags, t.all isAscii = true) :
    ((groupMocks u ops).map (·.module)).Nodup :=
  ((Pog.groupMocks_perm u ops).map (·.module)).nodup_iff.2 (tag_module_files_distinct_partial u ops hascii)

end Pog.C13
