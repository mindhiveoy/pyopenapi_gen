import Pog.Gen.Imports
import Pog.Lemmas.Imports
/-
  C12 — the emitted package is self-contained.

  FULL STATEMENT: no file of an emitted package imports the generator or anything outside the standard library,
  httpx, cattrs, the emitted package itself and its designated core package; the runtime modules placed in the
  core package are byte-for-byte the runtime modules shipped with the generator.

  Proved here (the byte-for-byte half and the composition are checked end to end elsewhere): over the GENERATED tables
  of `Pog/Gen/Imports.lean` (re-checked by `decide +kernel` whenever they are regenerated from the Python source), that
  every import of a runtime file and every import pattern the generator requests with a literal argument or carries in a
  template is allowed, up to the listed exceptions, each with its witness; and, for all inputs, on the model of
  `RenderContext.add_import` and of CPython's relative-name resolution, that classification does not invent a generator
  import and that a relative import of a runtime file stays inside the core package.
-/
namespace Pog.C12
open Pog Pog.Imp

private def s (x : String) : Str := x.toList

/-- third-party distributions the emitted package may import -/
def allowedThirdParty : List Str := [s "httpx", s "cattrs"]

/-- `module.split(".")[0]` is a standard-library module of the running interpreter, httpx or cattrs. -/
def moduleAllowed (m : Str) : Bool :=
  Gen.stdlibModules.contains (topLevel m) || allowedThirdParty.contains (topLevel m)

/-- rows of `runtimeImports` that are absolute and NOT stdlib/httpx/cattrs — genuine findings. -/
def knownForeignRuntimeImports : List (Str × Nat × Nat × Str) :=
  [(s "utils.py", 0, 0, s "black")]

/-- absolute rows: allowed module (or listed finding); relative rows: `level ≤ depth + 1`. -/
def runtimeRowOK (r : Str × Nat × Nat × Str) : Bool :=
  if r.2.2.1 = 0 then moduleAllowed r.2.2.2 || knownForeignRuntimeImports.contains r
  else decide (r.2.2.1 ≤ r.2.1 + 1)

theorem runtime_table_ok : Gen.runtimeImports.all runtimeRowOK = true := by decide +kernel

/-- Every import statement (at any nesting) of every runtime file: an absolute one names a stdlib module,
    httpx or cattrs — or is one of `knownForeignRuntimeImports`; a relative one has at most `depth + 1` dots
    (it cannot leave the core package, see `relative_import_stays_in_core`). -/
theorem runtime_imports_allowed :
    ∀ r ∈ Gen.runtimeImports,
      (r.2.2.1 = 0 → moduleAllowed r.2.2.2 = true ∨ r ∈ knownForeignRuntimeImports) ∧
      (r.2.2.1 ≠ 0 → r.2.2.1 ≤ r.2.1 + 1) := by
  intro r hr
  have h := List.all_eq_true.mp runtime_table_ok r hr
  unfold runtimeRowOK at h
  constructor
  · intro h0
    rw [if_pos h0, Bool.or_eq_true] at h
    exact h.imp_right List.contains_iff_mem.mp
  · intro h0
    rw [if_neg h0] at h
    exact of_decide_eq_true h

/-- ✗ the exception is real: `core/utils.py` (copied verbatim into every client) imports `black`. -/
theorem runtime_imports_allowed_counterexample :
    (s "utils.py", 0, 0, s "black") ∈ Gen.runtimeImports ∧ moduleAllowed (s "black") = false := by
  decide +kernel

/-- … and it is the only one: every listed exception is a row of the table that is not allowed. -/
theorem known_foreign_runtime_imports_tight :
    ∀ r ∈ knownForeignRuntimeImports, r ∈ Gen.runtimeImports ∧ moduleAllowed r.2.2.2 = false := by
  decide +kernel

/-- A relative import with `level` dots (`1 ≤ level ≤ depth + 1`) written in a file `depth` directories below
    the core package resolves to a module of the core package — whatever the core package's own dotted path. -/
theorem relative_import_stays_in_core (core sub parts : List Str) (level : Nat)
    (hcore : core ≠ []) (h1 : 1 ≤ level) (h2 : level ≤ sub.length + 1) (hp : ∀ p ∈ parts, CompOK p) :
    ∃ rest, pyResolveRel (core ++ sub) (List.replicate level '.' ++ joinDots parts) = some (core ++ rest) := by
  obtain ⟨n, rfl⟩ : ∃ n, level = n + 1 := ⟨level - 1, by omega⟩
  have hc := List.length_pos_iff.mpr hcore
  rw [pyResolveRel_render (core ++ sub) parts n (by simp; omega) hp]
  refine ⟨sub.take (sub.length - n) ++ parts, ?_⟩
  rw [List.take_append, List.take_of_length_le (by simp; omega), List.append_assoc]
  congr 3
  simp; omega

example : pyResolveRel [s "out", s "shared_core", s "auth"] (s ".base") = some [s "out", s "shared_core", s "auth", s "base"] ∧
    pyResolveRel [s "out", s "shared_core"] (s ".auth.base") = some [s "out", s "shared_core", s "auth", s "base"] := by
  decide +kernel

def holePrefix : Str := s "{}"

/-- rows of `importPatterns` that are absolute, hole-free at the front and not stdlib/httpx/cattrs:
    * `from endpoints.{}`  — visit/client_visitor.py:195, the fallback when the context knows no generated package
                             name (never the case under `generate_client`); WOULD be a foreign absolute import;
    * `myapi.mocks`        — emitters/mocks_emitter.py: a usage example inside the DOCSTRING of `mocks/__init__.py`;
    * `statements`         — prose inside a docstring of import_collector.py; NOT a row of the present `Gen.importPatterns`
                             (the entry excuses nothing; the first two are rows of the table). -/
def knownNonEmittedPatterns : List (Str × Str) :=
  [(s "from", s "endpoints.{}"), (s "template", s "myapi.mocks"), (s "template", s "statements")]

def patternRowOK (r : Str × Str) : Bool :=
  startsWith r.2 ['.'] || startsWith r.2 holePrefix || moduleAllowed r.2 || knownNonEmittedPatterns.contains r

theorem pattern_table_ok : Gen.importPatterns.all patternRowOK = true := by decide +kernel

/-- Every module (pattern) the generator can pass to `add_import`/`add_plain_import`/`add_relative_import` with
    a literal or f-string argument, and every import line inside a string template, is relative, starts with a
    run-time hole (the core package or the output package), or names a stdlib module / httpx / cattrs — or is
    one of `knownNonEmittedPatterns`.  (No row mentions `pyopenapi_gen`: see `no_pattern_names_generator`.) -/
theorem emittable_imports_allowed :
    ∀ r ∈ Gen.importPatterns,
      startsWith r.2 ['.'] = true ∨ startsWith r.2 holePrefix = true ∨ moduleAllowed r.2 = true ∨
      r ∈ knownNonEmittedPatterns := by
  intro r hr
  simpa only [patternRowOK, Bool.or_eq_true, or_assoc, List.contains_iff_mem] using
    List.all_eq_true.mp pattern_table_ok r hr

/-- ✗ the fallback of client_visitor.py is a foreign absolute import should it ever run. -/
theorem emittable_imports_counterexample :
    (s "from", s "endpoints.{}") ∈ Gen.importPatterns ∧
    patternRowOK (s "from", s "endpoints.{}") = true ∧
    moduleAllowed (s "endpoints.{}") = false ∧ startsWith (s "endpoints.{}") ['.'] = false ∧
    startsWith (s "endpoints.{}") holePrefix = false := by
  decide +kernel

/-- No literal pattern and no runtime-file import names the generator package. -/
theorem no_pattern_names_generator :
    (∀ r ∈ Gen.importPatterns, topLevel r.2 ≠ s "pyopenapi_gen") ∧
    (∀ r ∈ Gen.runtimeImports, topLevel r.2.2.2 ≠ s "pyopenapi_gen") := by
  decide +kernel

/-- Whatever the context, the module text `add_import` hands to the `ImportCollector` has top-level package `g`
    (`g` non-empty, e.g. `pyopenapi_gen`) only if the REQUESTED module had, or the output package itself is
    `g.…` (the "incomplete path" fix prefixes the output package's own first component). -/
theorem classification_never_rewrites_to_generator (c : ImpCtx) (lm : Str) (name : Option Str)
    (isTyping : Bool) (m g : Str) (hg : g ≠ [])
    (h : (classifyImport c lm name isTyping).module? = some m) (hm : topLevel m = g) :
    topLevel lm = g ∨ ∃ o, c.outputPkg = some o ∧ topLevel o = g := by
  rcases ModuleFrom.classifyImport c lm name isTyping m h with rfl | ⟨rest, rfl⟩
  · rcases topLevel_fixModule c lm with h1 | ⟨o, ho, h1⟩
    · left; rw [← h1]; exact hm
    · right; exact ⟨o, ho, by rw [← h1]; exact hm⟩
  · rw [topLevel_dot] at hm
    exact absurd hm.symm hg

/-- Instance for the generator's own name. -/
theorem never_rewrites_to_pyopenapi_gen (c : ImpCtx) (lm : Str) (name : Option Str) (isTyping : Bool) (m : Str)
    (h : (classifyImport c lm name isTyping).module? = some m) (hm : topLevel m = s "pyopenapi_gen")
    (hout : ∀ o, c.outputPkg = some o → topLevel o ≠ s "pyopenapi_gen") :
    topLevel lm = s "pyopenapi_gen" := by
  rcases classification_never_rewrites_to_generator c lm name isTyping m _ (by decide) h hm with h1 | ⟨o, ho, h1⟩
  · exact h1
  · exact absurd h1 (hout o ho)

private def ctx0 : ImpCtx :=
  { corePkg := s "client.core", useAbs := true, outputPkg := some (s "client"),
    pkgRoot := some [s "tmp", s "client"], projectRoot := [s "tmp"],
    curFile := some [s "tmp", s "client", s "endpoints", s "pets.py"], tgtIsDir := false, builtinNames := [] }

example :
    classifyImport ctx0 (s "client.models.pet") (some (s "Pet")) false = .rel (s "..models.pet") (s "Pet") ∧
    classifyImport ctx0 (s "client.core.exceptions") (some (s "HTTPError")) false
      = .fromImport (s "client.core.exceptions") (s "HTTPError") ∧
    classifyImport ctx0 (s "json") (some (s "json")) false = .plain (s "json") ∧
    classifyImport ctx0 (s "requests") (some (s "get")) false = .fromImport (s "requests") (s "get") := by
  simp only [ctx0, s]
  -- string literals to character lists first: the kernel decodes a literal at a cost superlinear in its length
  repeat rw [String.toList_ofList]
  decide +kernel

end Pog.C12
