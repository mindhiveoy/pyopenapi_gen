import Pog.Lemmas.GenCode
import Pog.Props.Loader
import Pog.Lemmas.SanIdem
/-
  C04 — request fidelity of an emitted endpoint method.

  FULL STATEMENT: for every operation and every well-typed argument assignment, awaiting the generated method
  issues exactly one HTTP request with the operation's method, the path template with each path parameter
  substituted by the caller's value, each supplied query and header parameter under its original spec name, and
  a body whose content type and JSON equal the serialised argument.  Optional arguments left as None are
  omitted; no supplied argument is silently dropped or sent in a different location.

  Model: `Pog.GenCode.buildRequest` (Pog/Model/GenCode.lean) = parameter_processor + signature_generator +
  url_args_generator + request_generator (+ overload_generator / `_generate_implementation_method` for ≥ 2
  request media types), tied to the emitted code by `vf/corr/gencode.py`.  The model says which caller value goes into
  which slot of the one `transport.request(...)` call; the media type of the body is not part of it.

  Proved for every operation and call: at most one request, every dict entry stems from a parameter declared in that
  location, an optional argument left as None is omitted.  Proved for a well-typed call of an importable operation
  (`StdCall`, each field one excluded input class, each with a witness below): exactly one request with the method, the
  substituted path, the three dicts and the body keyword (`request_fidelity_partial`).  Former witnesses of repaired defects
  are kept as positive statements; `✗` marks a statement that is FALSE of the current code.  The loader's part of the
  property (which parameters an operation has) is in Pog/Props/Loader.lean.
-/
-- INDEX Pog.LoaderProps: parameters_order_and_count, parameters_carry_operation_id, parameters_operation_level_wins, parameters_override_former_witness, parameters_override_is_python_eq
namespace Pog.C04
open Pog Pog.GenCode

/-! ## the hypotheses of the partial theorems -/

/-- A well-typed call of an operation whose module can be imported - with one request media type, none, or (F12
    repaired) several.  Every field is one excluded input class. -/
structure StdCall (op : Op) (args : GArgs) : Prop where
  /-- the emitted module imports (`moduleOk`: distinct non-empty parameter names, text that survives the f-strings) -/
  importable : moduleOk op = true
  /-- only keywords of the signature, every required one present -/
  bound : bindOk (sigOf op) args = true
  /-- well-typed: the argument of a header or cookie parameter that is NOT declared integer / number / boolean is a
      string (httpx rejects anything else), unless optional and left out.  (F39 repaired: a parameter declared integer /
      number / boolean takes any value - it is sent as `str(value)`.) -/
  headerStr : ∀ p ∈ op.params, p.loc = .header ∨ p.loc = .cookie → p.kind = .plain →
    (argVal args p.ident).isStr = true ∨ (p.required = false ∧ argVal args p.ident = .none)
  /-- (one media type) not the `multipart/form-data; boundary=…` media-type key that makes the method read an unbound
      name -/
  bodyKnown : isMulti op = false →
    ∀ b mt, op.body = some b → primaryBody b.media = some (mt, .bytes) → GenCode.isInfix mtMultipart mt = false
  /-- (several media types) well-typed: a REQUIRED request body is given under one of the content-type keywords - they
      all default to `None` in the signature, the method checks at run time (`ValueError`) -/
  bodyGiven : isMulti op = true →
    (∃ b, dispatchBody args ((op.body.map (·.media)).getD []) = some b) ∨ (op.body.map (·.required)).getD true = false
  /-- (several media types) every `{var}` of the template is a parameter of the method - always, unless a variable is
      named like the body parameter of the single-content method that is no content-type keyword (`form_data`,
      `bytes_content`): `multi_path_vars_bound` -/
  pathBound : isMulti op = true → ∀ v ∈ pathVars op.path, sanMethod v ∈ (sigOf op).map (·.1)

/-- No parameter with an unknown `in` (the loader copies `in` verbatim; only path / query / header / cookie have a place
    in a request) and every declared path parameter occurs in the template. -/
structure AllSendable (op : Op) : Prop where
  knownLoc : ∀ p ∈ op.params, p.loc = .path ∨ p.loc = .query ∨ p.loc = .header ∨ p.loc = .cookie
  pathUsed : ∀ p ∈ op.params, p.loc = .path → p.name ∈ pathVars op.path

/-- The body keyword of the one transport call: `stdBody` in the single-content method, the branch of the runtime
    dispatch (`ovlBody`) in the implementation method for several media types. -/
def reqBody (op : Op) (args : GArgs) : Except CallErr BodyArg :=
  if isMulti op then ovlBody op args else stdBody op args

/-- The signature sanitises a parameter name twice, the URL f-string once: the same identifier, because
    `sanitize_method_name` is idempotent (`Pog.sanMethod_idempotent`). -/
theorem ident_eq (p : GParam) : p.ident = sanMethod p.name := sanMethod_idempotent p.name

theorem toS_query : GLoc.query.toS ≠ SLoc.path := by decide
theorem toS_header : GLoc.header.toS ≠ SLoc.path := by decide
theorem toS_cookie : GLoc.cookie.toS ≠ SLoc.path := by decide

theorem stdBody_ok {op : Op} {args : GArgs} (h : StdCall op args) (hs : isMulti op = false) :
    ∃ b, stdBody op args = .ok b := by
  unfold stdBody
  cases hb : op.body with
  | none => exact ⟨_, rfl⟩
  | some b =>
    simp only
    cases hp : primaryBody b.media with
    | none => exact ⟨_, rfl⟩
    | some mk =>
      obtain ⟨mt, k⟩ := mk
      cases k with
      | bytes =>
        have := h.bodyKnown hs b mt hb hp
        simp only [this]
        exact ⟨_, rfl⟩
      | _ => exact ⟨_, rfl⟩

theorem ovlBody_ok {op : Op} {args : GArgs} (h : StdCall op args) (hm : isMulti op = true) :
    ∃ b, ovlBody op args = .ok b := by
  unfold ovlBody
  rcases h.bodyGiven hm with ⟨b, hb⟩ | hopt
  · exact ⟨b, by rw [hb]⟩
  · cases hd : dispatchBody args ((op.body.map (·.media)).getD []) with
    | none => exact ⟨.none, by simp only [hopt, Bool.false_eq_true, if_false]⟩
    | some b => exact ⟨b, rfl⟩

theorem reqBody_ok {op : Op} {args : GArgs} (h : StdCall op args) : ∃ b, reqBody op args = .ok b := by
  unfold reqBody
  cases hm : isMulti op with
  | false => simpa using stdBody_ok h hm
  | true => simpa using ovlBody_ok h hm

/-- The values written through `_string_value_expr` for a well-typed call are all `str`. -/
theorem strEntries_isStr {op : Op} {args : GArgs} (h : StdCall op args) (loc : GLoc) (hl : loc.toS ≠ .path)
    (hloc : loc = .header ∨ loc = .cookie) :
    ∀ e ∈ strEntries loc.toS (orderedParams op) args, e.2.isStr = true := by
  intro e he
  obtain ⟨p, hp, hpl, rfl, hreq⟩ := (mem_strEntries_iff op args loc hl e).mp he
  cases hk : p.kind with
  | plain =>
    simp only [strValue]
    rcases h.headerStr p hp (by rw [hpl]; exact hloc) hk with hs | ⟨hr, hn⟩
    · exact hs
    · exact hreq.elim (fun hq => absurd (hr.symm.trans hq) nofun) (absurd hn)
  | num => rfl
  | bool => rfl

theorem headers_ok {op : Op} {args : GArgs} (h : StdCall op args) : headerValuesOk (stdHeaders op args) = true := by
  cases hh : stdHeaders op args with
  | none => rfl
  | some es =>
    have hes := stdHeaders_getD op args
    rw [hh, Option.getD_some] at hes
    subst hes
    exact List.all_eq_true.mpr (strEntries_isStr h .header toS_header (Or.inl rfl))

theorem cookies_ok {op : Op} {args : GArgs} (h : StdCall op args) : cookieValuesOk (stdCookies op args) = true := by
  cases hc : stdCookies op args with
  | none => rfl
  | some es =>
    have hes := stdCookies_getD op args
    rw [hc, Option.getD_some] at hes
    subst hes
    refine List.all_eq_true.mpr fun e he => ?_
    have := strEntries_isStr h .cookie toS_cookie (Or.inr rfl) e he
    cases hv : e.2 <;> simp_all [GValue.isStr, GValue.isOther]

/-- The transport call of a well-typed call goes through (no `TypeError` from httpx / http.cookiejar). -/
theorem sendRequest_ok {op : Op} {args : GArgs} (h : StdCall op args) (pieces : List Piece) (b : BodyArg) :
    sendRequest op args pieces b =
      .ok (⟨op.method, pieces, stdQuery op args, stdHeaders op args, b, stdCookies op args⟩ : Request) := by
  unfold sendRequest
  simp only [headers_ok h, cookies_ok h, Bool.not_true, Bool.false_eq_true, if_false]

/-- What a request that went out is made of. -/
theorem sendRequest_inv {op : Op} {args : GArgs} {pieces : List Piece} {b : BodyArg} {r : Request}
    (h : sendRequest op args pieces b = .ok r) :
    r.method = op.method ∧ r.path = pieces ∧ r.query = stdQuery op args ∧ r.headers = stdHeaders op args ∧
      r.cookies = stdCookies op args ∧ r.body = b := by
  unfold sendRequest at h
  split at h
  · cases h
  · split at h
    · cases h
    · simp only [Except.ok.injEq] at h
      subst h
      simp only [and_self]

/-- In the single-media method every `{var}` of the template is a parameter of the method (declared, or added
    by `_ensure_path_variables_as_params`): the URL f-string never reads an unbound name. -/
theorem url_ok (op : Op) (args : GArgs) :
    urlPieces ((orderedParams op).map (·.ident)) args op.path = .ok (substPath args op.path) := by
  apply urlPieces_ok
  intro v hv
  obtain ⟨q, hq, hqn⟩ := pathVar_has_param op v hv
  rw [← sanMethod_idempotent v]
  exact List.mem_map.mpr ⟨q, hq, by simp [PInfo.ident, hqn]⟩

/-! ### the path variables of the implementation method for several media types (F12 repaired) -/

theorem mem_dedupStr : ∀ (l seen : List Str) (x : Str), x ∈ l → x ∈ seen ∨ x ∈ dedupStr l seen
  | [], _, _, h => by cases h
  | y :: ys, seen, x, h => by
    simp only [dedupStr]
    by_cases hy : y ∈ seen
    · simp only [hy, if_true]
      rcases List.mem_cons.mp h with rfl | h'
      · exact Or.inl hy
      · exact mem_dedupStr ys seen x h'
    · simp only [hy, if_false]
      rcases List.mem_cons.mp h with rfl | h'
      · exact Or.inr (List.mem_cons_self ..)
      · rcases mem_dedupStr ys (y :: seen) x h' with h'' | h''
        · rcases List.mem_cons.mp h'' with rfl | h3
          · exact Or.inr (List.mem_cons_self ..)
          · exact Or.inl h3
        · exact Or.inr (List.mem_cons_of_mem _ h'')

/-- Every declared media type has its content-type keyword in the implementation signature. -/
theorem ctParam_mem_keywordOnly {media : List Str} {mt : Str} (h : mt ∈ media) : ctParam mt ∈ ovlKeywordOnly media := by
  unfold ovlKeywordOnly
  rcases mem_dedupStr (media.map ctParam) [] (ctParam mt) (List.mem_map_of_mem h) with h' | h'
  · cases h'
  · exact h'

/-- The body kinds `json` and `files` are chosen only when their media type is declared. -/
theorem primaryBody_kind {media : List Str} {mt : Str} {k : BodyKind} (h : primaryBody media = some (mt, k)) :
    (k = .json → mtJson ∈ media) ∧ (k = .files → mtMultipart ∈ media) := by
  unfold primaryBody at h
  -- `Prod.mk.injEq`, not `cases h`: `injection` evaluates the media-type literals
  by_cases h1 : mtMultipart ∈ media
  · simp only [if_pos h1, Option.some.injEq, Prod.mk.injEq] at h
    exact ⟨fun hk => absurd (h.2.trans hk) nofun, fun _ => h1⟩
  · by_cases h2 : mtJson ∈ media
    · exact ⟨fun _ => h2, fun hk => by simp [if_neg h1, if_pos h2, hk] at h⟩
    · refine ⟨fun hk => ?_, fun hk => ?_⟩ <;>
      · rw [if_neg h1, if_neg h2, hk] at h
        split at h
        · simp at h
        · split at h <;> simp at h

theorem primaryBody_json {media : List Str} {mt : Str} (h : primaryBody media = some (mt, .json)) : mtJson ∈ media :=
  (primaryBody_kind h).1 rfl

theorem primaryBody_files {media : List Str} {mt : Str} (h : primaryBody media = some (mt, .files)) :
    mtMultipart ∈ media :=
  (primaryBody_kind h).2 rfl

theorem bodyInfo_name {body : Option GBody} {taken : List Str} {q : PInfo} (h : q ∈ bodyInfo body taken) :
    ∃ b mt k, body = some b ∧ primaryBody b.media = some (mt, k) ∧ q.name = k.param := by
  unfold bodyInfo at h
  split at h
  · cases h
  · next b =>
    split at h
    · cases h
    · next mt k hpb =>
      split at h
      · cases h
      · simp only [List.mem_singleton] at h
        subst h
        exact ⟨b, mt, k, rfl, hpb, rfl⟩

/-- In the implementation method for several media types every `{var}` of the template is a parameter of the method
    (F12 repaired: the positional parameters are those of the single-content signature, path variables without a
    parameter object included) - unless the variable is named like the single-content body parameter that is NOT one
    of the content-type keywords (`form_data`, `bytes_content`; `files` and `body` are keywords whenever they are the
    body parameter's name). -/
theorem multi_path_vars_bound (op : Op) (hmulti : isMulti op = true) (v : Str) (hv : v ∈ pathVars op.path)
    (hne : sanMethod v ≠ "form_data".toList ∧ sanMethod v ≠ "bytes_content".toList) :
    sanMethod v ∈ (sigOf op).map (·.1) := by
  obtain ⟨q, hq, hqn⟩ := pathVar_has_param op v hv
  simp only [sigOf_multi hmulti, List.map_append, List.map_map, Function.comp_def, List.map_id', List.mem_append]
  by_cases hb : q.loc = .body
  · obtain ⟨b, mt, k, hbody, hpb, hname⟩ := bodyInfo_name (ordered_body_mem hq hb)
    rw [← hqn, hname, hbody, Option.map_some, Option.getD_some]
    -- `files` and `body` are content-type keywords whenever they name the body parameter
    cases k with
    | json => exact .inl (.inr (ctParam_mem_keywordOnly (primaryBody_json hpb)))
    | files => exact .inl (.inr (ctParam_mem_keywordOnly (primaryBody_files hpb)))
    | form => exact absurd (hqn.symm.trans hname) hne.1
    | bytes => exact absurd (hqn.symm.trans hname) hne.2
  · refine .inl (.inl ?_)
    unfold ovlPositional
    rw [List.map_map]
    refine List.mem_map.mpr ⟨q, List.mem_filter.mpr ⟨hq, by simpa using hb⟩, ?_⟩
    simp [PInfo.ident, hqn, sanMethod_idempotent]

theorem url_ok_multi {op : Op} {args : GArgs} (h : StdCall op args) (hm : isMulti op = true) :
    urlPieces ((sigOf op).map (·.1)) args op.path = .ok (substPath args op.path) :=
  urlPieces_ok _ args op.path (h.pathBound hm)

/-- The request of a well-typed call, in closed form - the same for an operation with one request media type and (F12
    repaired) with several: only the body keyword (`reqBody`) is chosen differently. -/
theorem buildRequest_std {op : Op} {args : GArgs} (h : StdCall op args) :
    ∃ b, reqBody op args = .ok b ∧
      buildRequest op args =
        .ok (⟨op.method, substPath args op.path, stdQuery op args, stdHeaders op args, b, stdCookies op args⟩ : Request) := by
  obtain ⟨b, hb⟩ := reqBody_ok h
  refine ⟨b, hb, ?_⟩
  unfold reqBody at hb
  unfold buildRequest
  cases hm : isMulti op with
  | false =>
    simp only [hm, Bool.false_eq_true, if_false] at hb
    simp only [h.importable, buildStd, h.bound, Bool.not_true, Bool.false_eq_true, if_false, url_ok op args, hb,
      sendRequest_ok h]
  | true =>
    simp only [hm, if_true] at hb
    simp only [h.importable, buildOvl, h.bound, Bool.not_true, Bool.false_eq_true, if_false, if_true,
      url_ok_multi h hm, hb, sendRequest_ok h]

/-! ## exactly one request -/

/-- Awaiting the method reaches the transport AT MOST once — for every operation and every argument
    assignment; and exactly once for a well-typed call - of an operation with one request media type or (F12, F62
    repaired) with several. -/
theorem exactly_one_request (op : Op) (args : GArgs) :
    (wire op args).length ≤ 1 ∧ (StdCall op args → (wire op args).length = 1) := by
  constructor
  · unfold wire; split <;> simp
  · intro h
    obtain ⟨b, _, hb⟩ := buildRequest_std h
    unfold wire
    rw [hb]
    rfl

/-- `PATCH /docs/{id}` whose OPTIONAL requestBody has two media types. -/
def exOptBody : Op :=
  ⟨"PATCH".toList, [.lit "/docs/".toList, .var "id".toList], [⟨"id".toList, .path, true, .plain⟩],
   some ⟨false, [mtJson, mtMultipart]⟩, [⟨.num 200, []⟩]⟩

/-- (an optional argument left as None is omitted)  The FORMER WITNESS of F62: called with the path argument only, the
    runtime dispatch used to end in `raise ValueError("One of the content-type parameters must be provided")` and no
    request was sent.  Since the repair the `else:` branch of an operation whose requestBody is not required sends the
    request without a body; with `required: true` the ValueError remains. -/
theorem optional_body_omitted_former_witness :
    buildRequest exOptBody [("id_".toList, .str "7".toList)] = .ok
      { method := "PATCH".toList, path := [.lit "/docs/".toList, .val (.str "7".toList)], query := none, headers := none,
        body := .none } ∧
    buildRequest { exOptBody with body := some ⟨true, [mtJson, mtMultipart]⟩ } [("id_".toList, .str "7".toList)]
      = .error .valueError := by
  decide +kernel

theorem exOptBody_stdCall : StdCall exOptBody [("id_".toList, .str "7".toList)] := by
  have hsig : sigOf exOptBody =
      [("id_".toList, true), ("body".toList, false), ("files".toList, false), ("content_type".toList, false)] := by
    decide +kernel
  exact {
    importable := by unfold moduleOk defNames; rw [hsig]; decide +kernel
    bound := by rw [hsig]; decide +kernel
    headerStr := by decide +kernel
    bodyKnown := fun h => absurd h (by decide)
    bodyGiven := fun _ => .inr (by decide)
    pathBound := by rw [hsig]; decide +kernel }

/-- The repair in general: a well-typed call of an operation with several request media types whose requestBody is
    OPTIONAL, made without any body keyword, sends its one request without a body. -/
theorem optional_body_can_be_omitted (op : Op) (args : GArgs) (h : StdCall op args) (hmulti : isMulti op = true)
    (hnone : dispatchBody args ((op.body.map (·.media)).getD []) = none) :
    ∃ r, wire op args = [r] ∧ r.body = .none := by
  obtain ⟨b, hb, hr⟩ := buildRequest_std h
  refine ⟨_, by unfold wire; rw [hr], ?_⟩
  unfold reqBody ovlBody at hb
  simp only [hmulti, if_true, hnone] at hb
  -- the request went out, so the final `else:` was not the `raise ValueError`
  split at hb
  · cases hb
  · exact (Except.ok.inj hb).symm

example : StdCall exOptBody [("id_".toList, .str "7".toList)] ∧ isMulti exOptBody = true ∧
    dispatchBody [("id_".toList, .str "7".toList)] ((exOptBody.body.map (·.media)).getD []) = none :=
  ⟨exOptBody_stdCall, by decide, by decide +kernel⟩

/-- `POST /pets/{petId}/toys` with a path-level header, an optional and a required query parameter, an optional header
    parameter and a JSON body. -/
def exOp : Op :=
  ⟨"POST".toList, parsePath "/pets/{petId}/toys".toList,
   irParams [⟨"X-Trace".toList, .header, false, .plain⟩]
     [⟨"petId".toList, .path, true, .num⟩, ⟨"limit".toList, .query, false, .num⟩, ⟨"sort-by".toList, .query, true, .plain⟩,
      ⟨"X-Depth".toList, .header, false, .num⟩],
   some ⟨true, [mtJson]⟩, [⟨.num 200, []⟩]⟩

def exArgs : GArgs :=
  [("pet_id".toList, .other "7".toList), ("sort_by".toList, .str "name".toList), ("x_depth".toList, .other "3".toList),
   ("body".toList, .other "B".toList)]

theorem exOp_stdCall : StdCall exOp exArgs := by
  have hsig : sigOf exOp =
      [("pet_id".toList, true), ("sort_by".toList, true), ("body".toList, true), ("x_trace".toList, false),
       ("limit".toList, false), ("x_depth".toList, false)] := by
    decide +kernel
  have hsingle : isMulti exOp ≠ true := by decide
  exact {
    importable := by unfold moduleOk defNames; rw [hsig]; decide +kernel
    bound := by rw [hsig]; decide +kernel
    headerStr := by decide +kernel
    bodyKnown := by
      intro _ b mt hb hp
      cases (Option.some.inj hb : (⟨true, [mtJson]⟩ : GBody) = b)
      have h2 : primaryBody [mtJson] = some (mtJson, .json) := by decide
      rw [h2] at hp
      cases hp
    bodyGiven := fun h => absurd h hsingle
    pathBound := fun h => absurd h hsingle }

example : buildRequest exOp exArgs = .ok
    { method := "POST".toList,
      path := [.lit "/pets/".toList, .val (.other "7".toList), .lit "/toys".toList],
      query := some [("sort-by".toList, .str "name".toList)],
      headers := some [("X-Depth".toList, .str "3".toList)],
      body := .json (.other "B".toList) } := by decide +kernel

/-! ## the three dicts in terms of the declared parameters -/

/-- The entries of `params`: one per query parameter that is required or was given a non-None value. -/
theorem mem_stdQuery_iff (op : Op) (args : GArgs) (e : Str × GValue) :
    e ∈ (stdQuery op args).getD [] ↔
      ∃ p ∈ op.params, p.loc = .query ∧ e = (p.name, argVal args p.ident) ∧
        (p.required = true ∨ argVal args p.ident ≠ .none) := by
  rw [stdQuery_getD]
  exact mem_entries_iff op args .query toS_query e

/-- The entries of `headers`: one per header parameter that is required or was given a non-None value, the value
    written through `_string_value_expr`. -/
theorem mem_stdHeaders_iff (op : Op) (args : GArgs) (e : Str × GValue) :
    e ∈ (stdHeaders op args).getD [] ↔
      ∃ p ∈ op.params, p.loc = .header ∧ e = (p.name, strValue p.kind (argVal args p.ident)) ∧
        (p.required = true ∨ argVal args p.ident ≠ .none) := by
  rw [stdHeaders_getD]
  exact mem_strEntries_iff op args .header toS_header e

/-- The entries of `cookies` (F11 repaired): one per cookie parameter that is required or was given a non-None value. -/
theorem mem_stdCookies_iff (op : Op) (args : GArgs) (e : Str × GValue) :
    e ∈ (stdCookies op args).getD [] ↔
      ∃ p ∈ op.params, p.loc = .cookie ∧ e = (p.name, strValue p.kind (argVal args p.ident)) ∧
        (p.required = true ∨ argVal args p.ident ≠ .none) := by
  rw [stdCookies_getD]
  exact mem_strEntries_iff op args .cookie toS_cookie e

/-- What a request that reached the transport is made of - for every operation (one or several request media types)
    and every call: the module imports and the three dicts are `stdQuery` / `stdHeaders` / `stdCookies`. -/
theorem buildRequest_inv {op : Op} {args : GArgs} {r : Request} (h : buildRequest op args = .ok r) :
    moduleOk op = true ∧ r.method = op.method ∧ r.query = stdQuery op args ∧ r.headers = stdHeaders op args ∧
      r.cookies = stdCookies op args := by
  unfold buildRequest at h
  split at h
  · cases h
  · next hm =>
    have hsend : ∃ pieces b, sendRequest op args pieces b = .ok r := by
      split at h
      · exact buildOvl_sends h
      · exact buildStd_sends h
    obtain ⟨_, _, hs⟩ := hsend
    obtain ⟨h1, _, h2, h3, h4, _⟩ := sendRequest_inv hs
    exact ⟨by simpa using hm, h1, h2, h3, h4⟩

/-- In an importable method the entries of a dict that stem from declared parameters (each required or given a non-None
    value) have no entry under the name of an optional parameter left as `None`: two declared parameters with the same
    original name are the same entry of `ordered_params`. -/
theorem no_entry_for_none {op : Op} {args : GArgs} (hm : moduleOk op = true)
    {p : GParam} (hp : p ∈ op.params) (hopt : p.required = false) (hnone : argVal args p.ident = .none)
    (val : GParam → GValue) {es : List (Str × GValue)}
    (hes : ∀ e ∈ es, ∃ p' ∈ op.params, e = (p'.name, val p') ∧ (p'.required = true ∨ argVal args p'.ident ≠ .none)) :
    ∀ e ∈ es, e.1 ≠ p.name := by
  intro e he hname
  obtain ⟨p', hp', rfl, hreq⟩ := hes e he
  have hname : p'.name = p.name := hname
  have hid : p'.ident = p.ident := by rw [GParam.ident, GParam.ident, hname]
  have hi : p'.info = p.info :=
    nonbody_ident_inj hm (info_mem_ordered op p' hp') (info_mem_ordered op p hp) (info_loc_ne_body p')
      (info_loc_ne_body p) (by rw [info_ident, info_ident, hid])
  rw [← info_required, hi, info_required, hid, hopt] at hreq
  exact hreq.elim nofun (· hnone)

/-- What the characterisation of a dict (`mem_stdQuery_iff`, …) gives in an importable method: every declared parameter
    of the location that is required or was given a non-None value has its entry; an optional one left as `None` has no
    entry under its name (two declared parameters with the same original name are the same entry of `ordered_params`);
    every entry stems from a parameter declared there. -/
theorem dict_fidelity {op : Op} {args : GArgs} (hm : moduleOk op = true) {loc : GLoc} {val : GParam → GValue}
    {es : List (Str × GValue)}
    (hes : ∀ e, e ∈ es ↔ ∃ p ∈ op.params, p.loc = loc ∧ e = (p.name, val p) ∧
      (p.required = true ∨ argVal args p.ident ≠ .none)) :
    (∀ p ∈ op.params, p.loc = loc → (p.required = true ∨ argVal args p.ident ≠ .none) → (p.name, val p) ∈ es) ∧
    (∀ p ∈ op.params, p.required = false → argVal args p.ident = .none → ∀ e ∈ es, e.1 ≠ p.name) ∧
    (∀ e ∈ es, ∃ p ∈ op.params, p.loc = loc ∧ e = (p.name, val p)) := by
  refine ⟨fun p hp hpl hreq => (hes _).mpr ⟨p, hp, hpl, rfl, hreq⟩, ?_, fun e he => ?_⟩
  · intro p hp hopt hnone
    refine no_entry_for_none hm hp hopt hnone val fun e he => ?_
    obtain ⟨p', hp', _, he', hreq⟩ := (hes e).mp he
    exact ⟨p', hp', he', hreq⟩
  · obtain ⟨p, hp, hpl, rfl, _⟩ := (hes e).mp he
    exact ⟨p, hp, hpl, rfl⟩

/-! ## fidelity -/

/-- C04 for the inputs the generator gets right: a well-typed call of an operation - with one request media type, none,
    or (F12 repaired) several - yields ONE request with
    * the operation's method,
    * the path template with every `{v}` replaced by the value bound to `sanitize_method_name(v)`,
    * a query (header, cookie) entry `original name ↦ value` for every query (header, cookie) parameter that is required
      or was given a non-None value - a header or cookie value in its string form when the parameter is declared integer /
      number / boolean -, no entry for an optional one left as None, and nothing else,
    * the body keyword of the primary media type carrying the value of the body parameter - for several media types:
      the keyword of the first media type (in spec order) whose content-type parameter was given, carrying that value,
      and no body when none was given and the requestBody is optional;
    and, when every parameter has one of the four locations and every path parameter occurs in the template, no supplied
    argument is dropped: every non-None value of a declared parameter is in the location the spec names. -/
theorem request_fidelity_partial (op : Op) (args : GArgs) (h : StdCall op args) :
    ∃ r, buildRequest op args = .ok r ∧ wire op args = [r] ∧
      r.method = op.method ∧
      r.path = substPath args op.path ∧
      -- query
      (∀ p ∈ op.params, p.loc = .query → (p.required = true ∨ argVal args p.ident ≠ .none) →
          (p.name, argVal args p.ident) ∈ r.query.getD []) ∧
      (∀ p ∈ op.params, p.loc = .query → p.required = false → argVal args p.ident = .none →
          ∀ e ∈ r.query.getD [], e.1 ≠ p.name) ∧
      (∀ e ∈ r.query.getD [], ∃ p ∈ op.params, p.loc = .query ∧ e = (p.name, argVal args p.ident)) ∧
      -- headers
      (∀ p ∈ op.params, p.loc = .header → (p.required = true ∨ argVal args p.ident ≠ .none) →
          (p.name, strValue p.kind (argVal args p.ident)) ∈ r.headers.getD []) ∧
      (∀ p ∈ op.params, p.loc = .header → p.required = false → argVal args p.ident = .none →
          ∀ e ∈ r.headers.getD [], e.1 ≠ p.name) ∧
      (∀ e ∈ r.headers.getD [], ∃ p ∈ op.params, p.loc = .header ∧ e = (p.name, strValue p.kind (argVal args p.ident))) ∧
      -- cookies
      (∀ p ∈ op.params, p.loc = .cookie → (p.required = true ∨ argVal args p.ident ≠ .none) →
          (p.name, strValue p.kind (argVal args p.ident)) ∈ r.cookies.getD []) ∧
      (∀ p ∈ op.params, p.loc = .cookie → p.required = false → argVal args p.ident = .none →
          ∀ e ∈ r.cookies.getD [], e.1 ≠ p.name) ∧
      (∀ e ∈ r.cookies.getD [], ∃ p ∈ op.params, p.loc = .cookie ∧ e = (p.name, strValue p.kind (argVal args p.ident))) ∧
      -- body
      reqBody op args = .ok r.body ∧
      (isMulti op = false → ∀ b k mt, op.body = some b → primaryBody b.media = some (mt, k) →
          r.body = mkBody (match k with | .json => BodyArg.json | .files => .files | .form => .data | .bytes => .data)
            (argVal args k.param)) ∧
      (op.body = none → r.body = .none) ∧
      (isMulti op = true → ∀ b, op.body = some b →
          dispatchBody args b.media = some r.body ∨
          (dispatchBody args b.media = none ∧ b.required = false ∧ r.body = .none)) ∧
      -- nothing dropped
      (AllSendable op → ∀ p ∈ op.params, argVal args p.ident ≠ .none →
          (p.loc = .path ∧ Piece.val (argVal args p.ident) ∈ r.path) ∨
          (p.loc = .query ∧ (p.name, argVal args p.ident) ∈ r.query.getD []) ∨
          (p.loc = .header ∧ (p.name, strValue p.kind (argVal args p.ident)) ∈ r.headers.getD []) ∨
          (p.loc = .cookie ∧ (p.name, strValue p.kind (argVal args p.ident)) ∈ r.cookies.getD [])) := by
  -- The request in closed form is `buildRequest_std`.  Its dicts are `stdQuery` / `stdHeaders` / `stdCookies`, whose
  -- entries `mem_std*_iff` characterise and `dict_fidelity` turns into the three clauses per dict; the body clauses
  -- read `reqBody op args = .ok b` backwards, branch by branch; nothing is dropped because every location has its dict.
  obtain ⟨b, hb, hr⟩ := buildRequest_std h
  obtain ⟨q1, q2, q3⟩ := dict_fidelity h.importable (mem_stdQuery_iff op args)
  obtain ⟨h1, h2, h3⟩ := dict_fidelity h.importable (mem_stdHeaders_iff op args)
  obtain ⟨c1, c2, c3⟩ := dict_fidelity h.importable (mem_stdCookies_iff op args)
  refine ⟨_, hr, by unfold wire; rw [hr], rfl, rfl, ?_, ?_, ?_, ?_, ?_, ?_, ?_, ?_, ?_, hb, ?_, ?_, ?_, ?_⟩
  -- the fields of the request record, projected once: the unifier would unfold `stdQuery` … against `{ .. }.query`
  all_goals dsimp only
  · exact q1
  · exact fun p hp _ => q2 p hp
  · exact q3
  · exact h1
  · exact fun p hp _ => h2 p hp
  · exact h3
  · exact c1
  · exact fun p hp _ => c2 p hp
  · exact c3
  · intro hs bd k mt hbd hpb
    unfold reqBody stdBody at hb
    simp only [hs, Bool.false_eq_true, if_false, hbd, hpb] at hb
    cases k with
    | bytes =>
      simp only [h.bodyKnown hs bd mt hbd hpb, Bool.false_eq_true, if_false, Except.ok.injEq] at hb
      exact hb.symm
    | _ => exact (Except.ok.inj hb).symm
  · intro hnb
    have hs : isMulti op = false := by simp [isMulti, hnb]
    unfold reqBody stdBody at hb
    simp only [hs, Bool.false_eq_true, if_false, hnb, Except.ok.injEq] at hb
    exact hb.symm
  · intro hm bd hbd
    unfold reqBody ovlBody at hb
    simp only [hm, if_true, hbd, Option.map_some, Option.getD_some] at hb
    split at hb
    · next hd =>
      split at hb
      · cases hb
      · next hreq => exact .inr ⟨hd, Bool.eq_false_iff.mpr hreq, (Except.ok.inj hb).symm⟩
    · next hd => exact .inl (hd.trans (congrArg some (Except.ok.inj hb)))
  · intro hs p hp hv
    rcases hs.knownLoc p hp with hl | hl | hl | hl
    · refine .inl ⟨hl, ?_⟩
      rw [ident_eq p]
      exact mem_substPath args op.path p.name (hs.pathUsed p hp hl)
    · exact .inr (.inl ⟨hl, q1 p hp hl (.inr hv)⟩)
    · exact .inr (.inr (.inl ⟨hl, h1 p hp hl (.inr hv)⟩))
    · exact .inr (.inr (.inr ⟨hl, c1 p hp hl (.inr hv)⟩))

example : StdCall exOp exArgs ∧ AllSendable exOp :=
  ⟨exOp_stdCall, ⟨by decide +kernel, by decide +kernel⟩⟩

/-- An optional query / header / cookie argument left as `None` never appears in the request — for EVERY operation
    (single- or multi-media) and every call that reaches the transport. -/
theorem optional_none_omitted (op : Op) (args : GArgs) (r : Request) (h : buildRequest op args = .ok r)
    (p : GParam) (hp : p ∈ op.params) (hopt : p.required = false) (hnone : argVal args p.ident = .none) :
    (p.loc = .query → ∀ e ∈ r.query.getD [], e.1 ≠ p.name) ∧
    (p.loc = .header → ∀ e ∈ r.headers.getD [], e.1 ≠ p.name) ∧
    (p.loc = .cookie → ∀ e ∈ r.cookies.getD [], e.1 ≠ p.name) := by
  obtain ⟨hm, _, h1, h2, h3⟩ := buildRequest_inv h
  rw [h1, h2, h3]
  exact ⟨fun _ => (dict_fidelity hm (mem_stdQuery_iff op args)).2.1 p hp hopt hnone,
    fun _ => (dict_fidelity hm (mem_stdHeaders_iff op args)).2.1 p hp hopt hnone,
    fun _ => (dict_fidelity hm (mem_stdCookies_iff op args)).2.1 p hp hopt hnone⟩

/-! ## cookie parameters (F11 repaired) -/

/-- `GET /me` with a required cookie parameter `session` and an optional integer one. -/
def exCookie : Op :=
  ⟨"GET".toList, [.lit "/me".toList],
   [⟨"session".toList, .cookie, true, .plain⟩, ⟨"page-size".toList, .cookie, false, .num⟩], none, [⟨.num 200, []⟩]⟩

/-- (cookie parameters are sent)  The FORMER WITNESS of F11: the cookie argument used to be accepted by the method and
    then dropped (no query, no headers, no body, no `cookies=` keyword).  Since the repair the method builds a `cookies`
    dict - the optional one left out when `None`, an integer in its string form - and passes `cookies=cookies`. -/
theorem cookie_sent_former_witness :
    buildRequest exCookie [("session".toList, .str "SECRET".toList)] = .ok
      { method := "GET".toList, path := [.lit "/me".toList], query := none, headers := none, body := .none,
        cookies := some [("session".toList, .str "SECRET".toList)] } ∧
    buildRequest exCookie [("session".toList, .str "SECRET".toList), ("page_size".toList, .other "20".toList)] = .ok
      { method := "GET".toList, path := [.lit "/me".toList], query := none, headers := none, body := .none,
        cookies := some [("session".toList, .str "SECRET".toList), ("page-size".toList, .str "20".toList)] } := by
  unfold exCookie
  repeat rw [String.toList_ofList]
  decide +kernel

/-- Nothing reaches the transport that the spec does not name — for EVERY operation and EVERY call: every query entry
    stems from a parameter declared `in: query`, every header entry from one declared `in: header`, every cookie entry
    from one declared `in: cookie` (no argument is sent in a different location). -/
theorem no_entry_without_parameter (op : Op) (args : GArgs) (r : Request) (h : buildRequest op args = .ok r) :
    (∀ e ∈ r.query.getD [], ∃ p ∈ op.params, p.loc = .query ∧ e = (p.name, argVal args p.ident)) ∧
    (∀ e ∈ r.headers.getD [], ∃ p ∈ op.params, p.loc = .header ∧ e = (p.name, strValue p.kind (argVal args p.ident))) ∧
    (∀ e ∈ r.cookies.getD [], ∃ p ∈ op.params, p.loc = .cookie ∧ e = (p.name, strValue p.kind (argVal args p.ident))) := by
  obtain ⟨hm, _, h1, h2, h3⟩ := buildRequest_inv h
  rw [h1, h2, h3]
  exact ⟨(dict_fidelity hm (mem_stdQuery_iff op args)).2.2, (dict_fidelity hm (mem_stdHeaders_iff op args)).2.2,
    (dict_fidelity hm (mem_stdCookies_iff op args)).2.2⟩

/-! ## several request media types (F12 repaired) -/

/-- `POST /upload/{id}` with a required query, an optional query, a required header and an optional cookie parameter,
    a path variable WITHOUT a parameter object, and two request media types. -/
def exMulti : Op :=
  ⟨"POST".toList, [.lit "/upload/".toList, .var "id".toList],
   [⟨"folder".toList, .query, true, .plain⟩, ⟨"limit".toList, .query, false, .num⟩,
    ⟨"X-Token".toList, .header, true, .plain⟩, ⟨"sid".toList, .cookie, false, .plain⟩],
   some ⟨true, [mtJson, mtMultipart]⟩, [⟨.num 200, []⟩]⟩

def exMultiArgs : GArgs :=
  [("id_".toList, .str "7".toList), ("folder".toList, .str "inbox".toList), ("x_token".toList, .str "t0k".toList),
   ("sid".toList, .str "s1".toList), ("body".toList, .other "B".toList)]

/-- (≥ 2 request media types: query and header arguments are sent)  The FORMER WITNESS of F12: the implementation
    method used to send `params=None, headers=None` (the supplied query and header arguments were dropped), did not
    accept the cookie parameter, had no default for the optional `limit` (leaving it out was a `TypeError`) and read
    the undeclared path variable `id` as an unbound name (`NameError`).  Since the repair the method is built like the
    single-content one: url / params / headers / cookies from `generate_url_and_args`, the positional parameters from
    `process_parameters`. -/
theorem multi_content_sends_query_former_witness :
    sigOf exMulti =
      [("folder".toList, true), ("x_token".toList, true), ("id_".toList, true), ("limit".toList, false),
       ("sid".toList, false), ("body".toList, false), ("files".toList, false), ("content_type".toList, false)] ∧
    buildRequest exMulti exMultiArgs
      = .ok { method := "POST".toList, path := [.lit "/upload/".toList, .val (.str "7".toList)],
              query := some [("folder".toList, .str "inbox".toList)],
              headers := some [("X-Token".toList, .str "t0k".toList)],
              body := .json (.other "B".toList),
              cookies := some [("sid".toList, .str "s1".toList)] } := by
  unfold exMulti exMultiArgs mtJson mtMultipart
  repeat rw [String.toList_ofList]
  decide +kernel

theorem exMulti_stdCall : StdCall exMulti exMultiArgs := by
  have hsig : sigOf exMulti =
      [("folder".toList, true), ("x_token".toList, true), ("id_".toList, true), ("limit".toList, false),
       ("sid".toList, false), ("body".toList, false), ("files".toList, false), ("content_type".toList, false)] := by
    decide +kernel
  exact {
    importable := by unfold moduleOk defNames; rw [hsig]; decide +kernel
    bound := by rw [hsig]; decide +kernel
    headerStr := by decide +kernel
    bodyKnown := fun h => absurd h (by decide)
    bodyGiven := fun _ => .inl ⟨.json (.other "B".toList), by decide +kernel⟩
    pathBound := by rw [hsig]; decide +kernel }

/-- `request_fidelity_partial` covers it: the hypotheses hold of a call of an operation with several media types. -/
example : StdCall exMulti exMultiArgs ∧ AllSendable exMulti ∧ isMulti exMulti = true :=
  ⟨exMulti_stdCall, ⟨by decide +kernel, by decide +kernel⟩, by decide⟩

/-- (≥ 2 media types: optional parameters are optional)  FORMER WITNESS (F12): an OPTIONAL parameter of such an
    operation used to have no default - leaving it out was a `TypeError`.  Now it defaults to `None` and is omitted. -/
theorem multi_content_optional_former_witness :
    buildRequest ⟨"POST".toList, [.lit "/upload".toList], [⟨"folder".toList, .query, false, .plain⟩],
        some ⟨true, [mtJson, mtMultipart]⟩, [⟨.num 200, []⟩]⟩ [("body".toList, .other "B".toList)]
      = .ok { method := "POST".toList, path := [.lit "/upload".toList], query := some [], headers := none,
              body := .json (.other "B".toList) } := by
  decide +kernel

/-- (≥ 2 media types: undeclared path variables work)  FORMER WITNESS (F12): a path variable without a parameter object
    used to be an unbound name (`NameError`) in the implementation method, while the single-media method adds it as a
    required `str` parameter.  Now both do. -/
theorem multi_content_undeclared_path_var_former_witness :
    buildRequest ⟨"POST".toList, [.lit "/a/".toList, .var "id".toList], [],
        some ⟨true, [mtJson, mtMultipart]⟩, [⟨.num 200, []⟩]⟩ [("id_".toList, .str "7".toList), ("body".toList, .other "B".toList)]
      = .ok { method := "POST".toList, path := [.lit "/a/".toList, .val (.str "7".toList)], query := none,
              headers := none, body := .json (.other "B".toList) } ∧
    buildRequest ⟨"POST".toList, [.lit "/a/".toList, .var "id".toList], [],
        some ⟨true, [mtJson]⟩, [⟨.num 200, []⟩]⟩ [("id_".toList, .str "7".toList), ("body".toList, .other "B".toList)]
      = .ok { method := "POST".toList, path := [.lit "/a/".toList, .val (.str "7".toList)], query := none,
              headers := none, body := .json (.other "B".toList) } := by
  decide +kernel

/-- What remains of `pathBound` (outside `multi_path_vars_bound`): a path variable named like the single-content body
    parameter that is no content-type keyword is added neither as a path parameter nor as a keyword - an unbound name. -/
theorem multi_content_path_var_named_form_data_witness :
    buildRequest ⟨"POST".toList, [.lit "/a/".toList, .var "form_data".toList], [],
        some ⟨true, [mtForm, "application/xml".toList]⟩, [⟨.num 200, []⟩]⟩ [("data".toList, .other "D".toList)]
      = .error .nameError := by
  unfold mtForm
  repeat rw [String.toList_ofList]
  decide +kernel

/-! ## repaired classes and what remains of them -/

/-- (OpenAPI: an operation-level parameter overrides the path-level one with the same name and location)  The FORMER
    WITNESS of F4: the loader used to concatenate both lists, the emitted `def` had a duplicate argument and the module
    did not compile.  Since the repair `irParams` drops the overridden path-level entry: the module compiles and the
    call is sent. -/
theorem path_level_override_former_witness :
    let op : Op := ⟨"GET".toList, [.lit "/a/".toList, .var "id".toList],
      irParams [⟨"id".toList, .path, true, .plain⟩] [⟨"id".toList, .path, true, .plain⟩], none, [⟨.num 200, []⟩]⟩
    op.params = [⟨"id".toList, .path, true, .plain⟩] ∧ moduleOk op = true ∧
    buildRequest op [("id_".toList, .str "7".toList)]
      = .ok { method := "GET".toList, path := [.lit "/a/".toList, .val (.str "7".toList)], query := none,
              headers := none, body := .none } := by
  repeat rw [String.toList_ofList]
  decide +kernel

/-- `irParams` yields no duplicate (name, location) when neither list has one: the source of duplicate arguments that
    remains is two DIFFERENT parameters whose names sanitise to one identifier (`moduleOk`). -/
theorem irParams_no_duplicate_key (pl ol : List GParam)
    (hp : pl.Pairwise (fun a b => ¬ (a.name = b.name ∧ a.loc = b.loc)))
    (ho : ol.Pairwise (fun a b => ¬ (a.name = b.name ∧ a.loc = b.loc))) :
    (irParams pl ol).Pairwise (fun a b => ¬ (a.name = b.name ∧ a.loc = b.loc)) := by
  refine List.pairwise_append.mpr ⟨hp.sublist List.filter_sublist, ho, ?_⟩
  intro a ha b hb
  simp only [List.mem_filter, Bool.not_eq_true', List.any_eq_false, Bool.and_eq_true, beq_iff_eq] at ha
  exact ha.2 b hb

example : ([⟨"id".toList, .path, true, .plain⟩, ⟨"id".toList, .query, false, .plain⟩] : List GParam).Pairwise
    (fun a b => ¬ (a.name = b.name ∧ a.loc = b.loc)) := by decide

/-- (every supplied header parameter is sent)  The FORMER WITNESS of F39: an integer-typed header argument used to be
    handed to httpx as an `int` (`TypeError`, nothing sent).  Since the repair the headers dict is written with
    `str(…)` for a parameter declared integer / number (`str(…).lower()` for boolean): the request goes out with the
    value's string form - and a boolean as `true`. -/
theorem nonstr_header_former_witness :
    buildRequest ⟨"GET".toList, [.lit "/a".toList],
        [⟨"X-Count".toList, .header, true, .num⟩, ⟨"X-Dry".toList, .header, false, .bool⟩], none, [⟨.num 200, []⟩]⟩
      [("x_count".toList, .other "5".toList), ("x_dry".toList, .other "True".toList)]
      = .ok { method := "GET".toList, path := [.lit "/a".toList], query := none,
              headers := some [("X-Count".toList, .str "5".toList), ("X-Dry".toList, .str "true".toList)],
              body := .none } := by
  repeat rw [String.toList_ofList]
  decide +kernel

/-- The repair in general: whatever the caller passes for a header parameter declared integer / number / boolean, the
    value written into the headers dict is a `str` - httpx's `Header value must be str or bytes` cannot be raised for
    it. -/
theorem typed_header_is_str (k : PKind) (v : GValue) (hk : k ≠ .plain) : (strValue k v).isStr = true := by
  cases k with
  | plain => exact absurd rfl hk
  | num => rfl
  | bool => rfl

/-- What remains of the class: a NON-string value for a header parameter that is not declared integer / number /
    boolean (an ill-typed call - `StdCall.headerStr` excludes it) is still rejected by httpx. -/
theorem nonstr_value_for_string_header_witness :
    buildRequest ⟨"GET".toList, [.lit "/a".toList], [⟨"X-Name".toList, .header, true, .plain⟩], none, [⟨.num 200, []⟩]⟩
      [("x_name".toList, .other "5".toList)] = .error .headerTypeError := by
  repeat rw [String.toList_ofList]
  decide +kernel

/-- ✗ (a body whose content type …) a declared parameter named `body` takes the place of the JSON body
    parameter: its value is sent in the query AND as the JSON body. -/
theorem body_name_collision_counterexample :
    buildRequest ⟨"POST".toList, [.lit "/a".toList], [⟨"body".toList, .query, true, .plain⟩], some ⟨true, [mtJson]⟩,
        [⟨.num 200, []⟩]⟩ [("body".toList, .str "Q".toList)]
      = .ok { method := "POST".toList, path := [.lit "/a".toList], query := some [("body".toList, .str "Q".toList)],
              headers := none, body := .json (.str "Q".toList) } := by
  decide +kernel

end Pog.C04
