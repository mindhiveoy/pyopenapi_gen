import Pog.Lemmas.SinksDoc
import Pog.Props.Dc
/-
  C15 — spec text can never alter the structure of generated code.

  The property: free text taken from the document (titles, summaries, descriptions, enum values, defaults,
  property names, parameter names, tags, discriminator values, media types) only ever appears in generated code
  as inert comment, docstring or string-literal content; whatever characters it contains, every file still
  parses, the set of classes, functions and statements is the same as for benign text, and literals that carry
  meaning (enum values, wire keys, header and query names) evaluate to exactly the original strings.

  It is false of the code: only `json.dumps` defaults and the alias docstring are escaped completely (the field
  comment replaces `\n` only, the `APIClient` description is cleaned of `"""` and `\`), the other sinks escape nothing.  This file
  states, per class of sink modelled in Pog/Model/Sinks.lean, for which texts the rendered sink is one inert token
  (exactly, where `_exact`; a sufficient class, where `_partial`), and gives the counterexamples.  "Is one token"
  and "evaluates to" are decided by M-pylex (Pog/Model/PyLex.lean).  The string default of a dataclass field as
  `_get_field_default` emits it is treated in Pog/Props/Dc.lean (INDEX line below).

  Trusted (correspondence only): M-pylex = CPython 3.12 tokenizer/string decoder; `jsonEscChar` =
  `json.dumps`; `splitLines`/`stripWs` = `str.splitlines`/`str.strip`; `textwrap` is a parameter.
-/
-- INDEX Pog.DcProps: str_default_is_one_literal, str_default_exact, str_default_partial, str_default_counterexample, default_str, default_bool, default_int, default_float
namespace Pog.C15
open Pog

/-- Each modelled literal sink pastes the text between two `"` and nothing else: every sink line of Pog/Model/Sinks.lean is
    `… ++ renderLit s ++ …`, which is what `literal_sink_exact` below speaks of. -/
theorem literal_sinks_shape (name value api py var schema : Str) :
    renderEnumMember name value = name ++ " = ".toList ++ renderLit value
    ∧ renderMetaEntry api py = renderLit api ++ ": ".toList ++ renderLit py ++ [',']
    ∧ renderDictKey name var = "    ".toList ++ renderLit name ++ ": DataclassSerializer.serialize(".toList ++ var ++ "),".toList
    ∧ renderDiscProp value = "    property_name: str = ".toList ++ renderLit value
    ∧ renderDiscPair value schema = "        (".toList ++ renderLit value ++ ", ".toList ++ renderLit schema ++ "),".toList
    ∧ renderDiscEntry value schema = "            ".toList ++ renderLit value ++ ": ".toList ++ schema ++ [',']
    ∧ renderLiteralCt value = "content_type: Literal[".toList ++ renderLit value ++ "] = ".toList ++ renderLit value :=
  ⟨rfl, rfl, rfl, rfl, rfl, rfl, rfl⟩

/-- EXACT: the pasted text is one `"…"` literal that evaluates to the original string iff it is `litSafe`. -/
theorem literal_sink_exact (s : Str) : evalStrLit (renderLit s) = some s ↔ litSafe s = true := by
  have h := litRun_safe_iff false s
  simp only [Bool.false_eq_true, if_false, List.nil_append] at h
  rw [litSafe, ← h]
  simp [evalStrLit, renderLit, evalStrLitCp, Option.bind_eq_some_iff, cpsToStr_eq_some_iff]

/-- Text without `"`, `\`, LF, CR, NUL is rendered correctly by `renderLit`, the way every modelled literal sink quotes it. -/
theorem literal_sink_partial (s : Str) (h : plainSafe s = true) : evalStrLit (renderLit s) = some s :=
  (literal_sink_exact s).mpr (litSafe_of_plainSafe s h)

-- Here and below a literal is first turned into its list of characters (`String.toList_ofList`):
-- evaluating `"…".toList` itself would mean decoding UTF-8 inside the kernel.
example : plainSafe "in-progress / done (50%) é漢😀 it's #1 {x} $ref\t".toList = true := by
  rw [String.toList_ofList]
  decide +kernel
example : litSafe "a\\d+\\.b".toList = true ∧ plainSafe "a\\d+\\.b".toList = false := by
  rw [String.toList_ofList]
  decide +kernel

/-- `a"b` closes the literal early: what follows is code. -/
theorem literal_sink_counterexample_quote : evalStrLit (renderLit "a\"b".toList) = none := by
  rw [String.toList_ofList]
  decide +kernel

/-- backslash + `n` (two characters in the document) comes back as ONE newline character. -/
theorem literal_sink_counterexample_escape :
    evalStrLit (renderLit "a\\nb".toList) = some "a\nb".toList ∧ "a\nb".toList ≠ "a\\nb".toList := by
  repeat rw [String.toList_ofList]
  decide +kernel

/-- a trailing backslash escapes the closing quote. -/
theorem literal_sink_counterexample_trailing_backslash : evalStrLit (renderLit "a\\".toList) = none := by
  rw [String.toList_ofList]
  decide +kernel

/-- a raw newline ends the physical line inside the literal. -/
theorem literal_sink_counterexample_newline : evalStrLit (renderLit "a\nb".toList) = none := by
  rw [String.toList_ofList]
  decide +kernel

/-- a Windows path: `\u` + non-hex is a syntax error. -/
theorem literal_sink_counterexample_bad_escape : evalStrLit (renderLit "C:\\users".toList) = none := by
  rw [String.toList_ofList]
  decide +kernel

/-- In endpoint modules every finished method is re-emitted through `write_block` (a `splitlines()` pass):
    a query/header name is safe there only if it ALSO contains none of the characters `str.splitlines`
    treats as line boundaries (`\x0b \x0c \x1c \x1d \x1e \x85 U+2028 U+2029`). -/
theorem endpoint_literal_partial (level : Nat) (s var : Str) (h1 : plainSafe s = true) (h2 : noLineBreak s = true)
    (h3 : noLineBreak var = true) :
    writeBlock level (renderDictKey s var) = spaces (4 * level) ++ renderDictKey s var
      ∧ evalStrLit (renderLit s) = some s :=
  ⟨writeBlock_line level _ (by unfold renderDictKey; rw [String.toList_ofList]; exact List.cons_ne_nil _ _) (dictKey_noLineBreak s var h2 h3),
    literal_sink_partial s h1⟩

example : plainSafe "X-Request-Id é漢 {x}".toList = true ∧ noLineBreak "X-Request-Id é漢 {x}".toList = true := by
  rw [String.toList_ofList]
  decide +kernel

/-- U+2028 in a parameter name: valid inside the literal as first rendered, but `write_block` cuts the
    literal in two physical lines — the endpoint module no longer parses. -/
theorem endpoint_literal_counterexample :
    evalStrLit (renderLit "a\u2028b".toList) = some "a\u2028b".toList
    ∧ writeBlock 1 (renderDictKey "a\u2028b".toList "a_b".toList)
        = "        \"a\n    b\": DataclassSerializer.serialize(a_b),".toList
    ∧ evalStrLit "\"a".toList = none := by
  unfold renderDictKey
  repeat rw [String.toList_ofList]
  decide +kernel

/-- A NUL character (JSON `"\u0000"`) pasted raw anywhere — literal, comment or docstring — makes CPython
    reject the whole file ("source code string cannot contain null bytes"); only `json.dumps` escapes it. -/
theorem nul_counterexample :
    evalStrLit (renderLit ['a', cNUL, 'b']) = none
    ∧ isOneCommentLine (renderFieldComment ['a', cNUL, 'b']) = false
    ∧ isOneTripleQuoted (renderAliasDoc ['a', cNUL, 'b']) = false
    ∧ isOneTripleQuoted (renderTagPropDoc ['a', cNUL, 'b']) = false
    ∧ evalStrLit (renderDefaultStr ['a', cNUL, 'b']) = some ['a', cNUL, 'b'] := by
  unfold renderAliasDoc renderTagPropDoc
  repeat rw [String.toList_ofList]
  decide +kernel

/-- Python reads `json.dumps(s)` back as exactly the UTF-16 code units of `s` — for every string. -/
theorem default_sink_codepoints (s : Str) : evalStrLitCp (renderDefaultStr s) = some (utf16Cps s) := by
  simp only [renderDefaultStr, evalStrLitCp]
  exact litRun_json s

/-- EXACT: the default evaluates to the original string iff it has no astral character. -/
theorem default_sink_exact (s : Str) : evalStrLit (renderDefaultStr s) = some s ↔ s.all isBmp = true := by
  simp only [evalStrLit, default_sink_codepoints, Option.bind_some]
  cases hb : s.all isBmp with
  | false => simp [cpsToStr_utf16_astral s hb]
  | true => simp [utf16Cps_bmp s hb, cpsToStr_strToCps]

/-- Within the BMP — quotes, backslashes, control characters, line ends, NUL included — defaults are exact. -/
theorem default_sink_partial (s : Str) (h : s.all isBmp = true) : evalStrLit (renderDefaultStr s) = some s :=
  (default_sink_exact s).mpr h

example : ("a\"b\\n\n\r\x00 \"\"\" é漢 \\u0041".toList).all isBmp = true := by
  rw [String.toList_ofList]
  decide +kernel

/-- 😀 comes back as the two lone surrogates U+D83D U+DE00 (`ensure_ascii=True` writes a surrogate pair). -/
theorem default_sink_counterexample :
    evalStrLitCp (renderDefaultStr "😀".toList) = some [0xd83d, 0xde00] ∧ evalStrLit (renderDefaultStr "😀".toList) = none := by
  rw [String.toList_ofList]
  decide +kernel

theorem field_line_shape (name typ desc : Str) (d : Option Str) (h : desc ≠ []) :
    renderFieldLine name typ d desc
      = name ++ ": ".toList ++ typ ++ (match d with | some x => " = ".toList ++ x | none => []) ++ ' ' :: ' ' :: renderFieldComment desc := by
  cases desc with
  | nil => exact absurd rfl h
  | cons c cs => cases d <;> simp [renderFieldLine]

/-- EXACT: the field comment is one comment token iff the description has no CR and no NUL (only `\n` is replaced). -/
theorem comment_sink_exact (s : Str) : isOneCommentLine (renderFieldComment s) = true ↔ noCrNul s = true := by
  rw [comment_iff]

theorem comment_sink_partial (s : Str) (h : noCrNul s = true) : isOneCommentLine (renderFieldComment s) = true :=
  (comment_sink_exact s).mpr h

example : noCrNul "line one\nline \"two\" \\ \x0c\u2028 # x".toList = true := by
  rw [String.toList_ofList]
  decide +kernel

/-- A carriage return ends the comment line: the rest of the description is parsed as code. -/
theorem comment_sink_counterexample : isOneCommentLine (renderFieldComment "a\rimport os".toList) = false := by
  rw [String.toList_ofList]
  decide +kernel

/-- EXACT for the one sink that escapes (type-alias docstring): one literal iff no NUL and the run of
    `"` at the END of the description has a length divisible by 3. -/
theorem alias_doc_exact (s : Str) :
    isOneTripleQuoted (renderAliasDoc s) = true ↔ (noNul s = true ∧ quoteRun 0 s = 0) := by
  rw [aliasDoc_iff]
  simp

/-- In particular: any description without NUL that does not END in `"` — backslashes, `"""` inside,
    newlines, trailing backslash are all fine. -/
theorem alias_doc_partial (s : Str) (h1 : noNul s = true) (h2 : s.getLast? ≠ some '"') :
    isOneTripleQuoted (renderAliasDoc s) = true := by
  rw [alias_doc_exact]
  refine ⟨h1, ?_⟩
  cases s with
  | nil => rfl
  | cons c cs => exact quoteRun_of_not_quote_end _ 0 h2 (by simp)

example : noNul "a \"\"\" b \\ \"quoted\" \\".toList = true ∧ ("a \"\"\" b \\ \"quoted\" \\".toList).getLast? ≠ some '"' := by
  rw [String.toList_ofList]
  decide +kernel

/-- A description ending in `"` gives `""""`: the literal ends one character early. -/
theorem alias_doc_counterexample : isOneTripleQuoted (renderAliasDoc "say \"hi\"".toList) = false := by
  unfold renderAliasDoc
  repeat rw [String.toList_ofList]
  decide +kernel

/-- One-line tag docstrings (`"""Client for '{tag}' endpoints."""`): clean tags only. -/
theorem tag_doc_partial (tag : Str) (h : docClean tag = true) :
    isOneTripleQuoted (renderTagPropDoc tag) = true ∧ isOneTripleQuoted (renderTagClassDoc tag) = true :=
  ⟨tagPropDoc_inert tag h, tagClassDoc_inert tag h⟩

example : docClean "pets & owners: it's 100% 'fine' #1\n{x} é漢😀".toList = true := by
  rw [String.toList_ofList]
  decide +kernel

theorem tag_doc_counterexample_triple_quote :
    isOneTripleQuoted (renderTagPropDoc "x\"\"\"\nimport os\n\"\"\"".toList) = false := by
  unfold renderTagPropDoc
  repeat rw [String.toList_ofList]
  decide +kernel

/-- a Windows path in a tag: `\U` + non-hex — the file does not parse. -/
theorem tag_doc_counterexample_bad_escape : isOneTripleQuoted (renderTagClassDoc "C:\\Users".toList) = false := by
  unfold renderTagClassDoc
  repeat rw [String.toList_ofList]
  decide +kernel

/-- Class / method docstrings written by `DocumentationWriter` (summary, description, Args, Returns,
    Raises), re-indented by `CodeWriter`: one literal for clean text, for every well-behaved textwrap. -/
theorem doc_sink_partial (W : Wrap) (hW : WrapSafe W) (d : DocBlock) (hd : d.Clean) (level : Nat) :
    isOneTripleQuoted (dropIndent (renderMethodDoc W level d)) = true :=
  emitDoc_inert W hW d hd level

theorem dataclass_doc_partial (W : Wrap) (hW : WrapSafe W) (className desc : Str) (fields : List (Str × Str × Str))
    (hn : docClean className = true) (hd : docClean desc = true)
    (hf : ∀ f ∈ fields, docClean f.1 = true ∧ docClean f.2.1 = true ∧ docClean f.2.2 = true) :
    isOneTripleQuoted (dropIndent (renderDataclassDoc W className desc fields)) = true :=
  emitDoc_inert W hW _ (dataclassBlock_clean className desc fields hn hd hf) 1

/-- Enum VALUES also end up in the class docstring (as the `Args:` names). -/
theorem enum_doc_partial (W : Wrap) (hW : WrapSafe W) (enumName desc : Str) (members : List (Str × Str))
    (hn : docClean enumName = true) (hd : docClean desc = true)
    (hm : ∀ m ∈ members, docClean m.1 = true ∧ docClean m.2 = true) :
    isOneTripleQuoted (dropIndent (renderEnumDoc W enumName desc "str".toList members)) = true :=
  emitDoc_inert W hW _ (enumBlock_clean enumName desc "str".toList members hn hd (by decide) hm) 1

/-- What `textwrap` does to a short text without blanks: one line, unchanged. -/
def wrapShort : Wrap := fun _ _ t => [t]

example : WrapSafe wrapShort := by
  intro w k t l hl c hc
  simp only [wrapShort, List.mem_singleton] at hl
  subst hl
  exact Or.inl hc

example : DedentSafe (fun t => t) := fun _ _ h => h

example : (⟨"List pets".toList, "it's 100% ok\n#1".toList, [⟨"limit".toList, some "int | None".toList, "max".toList⟩],
    some ("List[Pet]".toList, "pets".toList), [("HTTPError".toList, "404: none".toList)]⟩ : DocBlock).Clean := by
  repeat rw [String.toList_ofList]
  refine ⟨by decide, by decide, ?_, ?_, ?_⟩
  · exact List.forall_mem_singleton.mpr (DocArg.clean_mk _ _ _ (by decide) (by decide) (by decide))
  · intro r hr; cases hr; decide
  · exact List.forall_mem_singleton.mpr (by decide)

/-- `"""` in a schema description ends the class docstring early (the rest is parsed as code). -/
theorem doc_sink_counterexample_triple_quote :
    isOneTripleQuoted (dropIndent (renderDataclassDoc wrapShort "User".toList "a\"\"\"b".toList [])) = false := by
  repeat rw [String.toList_ofList]
  decide +kernel

/-- a Windows path in an operation summary. -/
theorem doc_sink_counterexample_bad_escape :
    isOneTripleQuoted (dropIndent (renderMethodDoc wrapShort 2 ⟨"C:\\new\\x".toList, [], [], none, []⟩)) = false := by
  rw [String.toList_ofList]
  decide +kernel

/-- an enum VALUE containing `"""` breaks the enum's docstring as well as its member line. -/
theorem enum_doc_counterexample :
    isOneTripleQuoted (dropIndent (renderEnumDoc wrapShort "E".toList "d".toList "str".toList [("A".toList, "\"\"\"".toList)])) = false := by
  unfold renderEnumDoc enumBlock
  repeat rw [String.toList_ofList]
  decide +kernel

/-- The `APIClient` docstring: title, version, description and tag names. -/
theorem client_doc_partial (W : Wrap) (hW : WrapSafe W) (D : Dedent) (hD : DedentSafe D)
    (title version desc : Str) (tags : List (Str × Str × Str))
    (h1 : docClean title = true) (h2 : docClean version = true) (h3 : docClean desc = true)
    (ht : ∀ t ∈ tags, docClean t.1 = true ∧ docClean t.2.1 = true ∧ docClean t.2.2 = true) :
    isOneTripleQuoted (dropIndent (renderClientDoc W D title version desc tags)) = true :=
  clientDoc_inert W hW D hD title version desc tags h1 h2 h3 ht

/-- The description is cleaned (`"""` → `'`, `\` → `\\`), the TITLE is not. -/
theorem client_doc_counterexample_title :
    isOneTripleQuoted (dropIndent (renderClientDoc wrapShort (fun t => t) "My \"\"\"API\"\"\"".toList "1.0".toList [] [])) = false := by
  unfold renderClientDoc clientDocLines clientBlock clientSummary
  repeat rw [String.toList_ofList]
  decide +kernel

/-- … whereas the same text in the description is harmless. -/
theorem client_doc_description_example :
    isOneTripleQuoted (dropIndent (renderClientDoc wrapShort (fun t => t) "My API".toList "1.0".toList "a \"\"\"b\"\"\" C:\\users\\x".toList [])) = true := by
  unfold renderClientDoc clientDocLines clientBlock clientSummary
  repeat rw [String.toList_ofList]
  decide +kernel

end Pog.C15
