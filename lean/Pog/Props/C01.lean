import Pog.Props.C20
import Pog.Props.ClientGen
import Pog.Props.Dc
import Pog.Props.Resolve
import Pog.Lemmas.Imports
import Pog.Lemmas.Annot
import Pog.Lemmas.AliasCover
/-
  C01 — every accepted spec yields a package that compiles and imports.

  FULL STATEMENT: for every document the generator accepts and every layout/naming strategy, every
  emitted file parses and every emitted module imports with only httpx/cattrs available; every name in a
  generated `__all__` resolves.

  The generator as a whole is not modelled.  Proved here are the mechanisms the property's anchors
  name; their composition (that every template requests the imports it uses, import order between
  model modules) is only searched by the end-to-end oracle.  Label: partial.

  (a) Relative imports.  "CPython resolves `make_relative_import(cur, tgt)`, inside the importing file's `__package__`, to
      `tgt`" is FALSE of `make_relative_import` in general: it is proved for a regular module and for an `__init__` under
      hypotheses, with a witness for each excluded case.  `make_relative_import` is reached only through
      `ImportCollector.get_import_statements`, whose only caller is `emit/models_emitter.py` — a module nothing imports.
      The live path (`RenderContext.add_import` → `calculate_relative_path_for_internal_module`, rendered by
      `get_formatted_imports`) works on the FILE SYSTEM directory of the current file, which IS its `__package__` for
      modules and `__init__.py` alike: proved in full (`calcRel_resolves`, `calcRel_none_iff`).
  (b) Name de-collision: restated from C20.
  (c) Annotation text (`_format_resolved_type`): a formatted annotation whose parts are evaluable is evaluable, except
      `None | None` (the condition is exact); the optional marker of a text that is ONE string literal - a quoted forward
      reference - is placed inside the quotes, `"Node | None"` (F1).
  (d) Exception aliases: every alias class an endpoint raises and imports is generated (F3).
-/
/-
  C01, glue "every name an annotation uses has an import request" for the schema type resolver (Pog/Model/Resolve.lean,
  `OpenAPISchemaResolver.resolve_schema`, tied by vf/corr/resolve.py; tables `formatMapping` / `formatImports` regenerated from the
  source): proved in Pog/Props/Resolve.lean and claimed here.
  Every unquoted name of a resolved annotation is a builtin or was passed to `add_import` (for every schema tree, registry,
  current file), except on the two bare returns, which are kept as counterexamples; every format's python type is a builtin
  or imported (evaluation over the regenerated table); a quoted forward reference WITHOUT import is produced only inside
  `models/<stem>.py` (F60: an endpoint module named like a model imports the model).
-/
-- INDEX Pog.ResolveProps: format_table_ok, format_table_cover, resolve_imports_cover_partial, resolve_imports_cover_counterexample_named_no_stem, resolve_imports_cover_counterexample_enum_underlying, resolve_imports_cover_counterexample_enum_nameless, self_import_only_in_models_package, named_forward_ref_iff_self_import, no_forward_ref_outside_models, resolve_monotone_fuel
/-
  C01 for the dataclass body (Pog/Model/Dc.lean mirrors `DataclassGenerator.generate`, `_get_field_default` and the field ordering of
  `PythonConstructRenderer.render_dataclass`; tied by vf/corr/dc.py; proved in Pog/Props/Dc.lean, claimed here):
  In the emitted class body no field without a default follows a field with a default; the name-collision loop terminates and
  `generate` raises exactly as stated there; an enum default is rendered as a lookup BY VALUE (F53); no attribute of a generated
  class is called `field` (F5).
-/
-- INDEX Pog.DcProps: rendered_defaults_last, render_order_defaults_last, render_order_is_identity, field_line_shape, generate_never_diverges, generate_value_error_iff, generate_default_factory_counterexample, generate_ok_partial, enum_default_member_counterexample, enum_default_expr_by_value, default_enum_expr, default_enum_str_expr, enum_default_member_exact, enum_default_member_partial, enum_default_member_in_enum_partial, enum_default_wrong_member_counterexample, int_enum_default_never_identifier, no_field_named_field, field_property_keeps_wire_key, field_shadow_former_witness
/-
  C01, the argument list of an endpoint method (Pog/Model/Loader.lean `mergeParams`; proved in Pog/Props/Loader.lean, claimed here):
  A parameter declared at path level AND at operation level (same name, same `in`) is ONE parsed parameter, so the emitted `def`
  gets no duplicate argument from an override (F4).
-/
-- INDEX Pog.LoaderProps: parameters_no_duplicate_key, parameters_override_former_witness
/-
  C01, mocks/mock_client.py (Pog/Model/ClientGen.lean; claimed from Pog/Props/ClientGen.lean):
  The `__init__` body of MockAPIClient is never empty (F31: `pass` for a document without operations).
-/
-- INDEX Pog.ClientGenProps: mock_init_body_never_empty, mock_client_compiles_when_no_operation
namespace Pog.C01
open Pog Pog.Imp Pog.Annot Pog.AliasCover

/-- Mechanism (b): class names are pairwise distinct after de-collision, for every list of schema names
    (so no two models are written to one class). -/
theorem decollide_class_names_nodup (names : List Str) :
    ∃ l, classNames names = some l ∧ l.Nodup ∧ l.length = names.length :=
  Pog.C20.class_names_nodup names

/-- Mechanism (b): module stems are pairwise distinct (no two models share a file). -/
theorem decollide_module_stems_nodup (u : UInfo) (names : List Str) :
    ∃ l, moduleStems u names = some l ∧ l.Nodup ∧ l.length = names.length :=
  Pog.C20.module_stems_nodup u names

/-- Every class name is an identifier (and, by `C20.class_name_valid`, no keyword: a `class <name>:` line always parses). -/
theorem class_name_is_identifier (s : Str) : isPyIdent (sanClass s) = true :=
  Pog.C20.class_name_is_identifier s

/-- `make_relative_import`, importing file = REGULAR MODULE `cur` (so `__package__ = dir(cur)`):
    for well-formed dotted paths, if `cur` has a non-empty directory whose first component (the top-level
    package) is also the first component of `tgt`, and `tgt` is not a strict descendant of `cur`, then
    CPython resolves the computed relative name to `tgt`. -/
theorem relImport_resolves (cur tgt : List Str) (hc : PathOK cur) (ht : PathOK tgt)
    (top : Str) (d t : List Str) (hdir : cur.dropLast = top :: d) (htgt : tgt = top :: t)
    (hnd : ¬ ∃ r, r ≠ [] ∧ tgt = cur ++ r) :
    pyResolveRel cur.dropLast (relImport (joinDots cur) (joinDots tgt)) = some tgt := by
  apply relImport_resolves_parts cur tgt hc ht _ hnd
  rw [hdir, htgt]
  simp [commonLen]

private def s (x : String) : Str := x.toList

/-- `pkg/endpoints/pets.py` importing `pkg.models.pet`: the hypotheses hold, the answer is `..models.pet`. -/
example : relImport (s "pkg.endpoints.pets") (s "pkg.models.pet") = s "..models.pet" ∧
    pyResolveRel [s "pkg", s "endpoints"] (relImport (joinDots [s "pkg", s "endpoints", s "pets"])
      (joinDots [s "pkg", s "models", s "pet"])) = some [s "pkg", s "models", s "pet"] :=
  ⟨by decide +kernel,
   relImport_resolves [s "pkg", s "endpoints", s "pets"] [s "pkg", s "models", s "pet"] (by decide +kernel) (by decide +kernel)
    (s "pkg") [s "endpoints"] [s "models", s "pet"] (by decide +kernel) (by decide +kernel)
    (by rintro ⟨r, _, h⟩; exact absurd (List.cons.inj (List.cons.inj h).2).1 (by decide +kernel))⟩

/-- ✗ `is_direct_package_import` fires for a regular module `a.b` importing `a.b.c`: the answer `.c`
    resolves to `a.c`. (Cannot arise on a real file system unless both `a/b.py` and `a/b/` exist.) -/
theorem relImport_descendant_counterexample :
    relImport (s "a.b") (s "a.b.c") = s ".c" ∧
    pyResolveRel [s "a"] (relImport (s "a.b") (s "a.b.c")) = some [s "a", s "c"] := by
  decide +kernel

/-- ✗ different top-level packages: `a.x` importing `b.y` gets `..b.y`, an ImportError
    ("attempted relative import beyond top-level package"). -/
theorem relImport_toplevel_counterexample :
    relImport (s "a.x") (s "b.y") = s "..b.y" ∧
    pyResolveRel [s "a"] (relImport (s "a.x") (s "b.y")) = none := by
  decide +kernel

/-- ✗ a top-level module has no parent package: `x` importing `y` gets `.y`, an ImportError. -/
theorem relImport_nodir_counterexample :
    relImport (s "x") (s "y") = s ".y" ∧ pyResolveRel [] (relImport (s "x") (s "y")) = none := by
  decide +kernel

/-- `make_relative_import`, importing file = `__init__.py` of package `cur` (which
    `get_current_module_dot_path` reports as `cur`, while `__package__ = cur`): the
    `is_direct_package_import` special case is right for every strict descendant. -/
theorem relImport_init_descendant (cur r : List Str) (hc : PathOK cur) (hr : PathOK r) :
    pyResolveRel cur (relImport (joinDots cur) (joinDots (cur ++ r))) = some (cur ++ r) := by
  have ht : PathOK (cur ++ r) :=
    ⟨by simp [hc.1], fun p hp => (List.mem_append.mp hp).elim (hc.2 p) (hr.2 p)⟩
  have hcl : commonLen cur.dropLast (cur ++ r) = cur.dropLast.length := by
    conv => lhs; arg 2; rw [← List.dropLast_concat_getLast hc.1, List.append_assoc]
    exact commonLen_prefix _ _
  unfold relImport
  simp only [hc.split, ht.split, hcl, Nat.sub_self, if_true]
  have hd : startsWith (joinDots (cur ++ r)) (joinDots cur ++ ['.']) = true :=
    (startsWith_joinDots_iff cur (cur ++ r) hc ht).mpr ⟨r, hr.1, rfl⟩
  have hlen : cur.length < (cur ++ r).length := by
    rw [List.length_append]
    exact Nat.lt_add_of_pos_right (List.length_pos_iff.mpr hr.1)
  simp only [hd, hlen, decide_true, Bool.and_self, if_true, List.drop_left']
  simpa [List.replicate] using pyResolveRel_render cur r 0 (List.length_pos_iff.mpr hc.1) hr.2

/-- ✗ … and wrong for everything else: `pkg/models/__init__.py` importing `pkg.client` gets `.client`,
    which CPython resolves to `pkg.models.client`. -/
theorem relImport_init_counterexample :
    relImport (s "pkg.models") (s "pkg.client") = s ".client" ∧
    pyResolveRel [s "pkg", s "models"] (relImport (s "pkg.models") (s "pkg.client"))
      = some [s "pkg", s "models", s "client"] := by
  decide +kernel

/-- The LIVE mechanism, `calculate_relative_path_for_internal_module`: the current file is
    `P/rootc/sub/fname` (any file name, `__init__.py` included), the package root `P/rootc`, the target the
    module `tparts` below the package root (a directory or a `.py` file, `isDir`).  Whatever is returned
    resolves, inside the current file's `__package__ = rootc.sub`, to `rootc.tparts`. -/
theorem calcRel_resolves (P rootc sub tparts : List Str) (fname : Str) (isDir : Bool)
    (hroot : rootc ≠ []) (ht : PathOK tparts) (hC : ∀ c ∈ rootc ++ sub, CompOK c) (rel : Str)
    (h : calcRel (P ++ rootc ++ sub ++ [fname]) (P ++ rootc) tparts isDir = some rel) :
    pyResolveRel (rootc ++ sub) rel = some (rootc ++ tparts) := by
  unfold calcRel at h
  split at h
  · cases h
  · obtain ⟨l, hl1, hl2, htake, hrc⟩ := relComponents_std P rootc sub tparts fname isDir ht hC
    have hq : ∀ q ∈ (rootc ++ tparts).drop l, CompOK q := fun q hq =>
      (List.mem_append.mp (List.mem_of_mem_drop hq)).elim (fun h1 => hC q (List.mem_append_left _ h1)) (ht.2 q)
    rw [hrc, relToDotted_std _ _ hq] at h
    cases h
    have hr : rootc.length ≠ 0 := fun e => hroot (List.length_eq_zero_iff.mp e)
    rw [pyResolveRel_render (rootc ++ sub) _ _ (by omega) hq]
    have : (rootc ++ sub).length - ((rootc ++ sub).length - l) = l := by omega
    rw [this, htake, List.take_append_drop]

/-- `pkg/models/__init__.py` importing `pkg.client` (the case `make_relative_import` gets wrong): `..client`. -/
example : pyResolveRel [s "pkg", s "models"] (s "..client") = some [s "pkg", s "client"] :=
  calcRel_resolves [s "tmp"] [s "pkg"] [s "models"] [s "client"] (s "__init__.py") false (by decide +kernel) (by decide +kernel)
    (by decide +kernel) (s "..client") (by decide +kernel)

/-- `mocks/endpoints/mock_pets.py` importing `models.pet`; `client.py` importing the package `endpoints`. -/
example :
    calcRel [s "tmp", s "pkg", s "mocks", s "endpoints", s "mock_pets.py"] [s "tmp", s "pkg"] [s "models", s "pet"] false
      = some (s "...models.pet") ∧
    calcRel [s "tmp", s "pkg", s "client.py"] [s "tmp", s "pkg"] [s "endpoints"] true = some (s ".endpoints") ∧
    calcRel [s "tmp", s "pkg", s "models", s "pet.py"] [s "tmp", s "pkg"] [s "models", s "pet"] false = none := by
  simp only [s]
  -- string literals to character lists first: the kernel decodes a literal at a cost superlinear in its length
  repeat rw [String.toList_ofList]
  decide +kernel

/-- `None` is returned exactly for the self-import (target file = current file). -/
theorem calcRel_none_iff (curFile root tparts : List Str) (isDir : Bool) :
    calcRel curFile root tparts isDir = none ↔ curFile = targetAbs root tparts isDir := by
  unfold calcRel; split <;> simp_all

/-- The tree-level model renders to exactly the text `_format_resolved_type` returns. -/
theorem format_text_agrees (r : Resolved) :
    (formatResolved r).map render = formatText (render r.ty) r.isOptional r.isForwardRef := by
  unfold formatResolved formatText
  split
  · rfl
  · simp only [Option.map_some, Option.some.injEq]
    rw [← render_quoteIfFwd]
    split
    · split
      · rw [render_quoted]; simp
      · rw [render_bor, render_none, List.append_assoc]; rfl
    · rfl

/-- The former witness of F1, an optional self-reference: `ResolvedType("Node", is_optional, is_forward_ref)` is now formatted as
    `"Node | None"` - one string literal, which evaluates (it was `"Node" | None`, a `TypeError` when the class body is executed). -/
theorem annotation_evaluable_former_witness :
    evalOK (.name (s "Node")) = true ∧
    formatText (s "Node") true true = some (s "\"Node | None\"") ∧
    (formatResolved ⟨.name (s "Node"), true, true⟩).map render = some (s "\"Node | None\"") ∧
    (formatResolved ⟨.name (s "Node"), true, true⟩).map evalOK = some true := by
  decide +kernel

/-- The same through a union: an optional `anyOf`/`oneOf` whose ONLY member is the schema itself (the resolver hands over the
    already quoted `"Node"` with `is_forward_ref = False`). -/
theorem annotation_evaluable_former_witness_union :
    (formatResolved (resolveTree (.union [.model (s "Node") true]) false)).map render = some (s "\"Node | None\"") ∧
    (formatResolved (resolveTree (.union [.model (s "Node") true]) false)).map evalOK = some true := by
  decide +kernel

/-- If the resolved type evaluates (to kind `k`), a forward reference is a bare name (no `"` inside), and
    NOT (optional ∧ not a forward reference ∧ `k` is `None`), the formatted annotation evaluates. -/
theorem annotation_evaluable_partial (r : Resolved) (k : Kind) (hk : evalKind r.ty = some k)
    (hq : r.isForwardRef = true → '"' ∉ render r.ty)
    (hc : ¬ (r.isOptional = true ∧ r.isForwardRef = false ∧ k = .noneV))
    (a : Ann) (ha : formatResolved r = some a) : evalOK a = true :=
  format_evaluable r k hk (fun h => hq (Bool.and_eq_true _ _ ▸ h).1) (fun hopt h => hc ⟨hopt, h⟩) a ha

/-- optional `List["Node"]`: kind `alias`, not a forward reference — the hypotheses hold. -/
example : evalOK (.bor (.sub (.name (s "List")) [.quoted (s "Node")]) .none_) = true :=
  annotation_evaluable_partial ⟨.sub (.name (s "List")) [.quoted (s "Node")], true, false⟩ .alias (by decide +kernel)
    (by intro h; cases h) (by decide +kernel) _ rfl

/-- optional forward reference `Node` (the class of finding F1): the hypotheses hold. -/
example : evalOK (.quoted (s "Node | None")) = true :=
  annotation_evaluable_partial ⟨.name (s "Node"), true, true⟩ .ty (by decide +kernel) (by intro _; decide +kernel)
    (by decide +kernel) _ rfl

/-- The class F1 was about, at full strength: an OPTIONAL FORWARD REFERENCE whose text is a bare name (whatever it evaluates
    to) is formatted to an annotation that evaluates - for every such `ResolvedType`. -/
theorem optional_forward_ref_evaluable (r : Resolved) (k : Kind) (hk : evalKind r.ty = some k)
    (hf : r.isForwardRef = true) (hq : '"' ∉ render r.ty)
    (a : Ann) (ha : formatResolved r = some a) : evalOK a = true :=
  annotation_evaluable_partial r k hk (fun _ => hq) (fun h => by rw [hf] at h; cases h.2.1) a ha

/-- `Node`, optional, forward reference: the hypotheses hold, the annotation is `"Node | None"`. -/
example : evalOK (.quoted (s "Node | None")) = true :=
  optional_forward_ref_evaluable ⟨.name (s "Node"), true, true⟩ .ty (by decide +kernel) rfl (by decide +kernel) _ rfl

/-- … and an optional base that is already a string literal (what `_resolve_any_of` / `_resolve_one_of` return for a single
    self-referencing member): evaluable for every literal. -/
theorem optional_string_literal_evaluable (q : Str) (hq : '"' ∉ q) (opt fwd : Bool)
    (a : Ann) (ha : formatResolved ⟨.quoted q, opt, fwd⟩ = some a) : evalOK a = true :=
  -- a text that already starts with a quote is not quoted again, forward reference or not
  format_evaluable ⟨.quoted q, opt, fwd⟩ .strV (evalKind_quoted q hq)
    (fun h => by simp [render_quoted, startsWith] at h) (fun _ h => by cases h.2) a ha

example : evalOK (.quoted (s "Node | None")) = true :=
  optional_string_literal_evaluable (s "Node") (by decide +kernel) true false _ rfl

/-- The excluded class really fails: optional ∧ not a forward reference ∧ the base is `None` is formatted to `None | None`,
    which CPython cannot evaluate (no resolver returns the text `None`; recorded as a function-level hazard). -/
theorem annotation_not_evaluable (r : Resolved) (hk : evalKind r.ty = some .noneV)
    (hopt : r.isOptional = true) (hf : r.isForwardRef = false) :
    ∃ a, formatResolved r = some a ∧ evalOK a = false := by
  obtain ⟨ty, o, f⟩ := r
  simp only at hk hopt hf
  have hty := evalKind_noneV hk
  subst hty hopt hf
  exact ⟨.bor .none_ .none_, by rfl, by decide +kernel⟩

example : ∃ a, formatResolved ⟨.none_, true, false⟩ = some a ∧ evalOK a = false :=
  annotation_not_evaluable ⟨.none_, true, false⟩ (by decide +kernel) rfl rfl

/-- Arrays of the schema itself are fine, optional or not: `List["Node"]`, `List["Node"] | None`. -/
theorem array_of_self_evaluable (item : Resolved) (k : Kind) (hk : evalKind item.ty = some k)
    (hq : item.isForwardRef = true → '"' ∉ render item.ty) (required : Bool)
    (a : Ann) (ha : formatResolved (listOf item required) = some a) : evalOK a = true := by
  obtain ⟨k', hk', _⟩ := evalKind_quoteIfFwd hk (fun h => hq (Bool.and_eq_true _ _ ▸ h).1)
  refine format_evaluable (listOf item required) .alias (evalKind_list _ _ hk') ?_ ?_ a ha
  · intro h; simp [listOf] at h
  · intro _ h; cases h.2

example : (formatResolved (resolveTree (.arr (.model (s "Node") true)) false)).map render
    = some (s "List[\"Node\"] | None") := by decide +kernel

/-- `aliases_cover_raises` at full strength (F3 repaired: a declared 1xx/3xx status raises the base class instead of importing a
    non-existent `Error<code>`): every alias class that some operation's handler raises and imports IS generated - for all
    specs (`ops` = the numeric response codes of each operation). -/
theorem aliases_cover_raises (ops : List (List Nat)) (op : List Nat) (hop : op ∈ ops)
    (c : Nat) (hc : c ∈ raisedCodes op) :
    aliasName c ∈ generatedAliases ops.flatten := by
  have h := (mem_raisedCodes c op).mp hc
  unfold generatedAliases
  apply List.mem_map_of_mem
  rw [mem_generatedCodes]
  exact ⟨List.mem_flatten.mpr ⟨op, hop, h.1⟩, h.2.2⟩

/-- … and every declared 4xx/5xx code IS raised through its alias (its text never starts with `2`). -/
theorem error_codes_are_raised (op : List Nat) (c : Nat) (hc : c ∈ op) (herr : isErrorCode c = true) :
    c ∈ raisedCodes op :=
  (mem_raisedCodes c op).mpr ⟨hc, error_code_not_2xx_text c herr, herr⟩

example : aliasName 404 ∈ generatedAliases [[200, 404], [201, 503]].flatten :=
  aliases_cover_raises [[200, 404], [201, 503]] [200, 404] (by decide +kernel) 404 (by decide +kernel)

example : raisedAliases [200, 404, 503] = [s "NotFoundError", s "ServiceUnavailableError"] ∧
    generatedAliases [200, 404, 503] = [s "NotFoundError", s "ServiceUnavailableError"] := by
  simp only [s]
  repeat rw [String.toList_ofList]
  decide +kernel

/-- The shapes of finding F3: a declared redirect / informational code raises no alias. -/
theorem declared_non_error_codes_raise_no_alias :
    raisedAliases [200, 302] = [] ∧ generatedAliases [200, 302] = [] ∧
    raisedAliases [101, 404] = [s "NotFoundError"] ∧ generatedAliases [101, 404] = [s "NotFoundError"] := by
  decide +kernel

end Pog.C01
