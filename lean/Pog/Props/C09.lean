import Pog.Lemmas.Diff
import Pog.Lemmas.Fresh
import Pog.Lemmas.PlanRuns
/-
  C09 — generating twice from the same document and options produces byte-identical file trees;
  a re-run without force over an up-to-date output reports no differences and succeeds; when the
  existing output differs from what would be generated now, the non-force run fails.

  Models: `Pog/Model/Diff.lean` (`_show_diffs`, import rendering, `models/__init__.py`, path variables) and
  `Pog/Model/Plan.lean` (both paths of `generate`).  Three groups of results.  Rendering of `set` / `dict` valued state:
  the import block is a function of the SET of calls, `models/__init__.py` of the set of schemas when their names are
  distinct (a `_counterexample` otherwise), the parameters added for undeclared path variables of the set of variables.
  The non-force decision: the exact condition `_show_diffs` tests; the full statement "no differences iff the trees are
  the same" is FALSE of the code, with a `_counterexample` per ignored difference (missing, extra and non-`.py` files,
  line endings, an empty old tree) and a `_partial` theorem for trees with the same `*.py` paths.  Force path against
  diff path: the id de-duplication is idempotent; on three demonstration projects the tree a force run writes is compared
  with the tree the diff path builds, and a non-force re-run is carried through `runGenerate` - it fails with an explicit
  `core_package` (the rich `__init__.py` exists only on the force path); with a shared core the registry on disk and
  the empty one of the diff path give different alias sets.  An `example` after a theorem shows that its hypotheses can
  be met together.
-/
namespace Pog.C09
open Pog Pog.Diff Pog.Plan

/-- `get_import_statements()` and `get_formatted_imports()` give the same text for any two call
    sequences that are permutations of each other — whatever the file context. -/
theorem imports_order_independent (ctx : ImpCtx) {xs ys : List ImpOp} (h : xs.Perm ys) :
    importStatements ctx xs = importStatements ctx ys ∧ formattedImports ctx xs = formattedImports ctx ys :=
  ⟨importStatements_congr ctx (fun _ => h.mem_iff), formattedImports_congr ctx (fun _ => h.mem_iff)⟩

/-- Stronger: they are functions of the SET of calls (repeating a call changes nothing either). -/
theorem imports_set_function (ctx : ImpCtx) {xs ys : List ImpOp} (h : ∀ o, o ∈ xs ↔ o ∈ ys) :
    importStatements ctx xs = importStatements ctx ys ∧ formattedImports ctx xs = formattedImports ctx ys :=
  ⟨importStatements_congr ctx h, formattedImports_congr ctx h⟩

example : ([.imp "typing".toList "List".toList, .plain "os".toList, .imp "typing".toList "Any".toList] : List ImpOp).Perm
    [.imp "typing".toList "Any".toList, .imp "typing".toList "List".toList, .plain "os".toList] := by decide +kernel

/-- a concrete rendering, to show the model is not vacuous -/
example :
    importStatements ⟨[], some "my.client.models.pet".toList, some "my.client".toList, some "my.core".toList⟩
      [.imp "typing".toList "List".toList, .imp "os".toList "os".toList, .imp "typing".toList "Any".toList,
       .imp "my.client.models.user".toList "User".toList, .imp "my.core.auth".toList "BaseAuth".toList,
       .rel ".x".toList "Y".toList]
    = ["import os".toList, "from .user import User".toList, "from my.core.auth import BaseAuth".toList,
       "from typing import Any, List".toList, "from .x import Y".toList] := by
  -- literals as character lists first: decoding a string literal costs the kernel time quadratic in its length
  repeat rw [String.toList_ofList]
  decide +kernel

/-- `models/__init__.py` does not depend on the iteration order of `parsed_schemas` when the
    schemas that are exported have pairwise distinct `IRSchema.name`s (the sort key). -/
theorem init_exports_order_independent {xs ys : List InitSchema} (h : xs.Perm ys)
    (hn : ((xs.filter initCand).map (·.name)).Nodup) : initExports xs = initExports ys :=
  initExports_perm h hn

example : (([⟨"Pet".toList, "Pet".toList, "pet".toList, false⟩, ⟨"User".toList, "User".toList, "user".toList, false⟩]
    : List InitSchema).filter initCand |>.map (·.name)).Nodup := by decide +kernel

/-- ✗ without the hypothesis: two schemas whose (sanitised) `name` is the same — `Pet` and `Pet_`
    both become `Pet` in `IRSchema.__post_init__` — are emitted in dict order (stable sort). -/
theorem init_exports_duplicate_name_counterexample :
    let a : InitSchema := ⟨"Pet".toList, "Pet".toList, "pet".toList, false⟩
    let b : InitSchema := ⟨"Pet".toList, "Pet2".toList, "pet_2".toList, false⟩
    [a, b].Perm [b, a] ∧ initExports [a, b] ≠ initExports [b, a] := by
  repeat rw [String.toList_ofList]
  decide +kernel

/-! ## path variables: the `set` of URL variables is iterated in sorted order (F18) -/

/-- `extract_url_variables` returns a `set`; `_ensure_path_variables_as_params` iterates `sorted(url_vars)`, so the parameter list
    (and with it the generated signature) is a function of the SET of variables: whatever order the set is handed over in
    (`PYTHONHASHSEED`), the result is the same.  All inputs. -/
theorem url_vars_order_independent (declared : List ParamInfo) {xs ys : List Str} (h : ∀ v, v ∈ xs ↔ v ∈ ys) :
    codeParams declared xs = codeParams declared ys := by
  unfold codeParams
  rw [sortU_congr h]

/-- The input of F18: two undeclared variables, handed over in either order. -/
theorem url_vars_order_independent_example :
    codeParams [] ["user".toList, "tenant".toList] = codeParams [] ["tenant".toList, "user".toList] ∧
    codeParams [] ["user".toList, "tenant".toList] =
      [⟨"tenant".toList, true, "tenant".toList⟩, ⟨"user".toList, true, "user".toList⟩] := by
  repeat rw [String.toList_ofList]
  decide +kernel

/-- Why the `sorted(...)` is needed: the loop itself (`finalParams`, fed an arbitrary iteration order) gives two different parameter
    lists for two different orders of undeclared variables with distinct sanitised names - ALWAYS. -/
theorem url_vars_loop_is_order_sensitive (declared : List ParamInfo) (xs ys : List Str)
    (hx1 : ∀ v ∈ xs, sanMethod v ∉ declared.map (·.name)) (hx2 : (xs.map sanMethod).Nodup)
    (hy1 : ∀ v ∈ ys, sanMethod v ∉ declared.map (·.name)) (hy2 : (ys.map sanMethod).Nodup) :
    finalParams declared xs = finalParams declared ys ↔ xs = ys := by
  constructor
  · intro h
    rw [finalParams_fresh _ _ hx1 hx2, finalParams_fresh _ _ hy1 hy2] at h
    exact (List.map_inj_right fun _ _ => mkPathVar_injective).1 (List.append_cancel_left (List.append_cancel_right h))
  · rintro rfl; rfl

example : (∀ v ∈ ["tenant".toList, "user".toList], sanMethod v ∉ ([] : List ParamInfo).map (·.name)) ∧
    (["tenant".toList, "user".toList].map sanMethod).Nodup := by
  repeat rw [String.toList_ofList]
  decide +kernel

/-- `extract_url_variables` on a template with four variables. -/
example : extractUrlVars "/t/{tenant}/u/{user}/{}/{a{b}".toList
    = ["tenant".toList, "user".toList, "a{b".toList] := by
  repeat rw [String.toList_ofList]
  decide +kernel

/-- The exact condition under which `_show_diffs(old, new)` returns `False` (= "no differences"):
    it ranges over the `*.py` files of NEW, skips those missing from OLD, and compares
    `read_text().splitlines()`. -/
theorem show_diffs_exact (old new : Tree) :
    showDiffs old new = false ↔
      ∀ p c, (p, c) ∈ new → isPyFile p = true → ∀ oc, old.lookup p = some oc → pyLines oc = pyLines c :=
  showDiffs_eq_false_iff old new

/-- FULL STATEMENT ✗:  `showDiffs old new = false ↔ ∀ p, old.lookup p = new.lookup p`.
    It holds in this form: for trees with the same set of paths, all of them `*.py`, "no
    differences" is equality of the trees modulo `splitlines()`. -/
theorem noforce_success_iff_equal_partial (old new : Tree)
    (hnew : (new.map (·.1)).Nodup)
    (hsame : ∀ p, p ∈ old.map (·.1) ↔ p ∈ new.map (·.1))
    (hpy : ∀ p ∈ new.map (·.1), isPyFile p = true) :
    showDiffs old new = false ↔ ∀ p, (old.lookup p).map pyLines = (new.lookup p).map pyLines :=
  showDiffs_eq_false_iff_of_same_py old new hnew hsame hpy

example :
    let t : Tree := [(["client.py".toList], "x = 1\n".toList), (["models".toList, "pet.py".toList], "y\n".toList)]
    (t.map (·.1)).Nodup ∧ (∀ p ∈ t.map (·.1), isPyFile p = true) := by decide +kernel

/-- ✗ the existing tree LACKS a file that would be generated: no difference is reported. -/
theorem noforce_ignores_missing_file_counterexample :
    let old : Tree := [(["client.py".toList], "x\n".toList)]
    let new : Tree := [(["client.py".toList], "x\n".toList), (["models".toList, "pet.py".toList], "class Pet: ...\n".toList)]
    showDiffs old new = false ∧ old.lookup ["models".toList, "pet.py".toList] ≠ new.lookup ["models".toList, "pet.py".toList] := by
  decide +kernel

/-- ✗ the existing tree has an EXTRA (stale) module: no difference is reported. -/
theorem noforce_ignores_extra_file_counterexample :
    let old : Tree := [(["client.py".toList], "x\n".toList), (["models".toList, "stale.py".toList], "class Stale: ...\n".toList)]
    let new : Tree := [(["client.py".toList], "x\n".toList)]
    showDiffs old new = false ∧ old.lookup ["models".toList, "stale.py".toList] ≠ new.lookup ["models".toList, "stale.py".toList] := by
  decide +kernel

/-- ✗ files that are not `*.py` are never compared. -/
theorem noforce_ignores_non_py_counterexample :
    let old : Tree := [(["py.typed".toList], "partial\n".toList), (["core".toList, "README.md".toList], "old".toList),
                       (["core".toList, ".exception_registry.json".toList], "{}".toList)]
    let new : Tree := [(["py.typed".toList], [] ), (["core".toList, "README.md".toList], "new".toList),
                       (["core".toList, ".exception_registry.json".toList], "{\"a\": [404]}".toList)]
    showDiffs old new = false ∧ (∀ e ∈ new, old.lookup e.1 ≠ some e.2) := by
  repeat rw [String.toList_ofList]
  decide +kernel

/-- ✗ byte differences that `splitlines()` erases: CRLF terminators, a missing final newline, a
    form feed in place of a newline. -/
theorem noforce_ignores_line_endings_counterexample :
    let old : Tree := [(["a.py".toList], "x = 1\r\ny = 2".toList), (["b.py".toList], "p\x0cq\n".toList)]
    let new : Tree := [(["a.py".toList], "x = 1\ny = 2\n".toList), (["b.py".toList], "p\nq".toList)]
    showDiffs old new = false ∧ (∀ e ∈ new, old.lookup e.1 ≠ some e.2) := by
  repeat rw [String.toList_ofList]
  decide +kernel

/-- ✗ the extreme case: an existing but EMPTY output package "has no differences" with anything. -/
theorem noforce_empty_old_tree_counterexample (new : Tree) : showDiffs [] new = false := by
  rw [show_diffs_exact]
  intro p c _ _ oc hoc
  cases hoc

/-- … while a real change of a `*.py` line IS detected (the decision is not constantly `False`). -/
example : showDiffs [(["client.py".toList], "x = 1\n".toList)] [(["client.py".toList], "x = 2\n".toList)] = true := by
  decide +kernel

/-- The decision of the diff path: `has_diff_client or has_diff_core`, the core directory being
    compared separately only `if core_dir != out_dir`. -/
theorem noforce_decision (oldOut newOut oldCore newCore : Tree) (distinct : Bool) :
    noForceHasDiff oldOut newOut oldCore newCore distinct = false ↔
      showDiffs oldOut newOut = false ∧ (distinct = true → showDiffs oldCore newCore = false) := by
  cases distinct <;> simp [noForceHasDiff]

/-- `EndpointsEmitter.emit` renames operation ids IN PLACE (`_deduplicate_operation_ids_globally`), so a second `emit` over the
    same operation objects sees the renamed ids.  The pass is idempotent on EVERY input (F17: the names it hands out are
    pairwise distinct, so a second run finds nothing to rename). -/
theorem dedup_idempotent (ids : List Str) : dedupOpIds [] (dedupOpIds [] ids) = dedupOpIds [] ids :=
  Pog.dedupOpIds_idempotent ids

/-- The input of F17, `foo, foo, foo_2`: the third id collides with the name the second one is given, and is renamed in turn. -/
theorem dedup_idempotent_former_witness :
    let ids := ["foo".toList, "foo".toList, "foo_2".toList]
    dedupOpIds [] ids = ["foo".toList, "foo_2".toList, "foo_2_2".toList] ∧
    dedupOpIds [] (dedupOpIds [] ids) = dedupOpIds [] ids := by
  repeat rw [String.toList_ofList]
  decide +kernel

/-- `force_equals_diff_path` on the input of F19 (the force path evaluates every emitter once). With operation ids
    `foo, foo, foo_2` the force tree and the tree the diff path compares against are the same - both carry the pairwise
    distinct names `foo, foo_2, foo_2_2` - and a non-force re-run over a tree just generated with `--force` reports no
    differences. -/
theorem force_equals_diff_path_former_witness :
    let sp := opsSpec ["foo".toList, "foo".toList, "foo_2".toList]
    let c := demoCfg "client" none
    treeDiff (forceTree id c sp) (diffTree id c sp) = [] ∧
    (forceTree id c sp).lookup ["endpoints".toList, "default.py".toList] = some "foo\nfoo_2\nfoo_2_2".toList ∧
    showDiffs (forceTree id c sp) (diffTree id c sp) = false :=
  demo_runs.1.1

/-- When the pass renames nothing (`foo, bar`) and the core is embedded, both paths
    produce the same tree and the re-run reports no differences. -/
theorem force_equals_diff_path_idempotent_example :
    let sp := opsSpec ["foo".toList, "bar".toList]
    let c := demoCfg "client" none
    treeDiff (forceTree id c sp) (diffTree id c sp) = [] ∧
    (forceTree id c sp).length = 22 ∧
    showDiffs (forceTree id c sp) (diffTree id c sp) = false :=
  demo_runs.2.1.1

/-- ✗ with an explicit `core_package` the force path finally overwrites `<out>/__init__.py` with the
    "rich" re-export module (client_generator.py:457-512) — joined with the two characters `\` `n`,
    i.e. ONE comment line — while the diff path never produces it (its `__init__.py` is the empty
    file of `EndpointsEmitter`): a non-force re-run over an up-to-date tree always reports differences. -/
theorem rich_init_only_on_force_counterexample :
    let sp := opsSpec ["foo".toList, "bar".toList]
    let c := demoCfg "pkg.client" (some "pkg.core")
    treeDiff (forceTree id c sp) (diffTree id c sp) = [["__init__.py".toList]] ∧
    (diffTree id c sp).lookup ["__init__.py".toList] = some [] ∧
    (forceTree id c sp).lookup ["__init__.py".toList] = some sp.richInit ∧
    pyLines sp.richInit = [sp.richInit] ∧
    showDiffs (forceTree id c sp) (diffTree id c sp) = true :=
  demo_runs.2.2.1

/-- The whole `generate` model end to end, embedded core, idempotent ids: the re-run succeeds. -/
theorem rerun_after_force_succeeds_example :
    rerunOutcome (demoCfg "client" none) (opsSpec ["foo".toList, "bar".toList]) = Outcome.success :=
  demo_runs.2.1.2

/-- `foo, foo, foo_2` (the input of F19): the re-run over the tree just generated with force succeeds. -/
theorem rerun_after_force_former_double_emit_witness :
    rerunOutcome (demoCfg "client" none) (opsSpec ["foo".toList, "foo".toList, "foo_2".toList])
      = Outcome.success :=
  demo_runs.1.2

/-- ✗ explicit core package: the re-run ends in "Differences found" (oracle class
    `rich-init-only-on-force`). -/
theorem rerun_after_force_rich_init_counterexample :
    rerunOutcome (demoCfg "pkg.client" (some "pkg.core")) (opsSpec ["foo".toList, "bar".toList])
      = Outcome.raisedDiff :=
  demo_runs.2.2.2

/-- ✗ shared core (`_is_shared_core` true): the force path merges this client's status codes into
    the registry ON DISK, the diff path emits into an empty temporary core, i.e. starts from the
    empty registry.  After clients A (404) and B (500) were generated into one core, the alias file on
    disk has both classes, the file the diff path generates for B has one. -/
theorem shared_registry_rerun_counterexample :
    let A : Pog.Gen := ⟨some "client_a".toList, [200, 404], true⟩
    let B : Pog.Gen := ⟨some "client_b".toList, [200, 500], true⟩
    (Pog.run [A, B]).aliases = [404, 500] ∧
    (Pog.step Pog.State.empty B).aliases = [500] ∧
    (Pog.step (Pog.run [A, B]) B).aliases = [404, 500] := by
  decide +kernel

end Pog.C09
