import Pog.Lemmas.Plan
/-
  C10 — when the output package already exists and `force` is not given, generation never creates,
  modifies or deletes anything under the project root: on a match it succeeds, on a difference or on
  any failure part-way through it raises, and in all three cases the existing tree is byte-identical
  afterwards.  In every mode the only paths under the project root that are ever written or removed
  lie inside the output package directory, the core package directory, and the `__init__.py` files
  of their ancestor packages.

  Proved of the model `Pog.Plan` (`Pog/Model/Plan.lean`: `generate` as a list of file system primitives run with an
  exception injected at any position), under the hypotheses that the paths are resolved and that the temporary
  directory and the project root are not nested.  Diff path: every primitive names paths below the fresh temporary root
  (appends go to the debug log in `gettempdir()`), so for every fault position and each of the three outcomes the files
  and directories at or below the project root are unchanged; the outcomes are classified.  Force / first-run path: every
  named path below the project root is in the output package, in the core package, or is an ancestor package directory
  or its `__init__.py`; the `os.path.relpath` round trip of `CoreEmitter` lands in `core_dir`.  The STRING prefix test
  `str(core_dir).startswith(str(out_dir))` is implied by "core inside out" but not equivalent to it (a
  `_counterexample`: `ab/__init__.py` is never created for `out = a`, `core = ab.core`).  `output_package = "."` makes
  the output directory the project root, which a force run removes first.
-/
namespace Pog.C10
open Pog Pog.Diff Pog.Plan

/-- `CoreEmitter(core_dir=os.path.relpath(core, out)).emit(out)` writes into
    `os.path.join(out, relpath)`; resolved, that is `core` again — for ALL resolved `out`, `core`
    (embedded, sibling, nested, deeper, unrelated). -/
theorem core_target_is_core_dir (out core : Path) (ho : cleanPath out = true) (hc : cleanPath core = true) :
    normalise (out ++ relpath core out) = core :=
  coreTarget_eq out core ho hc

example : cleanPath ["srv".toList, "proj".toList, "a".toList, "b".toList, "client".toList] = true ∧
    relpath ["srv".toList, "proj".toList, "a".toList, "core".toList]
      ["srv".toList, "proj".toList, "a".toList, "b".toList, "client".toList] = ["..".toList, "..".toList, "core".toList] := by
  decide +kernel

/-- The hypothesis shared by the diff-path theorems: the temporary directory returned by
    `TemporaryDirectory()` is not inside the project root, the project root is not inside it, and
    the debug log (`gettempdir()/pyopenapi_gen_file_write_debug.log`) is not inside the project root. -/
abbrev TmpApart (c : PlanCfg) : Prop := Apart c.root c.tmpRoot c.debugLog

/-- `Pog.Plan.OpsIn`, under the name the statements below use -/
abbrev AllIn (P : Path → Prop) (log : Path) (ops : List Op) : Prop := OpsIn P log ops

/-- Without `force` over an existing package, every `makedirs`/`write`/`rename`/`rewrite` of the
    plan names a path at or below the fresh temporary root, every append goes to the debug log in
    the temp dir, and there is no `rmtree` at all. -/
theorem noforce_writes_under_tmp (c : PlanCfg) (sp : PlanSpec)
    (hf : c.force = false) (he : c.outExists = true) (hclean : cleanPath c.tmpRoot = true) :
    AllIn (fun p => c.tmpRoot <+: p) c.debugLog (planOps c sp) := by
  have hd : c.diffMode = true := by simp [PlanCfg.diffMode, hf, he]
  unfold planOps plan
  rw [if_pos hd]
  exact diffPlan_in c sp hclean

/-- spelled out on paths: whatever a primitive of the diff plan names is below the temp root or is the log -/
theorem noforce_targets (c : PlanCfg) (sp : PlanSpec)
    (hf : c.force = false) (he : c.outExists = true) (hclean : cleanPath c.tmpRoot = true) :
    ∀ o ∈ planOps c sp, ∀ p ∈ o.act.targets, c.tmpRoot <+: p ∨ p = c.debugLog :=
  fun o ho => targets_of_actIn (noforce_writes_under_tmp c sp hf he hclean o ho)

/-- the hypotheses are satisfiable: project `/srv/proj`, `TMPDIR=/tmp`, temp root `/tmp/tmpab12` -/
example :
    let c : PlanCfg := ⟨["srv".toList, "proj".toList], "a.b.client".toList, some "a.core".toList, false, true, true,
      ["tmp".toList], "tmpab12".toList⟩
    cleanPath c.tmpRoot = true ∧ ¬ c.root <+: c.tmpRoot ∧ ¬ c.tmpRoot <+: c.root ∧ ¬ c.root <+: c.debugLog := by
  decide +kernel

/-- C10, first half.  `generate(..., force=False)` over an existing output package: for EVERY
    position of an injected exception (`fault`), whether or not a primitive raises `OSError`, and
    whichever of the three outcomes results, the files (with their bytes) and the directories at or
    below the project root are exactly what they were. -/
theorem noforce_preserves_root (post : Str → Str) (c : PlanCfg) (sp : PlanSpec) (fs : FS) (fault : Nat)
    (hf : c.force = false) (he : fs.pathExists c.outDir = true)
    (hclean : cleanPath c.tmpRoot = true) (hap : TmpApart c) :
    ((runGenerate post c sp fs fault).1).under c.root = fs.under c.root := by
  unfold runGenerate
  simp only []
  have hd : ({ c with outExists := fs.pathExists c.outDir } : PlanCfg).diffMode = true := by
    simp [PlanCfg.diffMode, hf, he]
  rw [if_pos hd]
  split
  · rfl
  · have hops := noforce_writes_under_tmp { c with outExists := fs.pathExists c.outDir } sp hf he hclean
    show (cleanupTmp _ c.tmpRoot).under c.root = _
    rw [cleanup_under hap, execOps_under hap post _ hops]
    -- the one directory `mkdtemp` added is not below the project root
    exact under_addDirs fs (List.forall_mem_singleton.2 (hap.not_under List.prefix_rfl))

/-- a file system on which the hypotheses hold: the package directory exists -/
example :
    let c : PlanCfg := ⟨["srv".toList, "proj".toList], "client".toList, none, false, true, true, ["tmp".toList], "t1".toList⟩
    let fs : FS := ⟨[(["srv".toList, "proj".toList, "client".toList, "client.py".toList], "x".toList)],
      [[], ["srv".toList], ["srv".toList, "proj".toList], ["srv".toList, "proj".toList, "client".toList], ["tmp".toList]]⟩
    fs.pathExists c.outDir = true ∧ fs.isDir c.tmpDir = true := by decide +kernel

/-- In particular the success outcome ("No differences found, using existing files") copies
    nothing back: the tree below the project root is the old one — and so it is after
    "Differences found". -/
theorem noforce_never_copies_back (post : Str → Str) (c : PlanCfg) (sp : PlanSpec) (fs : FS)
    (hf : c.force = false) (he : fs.pathExists c.outDir = true)
    (hclean : cleanPath c.tmpRoot = true) (hap : TmpApart c) :
    ∀ outcome, (runGenerate post c sp fs (planOps { c with outExists := true } sp).length).2 = outcome →
      ((runGenerate post c sp fs (planOps { c with outExists := true } sp).length).1).under c.root = fs.under c.root :=
  fun _ _ => noforce_preserves_root post c sp fs _ hf he hclean hap

/-- The three outcomes of the diff path, in terms of the run of the plan `r` on the file system
    with the fresh temporary directory:  no exception and no difference → success;  no exception
    and a difference (`_show_diffs` on the package, or on the core when it is a different
    directory) → `GenerationError("Differences found …")`;  any exception part-way → it propagates. -/
theorem result_classification (post : Str → Str) (c : PlanCfg) (sp : PlanSpec) (fs : FS) (fault : Nat)
    (hf : c.force = false) (he : fs.pathExists c.outDir = true) (htmp : fs.isDir c.tmpDir = true) :
    let c' : PlanCfg := { c with outExists := true }
    let r := execOps post (planOps c' sp) { fs with dirs := fs.dirs ++ [c.tmpRoot] } fault
    let diff := noForceHasDiff (r.1.subtree c.outDir) (r.1.subtree c.tmpOut) (r.1.subtree c.coreDir)
      (r.1.subtree c.tmpCore) (decide (c.coreDir ≠ c.outDir))
    (r.2 = none → diff = false → (runGenerate post c sp fs fault).2 = Outcome.success) ∧
    (r.2 = none → diff = true → (runGenerate post c sp fs fault).2 = Outcome.raisedDiff) ∧
    (r.2 ≠ none → (runGenerate post c sp fs fault).2 = Outcome.raisedOther) := by
  intro c' r diff
  have hd : ({ c with outExists := fs.pathExists c.outDir } : PlanCfg).diffMode = true := by
    simp [PlanCfg.diffMode, hf, he]
  have hrun : (runGenerate post c sp fs fault).2 =
      (match r.2 with
        | some _ => Outcome.raisedOther
        | none => if diff = true then Outcome.raisedDiff else Outcome.success) := by
    unfold runGenerate
    simp only []
    rw [if_pos hd]
    simp only [htmp, Bool.not_true, Bool.false_eq_true, if_false]
    simp only [he]
    rfl
  rw [hrun]
  cases r.2 <;> cases diff <;> simp

/-- A fault position inside the plan always ends in an exception (and by `noforce_preserves_root`
    leaves the project untouched). -/
theorem fault_raises (post : Str → Str) (c : PlanCfg) (sp : PlanSpec) (fs : FS) (fault : Nat)
    (hf : c.force = false) (he : fs.pathExists c.outDir = true) (htmp : fs.isDir c.tmpDir = true)
    (hlt : fault < (planOps { c with outExists := true } sp).length) :
    (runGenerate post c sp fs fault).2 = Outcome.raisedOther :=
  (result_classification post c sp fs fault hf he htmp).2.2 (execOps_fault_lt post _ _ fault hlt)

/-- C10, second half.  On the force / first-run path every path named by any primitive
    (`makedirs`, write, append, rename source and target, `rmtree`, formatter rewrite) that lies at or
    below the project root is inside the output package, inside the core package, or is an ancestor
    package directory of one of them or that directory's `__init__.py`.  (The only named path outside
    the project root is the debug log and possibly the parent of the project root in `makedirs`.) -/
theorem force_writes_contained (c : PlanCfg) (sp : PlanSpec) (hd : c.diffMode = false)
    (hclean : cleanPath c.root = true) :
    ∀ o ∈ planOps c sp, ∀ p ∈ o.act.targets, c.root <+: p → Allowed c p ∨ p = c.debugLog := by
  have ht : coreTarget c.outDir c.coreDir = c.coreDir :=
    coreTarget_eq _ _ (cleanPath_pkgToPath hclean _) (cleanPath_pkgToPath hclean _)
  have hO : ∀ p, c.outDir <+: p → Allowed c p := fun _ => Or.inl
  have hC : ∀ p, c.coreDir <+: p → Allowed c p := fun _ h => Or.inr (Or.inl h)
  intro o ho
  unfold planOps plan at ho
  rw [if_neg (by simp [hd])] at ho
  simp only [forcePlan, List.flatMap_cons, List.flatMap_nil, List.append_nil] at ho
  rcases List.mem_append.mp ho with ho | ho
  · -- setup: every primitive names the package directory, the core directory or the parent of one of them
    intro p hp hroot
    refine Or.inl (Or.inr (Or.inr ⟨p, hroot, ?_, Or.inl rfl⟩))
    simp only [always, List.mem_append, List.mem_cons, List.not_mem_nil, or_false, List.mem_ite_nil_right] at ho
    rcases ho with (⟨_, rfl⟩ | rfl | rfl) | ⟨_, rfl | rfl⟩ <;>
      simp only [Act.targets, List.mem_singleton] at hp <;> subst hp <;> simp [parentDir_prefix]
  · -- the later stages, one by one, name only allowed paths and the log, wherever the project root is
    refine fun p hp _ => targets_of_actIn ((?_ : OpsIn (Allowed c) c.debugLog _) o ho) p hp
    simp only [opsIn_append]
    refine ⟨⟨initLoop_allowed c _ (Or.inl rfl), ?_⟩, .mono hC (excOps_in _ _ _ _ _), .mono hC (coreOps_in sp _ ht),
      .mono hO (modelOps_in _ _ _), .mono hO (endpointOps_in _ _ _ _), .mono hO (clientOps_in _ _ _),
      .mono hO (mockOps_in _ _ _ _), ?_, postprocess_in ht hO hC sp 1 _ _⟩
    · split
      · exact initLoop_allowed c _ (Or.inr rfl)
      · exact opsIn_nil
    · split <;> simp [always, ActIn, hO]

example :
    let c : PlanCfg := ⟨["srv".toList, "proj".toList], "a.b.client".toList, some "a.core".toList, true, true, true,
      ["tmp".toList], "t1".toList⟩
    c.diffMode = false ∧ cleanPath c.root = true := by decide +kernel

/-- If the core directory really is inside the output directory the string test is true as well, and the loop over the
    core's ancestors is skipped: the test can only REMOVE `__init__.py` writes, never add one outside the allowed set.  The
    converse fails, see `prefix_test_skips_core_ancestors_counterexample`. -/
theorem prefix_test_sound (out core : Path) (hout : out ≠ []) (h : out <+: core) :
    strPrefixTest core out = true := by
  obtain ⟨t, rfl⟩ := h
  unfold strPrefixTest startsWith
  rw [pathStr_append_ne_nil out hout]
  exact List.isPrefixOf_iff_prefix.mpr (List.prefix_append _ _)

example : (["p".toList, "client".toList] : Path) ≠ [] ∧
    (["p".toList, "client".toList] : Path) <+: ["p".toList, "client".toList, "core".toList] := by decide +kernel

/-- ✗ The converse fails: `out = <root>/a`, `core = <root>/ab/core` (`output_package="a"`,
    `core_package="ab.core"`).  `"/srv/proj/ab/core".startswith("/srv/proj/a")` is true, the loop
    over the core package's ancestors is skipped, and `ab/__init__.py` is never written by
    `generate` (the file `ab/core/__init__.py` comes from `CoreEmitter`): package `ab` is left
    without `__init__.py`.  With `core_package="b.core"` the same file IS written. -/
theorem prefix_test_skips_core_ancestors_counterexample :
    let root : Path := ["srv".toList, "proj".toList]
    let c : PlanCfg := ⟨root, "a".toList, some "ab.core".toList, true, false, true, ["tmp".toList], "t".toList⟩
    let c' : PlanCfg := { c with corePackage := some "b.core".toList }
    let sp : PlanSpec := ⟨[], [], [], [], [], [], [], [], [], fun _ => [], fun _ => [], [], fun _ => [],
      fun _ => [], fun _ => [], fun _ => [], []⟩
    strPrefixTest c.coreDir c.outDir = true ∧ ¬ c.outDir <+: c.coreDir ∧
    (∀ o ∈ planOps c sp, root ++ ["ab".toList, fInit] ∉ o.act.targets) ∧
    (∃ o ∈ planOps c' sp, root ++ ["b".toList, fInit] ∈ o.act.targets) := by
  -- literals as character lists first: decoding a string literal costs the kernel time quadratic in its length
  repeat rw [String.toList_ofList]
  decide +kernel

/-- When the test is false, the second loop writes (unless present) the `__init__.py` of EVERY
    directory from the core package up to, excluding, the project root. -/
theorem core_ancestor_inits_partial (c : PlanCfg) (sp : PlanSpec) (hd : c.diffMode = false)
    (htest : strPrefixTest c.coreDir c.outDir = false) :
    ∀ d, c.root <+: d → d <+: c.coreDir → d ≠ c.root →
      (⟨.ifAbsent (d ++ [fInit]), .write (d ++ [fInit]) []⟩ : Op) ∈ planOps c sp := by
  intro d h1 h2 h3
  unfold planOps plan
  rw [if_neg (by simp [hd])]
  simp only [forcePlan, List.flatMap_cons, List.flatMap_nil, List.append_nil, List.mem_append]
  refine Or.inr (Or.inl (Or.inr ?_))
  simp only [htest, Bool.not_false, if_true]
  exact List.mem_map.mpr ⟨d, (mem_ancestorsTo (root_prefix_pkgToPath _ _)).mpr ⟨h1, h2, h3⟩, rfl⟩

example :
    let c : PlanCfg := ⟨["srv".toList, "proj".toList], "a.b.client".toList, some "x.y.core".toList, true, false, true,
      ["tmp".toList], "t1".toList⟩
    c.diffMode = false ∧ strPrefixTest c.coreDir c.outDir = false := by decide +kernel

/-- `output_package = "."` passes the `if not output_package` check, `".".split(".")` is
    `["", ""]`, pathlib drops empty components: the output directory IS the project root, and the
    force plan begins with `shutil.rmtree(project_root)`. -/
theorem dot_package_is_project_root (root : Path) :
    pkgToPath root ".".toList = root ∧
    (∀ (sp : PlanSpec) (core : Option Str) (tmp : Path) (n : Str),
      (planOps ⟨root, ".".toList, core, true, true, true, tmp, n⟩ sp).head? = some (always (.rmtree root))) := by
  have h : pkgToPath root ['.'] = root := by
    simp [pkgToPath, splitOnC]
  refine ⟨h, ?_⟩
  intro sp core tmp n
  simp [planOps, plan, PlanCfg.diffMode, forcePlan, PlanCfg.outDir, h]

end Pog.C10
