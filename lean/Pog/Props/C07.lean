import Pog.Lemmas.Ops
import Pog.Props.ClientGen
/-
  C07 (operation side) — every (path, method) operation of an accepted document is callable as exactly one
  async method on the client of each of its tags (or of `default`); distinct operations never collapse into
  one method; method names are valid, unique per client and follow the selected naming strategy; an operation
  that cannot be represented makes generation fail visibly instead of being omitted.
  C19 (rendering part) — the same document supplied as JSON or as an equivalent YAML rendering (quoted vs.
  unquoted status codes) produces the same client.

  Model: `Pog.Ops` (Pog/Model/Ops.lean) = parser.py loop + responses/parser.py checks + endpoints_emitter.py
  de-duplication and tag grouping.

  Results: the id of an operation follows the naming strategy and is never empty; every recognised (path, method) pair is an
  IR operation or a warning, and exactly which are dropped; quoted and unquoted numeric status codes give the same operations;
  the final method names are pairwise distinct and each is defined exactly once in the client of each of its tag keys.
  A statement marked `✗` in a doc comment is FALSE of the current code: it appears as a `_counterexample` (a concrete
  witness, evaluated by the kernel) and a `_partial` whose hypothesis is the excluded class (operations that make the parser
  raise, float / bool / null status keys, ids without an ASCII alphanumeric).

  "The tag client is reachable as a property of APIClient" is proved in Pog/Props/ClientGen.lean (model Pog/Model/ClientGen.lean,
  the classes of `ClientVisitor` as skeletons, tied by vf/corr/client.py) and claimed here; `reachable_through_apiclient_partial`
  composes the three models.
-/
-- INDEX Pog.ClientGenProps: visit_never_raises, tag_tuples_one_per_key, tag_tuples_sorted_by_key, every_tag_group_has_a_property, property_count, tag_clients_are_properties, tag_attr_unchanged_iff, property_names_are_tag_attrs, property_names, properties_not_shadowed_by_methods, properties_survive_partial, property_shadowed_former_witness, property_names_former_witness
namespace Pog.C07
open Pog Pog.Ops

/-! ## Concrete documents used as witnesses -/

private def s (x : String) : Str := x.toList

/-- Reads the characters off a literal, where evaluating `String.toList` would make the kernel decode its UTF-8 bytes. -/
theorem s_ofList (l : List Char) : s (String.ofList l) = l := String.toList_ofList

/-- `paths: {/a: {get: {operationId: x, responses: {"200": …}}}}` — the JSON reading. -/
def docQuoted : Paths :=
  [(s "/a", [(s "get", { operationId := some (s "x"), responses := [.strKey (s "200")] })])]

/-- The same document as YAML with the unquoted key `200:` (what `yaml.safe_load` returns). -/
def docUnquoted : Paths :=
  [(s "/a", [(s "get", { operationId := some (s "x"), responses := [.intKey 200] })])]

/-! ## The operation id follows the naming strategy -/

/-- `OPERATION_ID` keeps a declared NON-EMPTY id verbatim, `PATH` ignores it, `CLEAN` is the FastAPI cleaner applied
    to it, and a missing or empty id (F44 repaired) is always derived from method and path. -/
theorem derived_id_follows_strategy (mu path id : Str) (d : Option Str) (hid : id ≠ []) :
    chooseOpId .operationId mu path (some id) = id ∧
    chooseOpId .clean mu path (some id) = cleanOpId id mu path ∧
    chooseOpId .path mu path d = deriveOpIdU mu path ∧
    (∀ st, chooseOpId st mu path none = deriveOpIdU mu path) ∧
    (∀ st, chooseOpId st mu path (some []) = deriveOpIdU mu path) := by
  refine ⟨?_, ?_, ?_, ?_, ?_⟩
  · simp only [chooseOpId, declaredId_of_ne_nil hid]
  · simp only [chooseOpId, declaredId_of_ne_nil hid]
  · unfold chooseOpId; cases declaredId d <;> rfl
  · intro st; cases st <;> rfl
  · intro st; cases st <;> rfl

example : ("listPets".toList : Str) ≠ [] := by
  rw [String.toList_ofList]
  decide +kernel

/-- The id an operation is parsed with is never empty (F44 repaired) - every strategy, path, declared id. -/
theorem operation_id_never_empty (st : Naming) (mu path : Str) (d : Option Str) (h : mu ∈ httpMethods) :
    chooseOpId st mu path d ≠ [] :=
  chooseOpId_ne_nil st mu path d h

/-- Every IR operation produced for a path-item entry carries the path, the upper-cased method key, the id
    chosen by the strategy and `list(tags)`. -/
theorem parsed_operation_fields (u : UInfo) (st : Naming) (path key : Str) (op : RawOp) (o : IROp)
    (h : parseOne u st path key op = .parsed o) :
    recognised u key = true ∧ o.path = path ∧ o.method = u.upperS key ∧
      o.opId = chooseOpId st (u.upperS key) path op.operationId ∧ o.tags = tagsList op.tags := by
  obtain ⟨hr, rfl⟩ := parseOne_parsed_fields u st path key op o h
  exact ⟨hr, rfl, rfl, rfl, rfl⟩

/-- The three strategies on FastAPI's `create_details_details_post` at `POST /details`. -/
example :
    chooseOpId .operationId (s "POST") (s "/details") (some (s "create_details_details_post"))
      = s "create_details_details_post" ∧
    chooseOpId .clean (s "POST") (s "/details") (some (s "create_details_details_post")) = s "create_details" ∧
    chooseOpId .path (s "POST") (s "/details") (some (s "create_details_details_post")) = s "post_details" := by
  repeat rw [s_ofList]
  decide +kernel

/-- Method keys are matched case-insensitively (`mu = method.upper()`): `get`, `GET` and `Get` in one path
    item are three IR operations with the same (path, method). -/
example :
    (parseOps UInfo.ascii .operationId [(s "/a", [(s "get", {}), (s "GET", {}), (s "parameters", {}), (s "x-y", {})])]).1.map
      IROp.key = [(s "/a", s "GET"), (s "/a", s "GET")] := by
  repeat rw [s_ofList]
  decide +kernel

/-! ## Nothing is omitted -/

/-- Every recognised (path, method) pair of the document is accounted for: it is an IR operation or it
    produced a warning (the parser never loses an operation without a trace) — all inputs. -/
theorem parse_partition (u : UInfo) (st : Naming) (paths : Paths) :
    (parseOps u st paths).1.length + (parseOps u st paths).2.length = (allPairs u paths).length :=
  parseOps_partition u st paths

/-- EXACTLY which operations end in the `except Exception: warn; continue` branch (F44 repaired: a declared empty operationId
    is not among the reasons). -/
theorem dropped_iff (u : UInfo) (st : Naming) (path key : Str) (op : RawOp) :
    opRaises u st path key op = true ↔
      recognised u key = true ∧ (op.parseRaises = true ∨ op.responses.any StatusKey.isBad = true) :=
  opRaises_iff u st path key op

/-- No warning ever carries `operation_id_for_promo must be provided`: that `raise` of the response parser is unreachable from the
    operations parser. -/
theorem never_dropped_for_empty_id (u : UInfo) (st : Naming) (path key : Str) (op : RawOp) (w : OpWarning)
    (h : parseOne u st path key op = .dropped w) : w.reason ≠ .emptyOpId :=
  parseOne_never_emptyOpId u st path key op w h

/-- ✗ FULL: `(parseOps u st paths).1.map key = allPairs u paths` for every document.
    PARTIAL: when no operation raises (see `dropped_iff` for the exact class), `parse_operations` yields exactly
    one IR operation per (path, method) pair with a recognised HTTP method, in document order, and no warning. -/
theorem parse_keeps_all_partial (u : UInfo) (st : Naming) (paths : Paths)
    (h : parseSucceeds u st paths = true) :
    (parseOps u st paths).1.map IROp.key = allPairs u paths ∧ (parseOps u st paths).2 = [] :=
  parseOps_keeps_all u st paths h

example : parseSucceeds UInfo.ascii .clean
    [(s "/details", [(s "post", { operationId := some (s "create_details_details_post"),
                                   tags := .list [s "Details"], responses := [.strKey (s "201"), .strKey (s "default")] }),
                     (s "parameters", {}),
                     (s "get", { responses := [.strKey (s "200")] })])] = true := by
  repeat rw [s_ofList]
  decide +kernel

/-- The document with a float key `1.5:` (the only kind of non-string key that still raises). -/
def docBadKey : Paths :=
  [(s "/a", [(s "get", { operationId := some (s "x"), responses := [.badKey (s "1.5")] })])]

/-- F16 repaired: the operation with the unquoted YAML key `200:` is an IR operation like its quoted twin, no warning. -/
theorem int_status_key_is_parsed :
    parseOps UInfo.ascii .operationId docUnquoted = ([⟨s "/a", s "GET", s "x", []⟩], []) ∧
    parseOps UInfo.ascii .operationId docUnquoted = parseOps UInfo.ascii .operationId docQuoted := by
  unfold docUnquoted docQuoted
  repeat rw [s_ofList]
  decide +kernel

/-- ✗ witness of what remains: a status key that is neither a string nor an integer (`1.5:`, `true:`, `~:`) still drops the
    operation with only a warning. -/
theorem bad_status_key_drops_operation_counterexample :
    parseOps UInfo.ascii .operationId docBadKey = ([], [⟨s "GET", s "/a", .codeNotStr⟩]) ∧
    allPairs UInfo.ascii docBadKey = [(s "/a", s "GET")] := by
  unfold docBadKey
  repeat rw [s_ofList]
  decide +kernel

/-- General form, one entry: an operation with such a key is never an IR operation,
    whatever the strategy, the key spelling, its id or its other members. -/
theorem bad_status_key_never_parsed (u : UInfo) (st : Naming) (path key : Str) (op : RawOp)
    (h : op.responses.any StatusKey.isBad = true) (o : IROp) : parseOne u st path key op ≠ .parsed o :=
  parseOne_bad_key u st path key op h o

/-- General form, whole document: the IR operations are those of the document with every operation that has
    such a key deleted — such an operation is invisible to everything downstream. -/
theorem bad_status_key_operation_is_invisible (u : UInfo) (st : Naming) (paths : Paths) :
    (parseOps u st paths).1 = (parseOps u st (eraseBadKeyOps paths)).1 :=
  (parseOps_erase u st paths).symm

/-- The former witness of F44: `operationId: ""` with a declared response used to be dropped with the warning
    `operation_id_for_promo must be provided`; it now is the operation `get_a`, exactly like its twin without `operationId`
    (and the PATH strategy always gave that). -/
theorem empty_operation_id_former_witness :
    parseOps UInfo.ascii .operationId
      [(s "/a", [(s "get", { operationId := some [], responses := [.strKey (s "200")] })])]
      = ([⟨s "/a", s "GET", s "get_a", []⟩], []) ∧
    parseOps UInfo.ascii .clean
      [(s "/a", [(s "get", { operationId := some [], responses := [.strKey (s "200")] })])]
      = parseOps UInfo.ascii .clean [(s "/a", [(s "get", { responses := [.strKey (s "200")] })])] := by
  repeat rw [s_ofList]
  decide +kernel

/-! ## C19: quoted vs. unquoted status codes -/

/-- C19 at full strength for unquoted NUMERIC status codes (F16 repaired): for every document whose status keys are strings or
    integers, the JSON reading (every key quoted) and the YAML reading give the same operations and the same warnings. -/
theorem status_key_typing (u : UInfo) (st : Naming) (paths : Paths)
    (h : paths.all (fun p => p.2.all (fun e => !hasBadKey e.2)) = true) :
    parseOps u st (quoteKeys paths) = parseOps u st paths :=
  parseOps_quote u st paths h

/-- `docQuoted` is the JSON reading of `docUnquoted`, and `docUnquoted` (an INTEGER key) satisfies the hypothesis. -/
example : quoteKeys docUnquoted = docQuoted ∧
    docUnquoted.all (fun p => p.2.all (fun e => !hasBadKey e.2)) = true := by
  unfold docUnquoted docQuoted
  repeat rw [s_ofList]
  decide +kernel

/-- ✗ what remains: a float / bool / null key is read differently by the two renderings. -/
theorem status_key_typing_counterexample :
    parseOps UInfo.ascii .operationId (quoteKeys docBadKey) ≠ parseOps UInfo.ascii .operationId docBadKey ∧
    (parseOps UInfo.ascii .operationId (quoteKeys docBadKey)).1 = [⟨s "/a", s "GET", s "x", []⟩] ∧
    (parseOps UInfo.ascii .operationId docBadKey).1 = [] := by
  unfold docBadKey
  repeat rw [s_ofList]
  decide +kernel

/-- What unquoted keys can do (all inputs): the YAML reading never adds or alters an operation, it only
    LOSES operations relative to the JSON reading of the same document. -/
theorem unquoted_reading_only_loses_operations (u : UInfo) (st : Naming) (paths : Paths) :
    (parseOps u st paths).1.Sublist (parseOps u st (quoteKeys paths)).1 :=
  parseOps_quote_sublist u st paths

/-! ## Derived ids -/

/-- A derived id is a valid identifier for every path (all inputs). -/
theorem derived_id_valid (mu path : Str) (h : mu ∈ httpMethods) :
    isPyIdent (deriveOpIdU mu path) = true ∧ isKeyword (deriveOpIdU mu path) = false :=
  deriveOpIdU_valid mu path h

/-- ✗ FULL: `(m₁, p₁) ≠ (m₂, p₂) → deriveOpIdU m₁ p₁ ≠ deriveOpIdU m₂ p₂`.
    Witnesses: templated vs. literal segment, `-` vs. `_` vs. `/`, camelCase vs. snake_case, trailing slash. -/
theorem derived_ids_distinct_counterexample :
    deriveOpIdU (s "GET") (s "/a/{b}") = deriveOpIdU (s "GET") (s "/a/b") ∧
    deriveOpIdU (s "GET") (s "/a-b") = deriveOpIdU (s "GET") (s "/a_b") ∧
    deriveOpIdU (s "GET") (s "/a_b") = deriveOpIdU (s "GET") (s "/a/b") ∧
    deriveOpIdU (s "GET") (s "/userProfile") = deriveOpIdU (s "GET") (s "/user_profile") ∧
    deriveOpIdU (s "GET") (s "/a/") = deriveOpIdU (s "GET") (s "/a") ∧
    deriveOpIdU (s "GET") (s "/users/{id}") ≠ deriveOpIdU (s "GET") (s "/users/{user_id}") := by
  repeat rw [s_ofList]
  decide +kernel

/-! ## Final method names -/

/-- Documents of bare `get` operations on the given paths. -/
def bareGets (ps : List String) : Paths := ps.map (fun p => (s p, [(s "get", ({} : RawOp))]))

/-- `method_names_distinct` at full strength (F17 repaired): the final method names of EVERY list of IR operations are pairwise
    distinct - declared, cleaned or derived ids, colliding or not, whether `emit` runs once over the operation objects (as
    `client_generator.py` now does on both paths, `direct = false`) or twice (as the force path did before F19 was repaired). -/
theorem method_names_distinct (direct : Bool) (ops : List IROp) : (finalMethodNames direct ops).Nodup :=
  finalMethodNames_nodup direct ops

/-- The number of `emit` passes over the same operation objects does not matter: the pass is idempotent.  (`client_generator.py`
    runs one pass on either path since the repair of F19; the model keeps the former second pass of the force path.) -/
theorem emit_passes_irrelevant (ops : List IROp) : finalMethodNames true ops = finalMethodNames false ops := by
  rw [finalMethodNames_eq, finalMethodNames_eq]

/-- Operation `i` is named after ITS OWN id: `sanitize_method_name(id_i)` or `sanitize_method_name(f"{id_i}_{n}")`. -/
theorem method_name_follows_own_id (direct : Bool) (ops : List IROp) :
    ∀ p ∈ ops.zip (finalMethodNames direct ops),
      p.2 = sanMethod p.1.opId ∨ ∃ n, p.2 = sanMethod (sufId p.1.opId n) :=
  finalMethodNames_shape direct ops

/-- The former witnesses of F17, PATH strategy, no operationId anywhere:
    * one `emit` pass: `/a/b`, `/a/{b}`, `/a/b_2` used to give `get_a_b, get_a_b_2, get_a_b_2`;
    * two passes (the force path before the repair of F19): `/a/b`, `/a/{b}`, `/a/b_2`, `/a/b_2_2` used to give
      `get_a_b, get_a_b_2, get_a_b_2_2, get_a_b_2_2`. -/
theorem method_names_distinct_former_witness :
    finalMethodNames false (parseOps UInfo.ascii .path (bareGets ["/a/b", "/a/{b}", "/a/b_2"])).1
      = [s "get_a_b", s "get_a_b_2", s "get_a_b_2_2"] ∧
    finalMethodNames true (parseOps UInfo.ascii .path (bareGets ["/a/b", "/a/{b}", "/a/b_2", "/a/b_2_2"])).1
      = [s "get_a_b", s "get_a_b_2", s "get_a_b_2_2", s "get_a_b_2_2_2"] := by
  simp only [bareGets, List.map]
  repeat rw [s_ofList]
  decide +kernel

/-- The same with declared ids (`foo, foo, foo_2` / `foo, foo, foo_2, foo_2_2`), on the ids alone. -/
theorem dedup_suffix_collision_former_witness :
    finalMethodNames false [⟨[], [], s "foo", []⟩, ⟨[], [], s "foo", []⟩, ⟨[], [], s "foo_2", []⟩]
      = [s "foo", s "foo_2", s "foo_2_2"] ∧
    finalMethodNames true [⟨[], [], s "foo", []⟩, ⟨[], [], s "foo", []⟩, ⟨[], [], s "foo_2", []⟩, ⟨[], [], s "foo_2_2", []⟩]
      = [s "foo", s "foo_2", s "foo_2_2", s "foo_2_2_2"] := by
  repeat rw [s_ofList]
  decide +kernel

/-- The de-duplication never drops or adds an operation: one method name per IR operation (all inputs). -/
theorem dedup_keeps_every_operation (direct : Bool) (ops : List IROp) :
    (finalMethodNames direct ops).length = ops.length :=
  finalMethodNames_length direct ops

/-- The former witness of F45: an operation tagged `Pets` and `pets` used to be defined TWICE in the one client `pets`; two
    spellings next to a different tag, and an operation that shares only the key. -/
theorem duplicate_tag_former_witness :
    clients UInfo.ascii true [⟨s "/a", s "GET", s "x", [s "Pets", s "pets"]⟩] = [(s "pets", [s "x"])] ∧
    clients UInfo.ascii false [⟨s "/a", s "GET", s "x", [s "Data Sources", s "admin", s "data_sources"]⟩,
                               ⟨s "/a", s "PUT", s "y", [s "data-sources"]⟩]
      = [(s "datasources", [s "x", s "y"]), (s "admin", [s "x"])] := by
  repeat rw [s_ofList]
  decide +kernel

/-- `exactly one method per tag client` at full strength (F17 and F45 repaired) - EVERY list of IR operations, however often
    `emit` runs over them: the final method name of an operation (pairwise distinct, `method_names_distinct`) is defined exactly ONCE in the client
    of every key one of its tags (or `default`) normalises to - however many spellings of the tag it carries - and not at all in
    any other client. -/
theorem one_method_per_tag_client (u : UInfo) (direct : Bool) (ops : List IROp)
    (p : IROp × Str) (hp : p ∈ ops.zip (finalMethodNames direct ops)) (key : Str) :
    (clientMethods u direct ops key).count p.2 = if key ∈ (opTags p.1).map (normTagKey u) then 1 else 0 :=
  clientMethods_count_zip u direct ops key p hp

example : ((⟨s "/a", s "GET", s "x", [s "Pets", s "pets"]⟩ : IROp), s "x") ∈
    [(⟨s "/a", s "GET", s "x", [s "Pets", s "pets"]⟩ : IROp)].zip
      (finalMethodNames true [⟨s "/a", s "GET", s "x", [s "Pets", s "pets"]⟩]) := by
  repeat rw [s_ofList]
  decide +kernel

/-- Each normalised tag key names exactly one client (all inputs). -/
theorem clients_are_keyed_uniquely (u : UInfo) (direct : Bool) (ops : List IROp) :
    ((clients u direct ops).map (·.1)).Nodup :=
  clients_keys_nodup u direct ops

/-- PARTIAL (`reachable_exactly_once`): when no operation raises (F17, F45 repaired: the sanitised ids may collide and an
    operation may carry several spellings of one tag) then — on the direct and on the diff path alike —
    * there is one IR operation per recognised (path, method) pair, in document order,
    * there is one final method name per IR operation, the names are pairwise distinct (distinct operations never collapse),
    * operation `i` is named after its own id as the selected strategy derives it (`sanMethod id_i`, or with a numeric suffix),
      and when the sanitised ids are already pairwise distinct the de-duplication changes nothing,
    * for every operation and every client key, the client defines the operation's method exactly ONCE when one of the
      operation's tags (or `default`) normalises to that key, and not at all otherwise. -/
theorem reachable_exactly_once_partial (u : UInfo) (st : Naming) (direct : Bool) (paths : Paths)
    (hs : parseSucceeds u st paths = true) :
    let ops := (parseOps u st paths).1
    let names := finalMethodNames direct ops
    ops.map IROp.key = allPairs u paths ∧
    names.length = ops.length ∧ names.Nodup ∧
    (∀ p ∈ ops.zip names, p.2 = sanMethod p.1.opId ∨ ∃ n, p.2 = sanMethod (sufId p.1.opId n)) ∧
    ((ops.map (fun o => sanMethod o.opId)).Nodup → names = ops.map (fun o => sanMethod o.opId)) ∧
    ∀ p ∈ ops.zip names, ∀ key,
      (clientMethods u direct ops key).count p.2 = if key ∈ (opTags p.1).map (normTagKey u) then 1 else 0 := by
  intro ops names
  exact ⟨(parseOps_keeps_all u st paths hs).1, finalMethodNames_length direct ops, finalMethodNames_nodup direct ops,
    finalMethodNames_shape direct ops, finalMethodNames_of_nodup direct ops,
    fun p hp key => clientMethods_count_zip u direct ops key p hp⟩

/-- The hypothesis is satisfiable by a document whose ids COLLIDE (`foo, foo, foo_2`, the former F17 witness) and whose tags
    repeat a key (`Pets`, `pets`, the former F45 witness). -/
example : parseSucceeds UInfo.ascii .operationId
    [(s "/a", [(s "get", { operationId := some (s "foo"), responses := [.strKey (s "200")] }),
               (s "put", { operationId := some (s "foo"), responses := [.strKey (s "200")] }),
               (s "post", { operationId := some (s "foo_2"), tags := .list [s "Pets", s "pets"], responses := [.strKey (s "200")] })])] = true := by
  repeat rw [s_ofList]
  decide +kernel

/-- **C07 end to end over three models** (operations parser `Pog.Ops`, de-duplication + grouping of the endpoints emitter,
    `ClientVisitor` `Pog.ClientGen`): when no operation raises, then for EVERY recognised (path, method) operation `o` of the
    document, its final method name `name` (pairwise distinct over the document, `method_names_distinct`; `sanitize_method_name` of
    the id the selected strategy derives, possibly with a numeric suffix, `method_name_follows_own_id`) and EVERY tag `t` of it (or
    `default`):
    * `APIClient` has a property named `_tag_attr_name(sanitize_module_name(c))` (the module name, with a trailing underscore when it
      collides with one of APIClient's own members - F64 repaired, `ClientGenProps.property_names`: the property is never shadowed by a
      member) returning `sanitize_class_name(c) + "Client"`, `c` the canonical
      spelling of `t`'s tag group (same normalised key as `t`), and
    * the client of that tag group defines `name` exactly ONCE.
    What the theorem does not carry: that the class written to `endpoints/<module>.py` is the one the property imports (the import
    lines of `client.py` are part of the ClientGen skeleton correspondence), and the hypothesis' complement (a node that makes the parser raise, a float / bool / null status key - `dropped_iff`). -/
theorem reachable_through_apiclient_partial (u : UInfo) (st : Naming) (direct : Bool) (paths : Paths)
    (hs : parseSucceeds u st paths = true)
    (o : IROp) (name : Str) (ho : (o, name) ∈ (parseOps u st paths).1.zip (finalMethodNames direct (parseOps u st paths).1))
    (t : Str) (ht : t ∈ opTags o) :
    let ops := (parseOps u st paths).1
    let tagss := ops.map (·.tags)
    let c := ClientGen.canonicalTag u tagss (normTagKey u t)
    (ClientGen.tagAttr (sanModule u c), sanClass c ++ kClientSuffix) ∈ (ClientGen.apiClientSkel (ClientGen.tagTuples u tagss)).props ∧
    normTagKey u c = normTagKey u t ∧
    (clientMethods u direct ops (normTagKey u t)).count name = 1 := by
  intro ops tagss c
  have hts : o.tags ∈ tagss := List.mem_map.mpr ⟨o, (List.of_mem_zip ho).1, rfl⟩
  have ht' : t ∈ ClientGen.tagsOr o.tags := ht
  obtain ⟨h1, h2, _⟩ := ClientGenProps.every_tag_group_has_a_property u tagss o.tags hts t ht'
  have h3 := (reachable_exactly_once_partial u st direct paths hs).2.2.2.2.2 (o, name) ho (normTagKey u t)
  refine ⟨h1, h2, ?_⟩
  rw [h3, if_pos (List.mem_map.mpr ⟨t, ht, rfl⟩)]

/-- Corollary in the words of the property: an operation is defined exactly once in each of its clients and not at all in any
    other. -/
theorem reachable_exactly_once_per_client (u : UInfo) (st : Naming) (direct : Bool) (paths : Paths)
    (hs : parseSucceeds u st paths = true)
    (o : IROp) (name : Str) (ho : (o, name) ∈ (parseOps u st paths).1.zip (finalMethodNames direct (parseOps u st paths).1))
    (key : Str) :
    (clientMethods u direct (parseOps u st paths).1 key).count name
      = if key ∈ (opTags o).map (normTagKey u) then 1 else 0 :=
  (reachable_exactly_once_partial u st direct paths hs).2.2.2.2.2 (o, name) ho key

example :
    let paths : Paths := [(s "/pets", [(s "get", { operationId := some (s "listPets"), tags := .list [s "pets"],
                                                    responses := [.strKey (s "200")] }),
                                       (s "post", { operationId := some (s "createPet"), tags := .list [s "pets", s "admin"],
                                                    responses := [.strKey (s "201")] })]),
                          (s "/health", [(s "get", { responses := [.strKey (s "200")] })])]
    parseSucceeds UInfo.ascii .operationId paths = true ∧
    ((parseOps UInfo.ascii .operationId paths).1.map (fun o => sanMethod o.opId)).Nodup ∧
    clients UInfo.ascii true (parseOps UInfo.ascii .operationId paths).1
      = [(s "pets", [s "list_pets", s "create_pet"]), (s "admin", [s "create_pet"]), (s "default", [s "get_health"])] := by
  repeat rw [s_ofList]
  decide +kernel

/-- PARTIAL (`method_names_valid`): every final method name (suffixed or not, after one `emit` pass or two) is a valid,
    non-keyword identifier when every operation id has an ASCII alphanumeric. -/
theorem method_names_valid (direct : Bool) (ops : List IROp)
    (h : ∀ o ∈ ops, o.opId.any isAlnumA = true) :
    ∀ n ∈ finalMethodNames direct ops, isPyIdent n = true ∧ isKeyword n = false :=
  finalMethodNames_valid direct ops h

/-- FULL for the PATH strategy: every id is derived, so every final method name of every document is a
    valid, non-keyword identifier. -/
theorem path_strategy_method_names_valid (u : UInfo) (direct : Bool) (paths : Paths) :
    ∀ n ∈ finalMethodNames direct (parseOps u .path paths).1, isPyIdent n = true ∧ isKeyword n = false :=
  finalMethodNames_valid direct _ (parseOps_path_alnum u paths)

example : ∀ o ∈ [(⟨s "/a", s "GET", s "getUserById", []⟩ : IROp), ⟨s "/b", s "GET", s "class", []⟩],
    o.opId.any isAlnumA = true := by
  repeat rw [s_ofList]
  decide +kernel

/-- ✗ witness: `operationId: $` is accepted and yields the method name `""` — `async def (self…` in the client module.
    (The empty id without responses used to do the same; F44 repaired: it now gets the derived id.) -/
theorem method_names_valid_counterexample :
    finalMethodNames true
      (parseOps UInfo.ascii .operationId [(s "/a", [(s "get", { operationId := some (s "$") })])]).1 = [[]] ∧
    finalMethodNames true
      (parseOps UInfo.ascii .operationId [(s "/a", [(s "get", { operationId := some [] })])]).1 = [s "get_a"] := by
  repeat rw [s_ofList]
  decide +kernel

end Pog.C07
