import Pog.Lemmas.Extract
/-
  Extract / ModelKind — the two promotion passes that run after `build_schemas`
  (`core/loader/schemas/extractor.py`) and the construct decision of `ModelVisitor.visit_IRSchema`.

  Models: `Pog.Extract.extractArrayItems`, `Pog.Extract.extractEnums`, `Pog.Extract.modelKind`
  (`Pog/Model/Extract.lean`).  All theorems quantify over EVERY registry, every discriminator set and every
  CPython case table `u`; the only well-formedness ever assumed is "the keys of the registry are pairwise
  distinct" (a python `dict`), and only where it is needed (`extract_keys_nodup`).

  Results: the original names survive in order and the `RuntimeError` post-conditions never fire; the suffix loops
  terminate with fresh, pairwise distinct names; what the passes do to every entry and property (wire keys, the
  extracted enum and the promoted item schema, the fields left alone); idempotence; which construct a schema becomes.
  `✗` marks full statements that are FALSE of the code; they appear as `_counterexample` (by `decide`
  on a concrete registry) + `_partial` (hypothesis = the excluded input class).  An `example` after a theorem with
  hypotheses shows that they can be met.
-/
namespace Pog.ExtractProps
open Pog Pog.Extract

private def leafV : Str × Schema := ("v".toList, { name := some "v".toList, ty := some sString })
private def objOf (props : List (Str × Schema)) : Schema := { ty := some sObject, props := props }
private def arrProp (n : String) (it : Schema) : Str × Schema :=
  (n.toList, { name := some n.toList, ty := some sArray, items := some it })
private def enumProp' (n : String) (ty : Str) (gen : Option Str) (vals : List String) (it : Option Schema) :
    Str × Schema :=
  (n.toList, { name := some n.toList, ty := some ty, genName := gen, enumVals := some (vals.map String.toList),
               items := it })
private def top (n : String) (props : List (Str × Schema)) : Str × Schema :=
  (n.toList, { name := some n.toList, ty := some sObject, props := props })

/-- `A.tags : array of {subs : array of {v : string}}` -/
def nestedReg : Reg :=
  [top "A" [arrProp "tags" (objOf [arrProp "subs" (objOf [leafV])])]]

/-- `A.kind : string enum ["a"]` whose `generation_name` is `array`, with `items` (which the first run ignores: the type is not `array` yet). -/
def arrayGenReg : Reg :=
  [top "A" [enumProp' "kind" sString (some "array".toList) ["\"a\""] (some (objOf [leafV]))]]

/-- `UserResponse.data : array of {status : enum}`, `UserResponse.role : enum` (named by the parser
    `my_role`), next to a schema that already occupies the synthetic name `UserItem`. -/
def goodReg : Reg :=
  [top "UserResponse"
     [arrProp "data" (objOf [enumProp' "status" sString none ["\"on\"", "\"off\""] none]),
      enumProp' "role" sInteger (some "my_role".toList) ["1", "2"] none],
   top "UserItem" []]

/-- Every original key is still a key, at the same position: the keys of the input are a prefix of the keys
    of the output (the promoted schemas are appended).  All registries, no hypothesis. -/
theorem extract_keeps_original_names (u : UInfo) (reg : Reg) (disc : List (Str × Str)) :
    regKeys reg <+: regKeys (extractEnums u reg disc) ∧ regKeys reg <+: regKeys (extractArrayItems u reg) := by
  constructor
  · rw [extractEnums_keys, List.append_assoc]; exact List.prefix_append _ _
  · rw [extractArrayItems_keys]; exact List.prefix_append _ _

theorem extract_never_shrinks (u : UInfo) (reg : Reg) (disc : List (Str × Str)) :
    reg.length ≤ (extractEnums u reg disc).length ∧ reg.length ≤ (extractArrayItems u reg).length := by
  have h1 := congrArg List.length (extractEnums_keys u reg disc)
  have h2 := congrArg List.length (extractArrayItems_keys u reg)
  simp only [regKeys_length, List.length_append] at h1 h2
  omega

/-- Neither `"Schemas count should not decrease"` nor `"Original schemas should still be present"` can be
    raised, by either function. -/
theorem extract_postconditions_never_fire (u : UInfo) (reg : Reg) (disc : List (Str × Str)) :
    extractArrayItemsChecked u reg = some (extractArrayItems u reg) ∧
      extractEnumsChecked u reg disc = some (extractEnums u reg disc) := by
  have h1 : postOk reg (extractArrayItems u reg) = true := postOk_of_keys _ _ _ (extractArrayItems_keys u reg)
  have h2 : postOk reg (extractEnums u reg disc) = true :=
    postOk_of_keys _ _ _ (by rw [extractEnums_keys, List.append_assoc])
  simp [extractArrayItemsChecked, extractEnumsChecked, h1, h2]

/-- Both `while name in schemas or name in new: name = f"{base}{i}"` loops terminate within
    `|taken| + 1` iterations (the fuel of `Pog.inlineName`) with a name that is not taken. -/
theorem suffix_loops_terminate (taken : List Str) (base : Str) :
    inlineName taken base = some (freshT taken base) ∧ freshT taken base ∉ taken :=
  ⟨(inlineName_total taken base).1, (inlineName_total taken base).2.1⟩

/-- The new names are pairwise distinct and none of them is an original key — no hypothesis. -/
theorem extract_new_names_fresh (u : UInfo) (reg : Reg) (disc : List (Str × Str)) :
    ((regKeys (extractEnums u reg disc)).drop reg.length).Nodup ∧
      ∀ k ∈ (regKeys (extractEnums u reg disc)).drop reg.length, k ∉ regKeys reg := by
  have hf := new_keys_fresh u reg disc
  have : (regKeys (extractEnums u reg disc)).drop reg.length =
      regKeys ((arrayPass u reg).1 ++ (enumPass u disc (extractArrayItems u reg)).1) := by
    rw [extractEnums_keys, List.append_assoc, ← regKeys_append, ← regKeys_length reg, List.drop_left]
  rw [this]
  exact hf

/-- A registry with pairwise distinct keys (a python dict) stays one: nothing is overwritten by
    `schemas.update(...)`. -/
theorem extract_keys_nodup (u : UInfo) (reg : Reg) (disc : List (Str × Str)) (h : (regKeys reg).Nodup) :
    (regKeys (extractEnums u reg disc)).Nodup := by
  have hf := new_keys_fresh u reg disc
  rw [extractEnums_keys, List.append_assoc, ← regKeys_append]
  exact List.nodup_append.2 ⟨h, hf.1, fun a ha b hb e => hf.2 b hb (e ▸ ha)⟩

example : (regKeys goodReg).Nodup := by decide +kernel
/-- …and on `goodReg` both loops actually iterate: `UserItem` is taken, the item becomes `UserItem1`. -/
example : regKeys (extractEnums UInfo.ascii goodReg []) =
    ["UserResponse".toList, "UserItem".toList, "UserItem1".toList, "my_role".toList,
     "UserItem1StatusEnum".toList] := by
  repeat rw [String.toList_ofList]
  decide +kernel

/-- For every original schema, at its original position, the list of property keys is unchanged by both
    passes.  All registries, no hypothesis. -/
theorem extract_preserves_wire_keys (u : UInfo) (reg : Reg) (disc : List (Str × Str)) :
    ((extractEnums u reg disc).take reg.length).map (fun e => (e.1, e.2.props.map (fun p => p.1))) =
      reg.map (fun e => (e.1, e.2.props.map (fun p => p.1))) :=
  (extractEnums_originals u reg disc).map_eq _ _ fun _ _ ⟨_, h1, h2⟩ => by
    rw [h2.1, h1.1, h2.2.2.map_eq (fun p => p.1) (fun p => p.1) (fun _ _ hp => hp.1),
      h1.2.2.map_eq (fun p => p.1) (fun p => p.1) (fun _ _ hp => hp.1)]

/- ✗ extract_preserves_array_nature (FULL, false): for every original schema the list of flags
     "this property has `type == "array"`" is unchanged. -/

/-- ✗ witness: the enum is extracted under its pre-set generation name `array`, the property's `type`
    becomes `"array"`. -/
theorem extract_preserves_array_nature_counterexample :
    ((extractEnums UInfo.ascii arrayGenReg []).take arrayGenReg.length).map
        (fun e => e.2.props.map (fun p => p.2.ty == some sArray)) = [[true]] ∧
      arrayGenReg.map (fun e => e.2.props.map (fun p => p.2.ty == some sArray)) = [[false]] := by
  decide +kernel

/-- Excluded class: some property of an original schema has `generation_name == "array"`. -/
theorem extract_preserves_array_nature_partial (u : UInfo) (reg : Reg) (disc : List (Str × Str))
    (h : reg.all (fun e => noArrayGen e.2) = true) :
    ((extractEnums u reg disc).take reg.length).map (fun e => e.2.props.map (fun p => p.2.ty == some sArray)) =
      reg.map (fun e => e.2.props.map (fun p => p.2.ty == some sArray)) := by
  refine (extractEnums_originals u reg disc).and_mem.map_eq _ _ (fun e _ he => ?_)
  exact he.2.arrayNature (by rw [List.all_eq_true] at h; exact h e he.1)

example : goodReg.all (fun e => noArrayGen e.2) = true := by decide +kernel

/-- The reuse branch (`extractor.py:268-277`) can never run: the one-property step equals the step
    without it, in every state. -/
theorem reuse_branch_dead (u : UInfo) (view : Reg) (disc : List (Str × Str)) (sname : Str) (newE : Reg)
    (pn : Str) (ps : Schema) :
    enumProp u view disc sname newE pn ps = enumPropS u view disc sname newE pn ps :=
  enumProp_eq u view disc sname newE pn ps

/-- With `reg1` the registry after the array pass and `out` the final registry: every entry of `reg1`
    (original schemas AND promoted item schemas) keeps its position and key, and each of its properties
    keeps its key and is either
      * `kept` unchanged — and then it is a discriminator, or has no inline enum, or falls under one of the
        four `enum_already_extracted` disjuncts; or
      * `extracted` — it had an inline enum, `out[en]` is a schema with exactly the property's enum values
        and type (`enumEntry`), `en` is a new key (the property's generation name or
        `{Parent}{Prop}Enum`, possibly digit-suffixed), and the property is `pointAt … en`. -/
theorem extracted_enum_has_the_values (u : UInfo) (reg : Reg) (disc : List (Str × Str)) :
    All₂ (EnumsEntry u (extractArrayItems u reg) disc (extractEnums u reg disc)) (extractArrayItems u reg)
      ((extractEnums u reg disc).take (extractArrayItems u reg).length) := by
  rw [extractEnums_take, extractEnums_eq]
  exact enumPass_outcomes u disc _

/-- What "points at" means: `name = type = generation_name = en`, the inline enum is cleared. -/
theorem enum_pointer (u : UInfo) (ps : Schema) (en : Str) :
    (pointAt u ps en).name = some en ∧ (pointAt u ps en).ty = some en ∧ (pointAt u ps en).genName = some en ∧
      (pointAt u ps en).stem = some (sanModule u en) ∧ (pointAt u ps en).enumVals = none :=
  ⟨rfl, rfl, rfl, rfl, rfl⟩

/-- The registered enum: the property's values and type, `generation_name` = key, stem from the key, no
    properties; its `name` is the class-cased key. -/
theorem enum_entry_fields (u : UInfo) (en : Str) (ty : Option Str) (vals : Option (List Str)) (h : en ≠ []) :
    (enumEntry u en ty vals).enumVals = vals ∧ (enumEntry u en ty vals).ty = ty ∧
      (enumEntry u en ty vals).genName = some en ∧ (enumEntry u en ty vals).stem = some (sanModule u en) ∧
      (enumEntry u en ty vals).props = [] ∧ (enumEntry u en ty vals).name = some (sanClass en) :=
  ⟨rfl, rfl, rfl, rfl, rfl, enumEntry_name u en ty vals h⟩

/-- ✗ witness ("the `name` of a registered schema is its key"): `goodReg`'s `role` enum is registered
    under the parser's generation name `my_role`, but `IRSchema(name=…)` class-cases it to `MyRole`. -/
theorem enum_entry_name_counterexample :
    ((extractEnums UInfo.ascii goodReg []).lookup "my_role".toList).map (fun s => s.name) =
      some (some "MyRole".toList) := by
  decide +kernel

/-- With `out1` the registry after the array pass: every original entry keeps its position and key and all
    fields but `props`; each property keeps its key and is either `kept` unchanged (it is not an array with
    nameless complex items) or `promoted`: `out1[nm]` is the inline item schema with `name := nm` and
    nothing else changed, `nm` is a new non-empty key, and the property's `items.name` is `nm`. -/
theorem extracted_item_is_a_copy (u : UInfo) (reg : Reg) :
    All₂ (ItemsEntry (regKeys reg) (extractArrayItems u reg)) reg ((extractArrayItems u reg).take reg.length) := by
  rw [extractArrayItems_take]
  exact arrayPass_outcomes u reg

/-- The enum pass never touches `items` (nor the compositions): the link `items.name = nm` made by the
    array pass is still there in the final registry. -/
theorem enum_pass_keeps_items {u : UInfo} {reg1 : Reg} {disc : List (Str × Str)} {out : Reg} {sname pn : Str}
    {ps ps' : Schema} (h : EnumOutcome u reg1 disc out sname pn ps ps') :
    ps'.items = ps.items ∧ ps'.props = ps.props ∧ ps'.anyOf = ps.anyOf ∧ ps'.oneOf = ps.oneOf ∧
      ps'.allOf = ps.allOf :=
  h.fields

/-- The array pass keeps name, type, generation name, stem, enum and properties of a property schema. -/
theorem array_pass_keeps_fields {keys : List Str} {out1 : Reg} {ps ps' : Schema}
    (h : ItemOutcome keys out1 ps ps') :
    ps'.name = ps.name ∧ ps'.ty = ps.ty ∧ ps'.genName = ps.genName ∧ ps'.stem = ps.stem ∧
      ps'.enumVals = ps.enumVals ∧ ps'.props = ps.props :=
  h.fields

/- ✗ extract_idempotent (FULL, false):
     extractEnums u (extractEnums u reg disc) disc = extractEnums u reg disc -/

/-- ✗ witness 1: the promoted `ATagsItem` has an array property of inline objects; the array pass does not
    visit the schemas it promotes, the next run does and adds `ATagsItemSubsItem`. -/
theorem extract_idempotent_counterexample :
    regKeys (extractEnums UInfo.ascii nestedReg []) = ["A".toList, "ATagsItem".toList] ∧
      regKeys (extractEnums UInfo.ascii (extractEnums UInfo.ascii nestedReg []) []) =
        ["A".toList, "ATagsItem".toList, "ATagsItemSubsItem".toList] := by
  repeat rw [String.toList_ofList]
  decide +kernel

theorem extract_idempotent_counterexample' :
    extractEnums UInfo.ascii (extractEnums UInfo.ascii nestedReg []) [] ≠ extractEnums UInfo.ascii nestedReg [] := by
  intro h
  have := congrArg (fun r => (regKeys r).length) h
  revert this
  decide +kernel

/-- ✗ witness 2: the first run turns `A.kind` into `type = "array"`, the second promotes its items. -/
theorem extract_idempotent_counterexample_array :
    regKeys (extractEnums UInfo.ascii arrayGenReg []) = ["A".toList, "array".toList] ∧
      regKeys (extractEnums UInfo.ascii (extractEnums UInfo.ascii arrayGenReg []) []) =
        ["A".toList, "array".toList, "AKindItem".toList] := by
  repeat rw [String.toList_ofList]
  decide +kernel

/-- Excluded class (`idemOk reg = false`): some property has `generation_name == "array"`, or the inline item
    schema of some array property that gets promoted has itself a property that is an array with nameless
    complex items (or with `generation_name == "array"`). -/
theorem extract_idempotent_partial (u : UInfo) (reg : Reg) (disc : List (Str × Str)) (h : idemOk reg = true) :
    extractEnums u (extractEnums u reg disc) disc = extractEnums u reg disc :=
  extractEnums_quiet u disc _ (extractEnums_arrayQuiet u reg disc h) (extractEnums_enumQuiet u reg disc)

example : idemOk goodReg = true := by decide +kernel
example : idemOk nestedReg = false ∧ idemOk arrayGenReg = false := by decide +kernel

/-- The enum half IS idempotent for every registry: after `extract_inline_enums` every top-level enum has
    its generation name and every property is a discriminator, has no inline enum, or counts as already
    extracted — so a second run differs from the first only by what its array pass promotes and what the enum pass
    then extracts from those schemas. -/
theorem extract_enum_pass_idempotent (u : UInfo) (reg : Reg) (disc : List (Str × Str)) :
    enumPass u disc (extractEnums u reg disc) = ([], extractEnums u reg disc) :=
  enumPass_quiet u disc _ (extractEnums_enumQuiet u reg disc)

/-- Exactly one of `is_enum`, `is_type_alias`, `is_dataclass` holds when line 112 is reached — for every
    schema; so the final `else` of the dispatch (line 157) is dead and the order of the `if`s is immaterial. -/
theorem kind_total_and_exclusive (s : Schema) :
    ((kindFlags s).isEnum = true ∧ (kindFlags s).isAlias = false ∧ (kindFlags s).isDataclass = false) ∨
    ((kindFlags s).isEnum = false ∧ (kindFlags s).isAlias = true ∧ (kindFlags s).isDataclass = false) ∨
    ((kindFlags s).isEnum = false ∧ (kindFlags s).isAlias = false ∧ (kindFlags s).isDataclass = true) := by
  -- `is_dataclass` is by definition "neither of the other two", and the alias test asks for `not is_enum`
  have hd : (kindFlags s).isDataclass = (!(kindFlags s).isEnum && !(kindFlags s).isAlias) := rfl
  rw [hd]
  cases he : (kindFlags s).isEnum
  · cases (kindFlags s).isAlias <;> simp
  · have ha : (kindFlags s).isAlias = false := by
      simp only [kindFlags] at he ⊢
      simp [he]
    simp [ha]

/-- The `RuntimeError` of line 134 is unreachable. -/
theorem modelKindE_isSome (s : Schema) (skip : List Str) : modelKindE s skip = some (modelKind s skip) := by
  unfold modelKind
  have hx := kind_total_and_exclusive s
  cases h : modelKindE s skip with
  | some k => rfl
  | none =>
    -- `none` is the third branch: name and generation name falsy; but with a falsy name the second branch returns as soon
    -- as one flag is set, and one always is.  Checked over the values of the three flags and the three tests.
    exfalso
    unfold modelKindE at h
    simp only at h
    generalize nameInSkip s skip = m at h
    generalize truthy s.name = a at h
    generalize truthy s.genName = b at h
    revert h
    rcases hx with hh | hh | hh <;> rw [hh.1, hh.2.1, hh.2.2] <;> cases m <;> cases a <;> cases b <;> simp

/-- The decision is total (the `RuntimeError` of line 134 is unreachable) and is: skipped exactly for
    anonymous schemas and skip-listed enums, otherwise the generator of the one flag that is set. -/
theorem kind_decision (s : Schema) (skip : List Str) :
    modelKindE s skip = some (modelKind s skip) ∧
    modelKind s skip =
      if truthy s.name = false then Kind.skipped
      else if (kindFlags s).isEnum = true then
        (if nameInSkip s skip = true then Kind.skipped else Kind.enum)
      else if (kindFlags s).isAlias = true then Kind.alias
      else if (kindFlags s).wrapper = true then Kind.dataWrapperDataclass else Kind.dataclass := by
  refine ⟨modelKindE_isSome s skip, ?_⟩
  have hx := kind_total_and_exclusive s
  unfold modelKind modelKindE
  simp only
  cases hn : truthy s.name
  · rcases hx with h | h | h <;> simp [h]
  · rcases hx with h | h | h
    · simp only [h, Bool.true_and, Bool.not_true, Bool.false_and, Bool.false_eq_true, if_false, if_true,
        Bool.and_false]
      split <;> simp
    · simp [h]
    · simp [h]

/-- A NAMED schema with at least one property and no enum is a dataclass — never an alias, never a data
    wrapper, never skipped — whatever its type, items, compositions, generation name and the skip list. -/
theorem properties_imply_dataclass (s : Schema) (skip : List Str) (hn : truthy s.name = true)
    (hp : s.props ≠ []) (he : truthy s.enumVals = false) : modelKind s skip = Kind.dataclass := by
  rw [(kind_decision s skip).2]
  have hpe := List.isEmpty_eq_false_iff.2 hp
  simp [hn, kindFlags, he, hpe]

example : truthy (some "User".toList) = true ∧ [("id".toList, ({} : Schema))] ≠ [] := by decide +kernel

/-- With a property the schema is never rendered as a type alias — even with an enum. -/
theorem properties_never_alias (s : Schema) (skip : List Str) (hp : s.props ≠ []) :
    modelKind s skip ≠ Kind.alias := by
  -- the alias test asks for `not schema.properties`
  have ha : (kindFlags s).isAlias = false := by
    simp [kindFlags, List.isEmpty_eq_false_iff.2 hp]
  rw [(kind_decision s skip).2]
  simp only [ha, Bool.false_eq_true, if_false]
  split
  · simp
  · split
    · split <;> simp
    · split <;> simp

/-- An anonymous schema (`name` is `None` or `""`) is always skipped. -/
theorem anonymous_is_skipped (s : Schema) (skip : List Str) (hn : truthy s.name = false) :
    modelKind s skip = Kind.skipped := by
  rw [(kind_decision s skip).2]; simp [hn]

/-- The data-wrapper rule only ever fires for a named schema that then IS a dataclass. -/
theorem data_wrapper_is_named_dataclass (s : Schema) (h : (kindFlags s).wrapper = true) :
    truthy s.name = true ∧ (kindFlags s).isDataclass = true := by
  simp only [kindFlags] at h ⊢
  -- the override is on, so `is_type_alias` was reset; what it overrode was an alias: named and no enum
  simp only [h, if_true]
  simp only [Bool.and_eq_true] at h
  exact ⟨h.2.1.1.1, by simp [h.2.1.2]⟩

/-- Finding: the extractor promotes inline enums of type `number`, but the visitor only renders `string`
    and `integer` enums — a promoted `number` enum is a type alias, a promoted `string`/`integer` enum is an
    enum (unless skip-listed). -/
theorem extracted_number_enum_is_alias (u : UInfo) (en : Str) (vals : Option (List Str)) (skip : List Str)
    (h : en ≠ []) : modelKind (enumEntry u en (some sNumber) vals) skip = Kind.alias := by
  rw [(kind_decision _ skip).2]
  have hn := enumEntry_named u en (some sNumber) vals h
  have hty : (enumEntry u en (some sNumber) vals).ty = some sNumber := rfl
  have hprops : (enumEntry u en (some sNumber) vals).props = [] := rfl
  have hitems : (enumEntry u en (some sNumber) vals).items = none := rfl
  simp [hn, kindFlags, anonObjectItems, hty, hprops, hitems]

theorem extracted_string_enum_is_enum (u : UInfo) (en : Str) (vals : Option (List Str)) (skip : List Str)
    (h : en ≠ []) (hv : truthy vals = true) (hs : nameInSkip (enumEntry u en (some sString) vals) skip = false) :
    modelKind (enumEntry u en (some sString) vals) skip = Kind.enum := by
  rw [(kind_decision _ skip).2]
  have hn := enumEntry_named u en (some sString) vals h
  have hty : (enumEntry u en (some sString) vals).ty = some sString := rfl
  have hvals : (enumEntry u en (some sString) vals).enumVals = vals := rfl
  simp [hn, kindFlags, hty, hvals, hv, hs]

end Pog.ExtractProps
