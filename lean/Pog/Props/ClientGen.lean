import Pog.Lemmas.ClientGen
/-
  ClientGen — `client.py` (`APIClientProtocol`, `APIClient`) and `mocks/mock_client.py` (`MockAPIClient`) as
  `ClientVisitor` (visit/client_visitor.py) writes them.  Model: Pog/Model/ClientGen.lean (skeleton of the three classes as data).
  Claimed by C07 (every tag group is a property of APIClient), C20 (property names), C13 (the three surfaces agree),
  C01 (the generated modules compile: finding F31, `MockAPIClient.__init__` without a body).

  Results: `visit` never raises; one tuple (= one property of each class) per normalised tag key, in the code-point order of
  the keys; every tag group has its property on `APIClient`, named `_tag_attr_name(module)`, which is never a name the classes
  define themselves; the three classes written from the same tuples agree, and the mocks emitter passes the visitor's tuples.
  A statement marked `✗` in a doc comment is FALSE of the current code: it appears as a `_counterexample` (a closed witness,
  evaluated by the kernel) and a `_partial` whose hypothesis is the excluded input class (validity and pairwise distinctness of
  the names for non-ASCII tags).
-/
namespace Pog.ClientGenProps
open Pog Pog.ClientGen

private def s (x : String) : Str := x.toList

/-- Reads the characters off a literal, where evaluating `String.toList` would make the kernel decode its UTF-8 bytes. -/
theorem s_ofList (l : List Char) : s (String.ofList l) = l := String.toList_ofList

/-- Every tag is ASCII or has an ASCII alphanumeric (`用户` is excluded, `données` and `-` are not). -/
def TagsOK (tagss : List (List Str)) : Prop :=
  ∀ ts ∈ tagss, ∀ t ∈ ts, t.all isAscii = true ∨ t.any isAlnumA = true

/-! ## The tag tuples -/

/-- `ClientVisitor.visit` never raises: `max(candidates)` is never applied to an empty list and `tag_map[key]` exists. -/
theorem visit_never_raises (u : UInfo) (tagss : List (List Str)) : tagTuplesRaw u tagss = some (tagTuples u tagss) :=
  tagTuplesRaw_eq u tagss

/-- There is exactly one tuple per normalised key that occurs (`ks` has no duplicates and contains exactly the keys of
    the tags of the operations, `default` for an untagged one), and the tuple of a key is built from the canonical tag
    of that key, which normalises to the key and is one of the tags that occur. -/
theorem tag_tuples_one_per_key (u : UInfo) (tagss : List (List Str)) :
    ∃ ks : List Str, ks.Nodup ∧ (∀ k, k ∈ ks ↔ ∃ ts ∈ tagss, ∃ t ∈ tagsOr ts, normTagKey u t = k) ∧
      tagTuples u tagss = ks.map (fun k => mkTuple u (canonicalTag u tagss k)) ∧
      ∀ k ∈ ks, normTagKey u (canonicalTag u tagss k) = k ∧ ∃ ts ∈ tagss, canonicalTag u tagss k ∈ tagsOr ts :=
  ⟨tupleKeys u tagss, tupleKeys_nodup u tagss, mem_tupleKeys u tagss, tagTuples_eq_map u tagss, canonicalTag_spec u tagss⟩

/-- `for key in sorted(tag_map)`: the tuples — hence the properties of all three classes — come in the code-point order of
    their normalised keys, whatever the order of the operations and of their tags. -/
theorem tag_tuples_sorted_by_key (u : UInfo) (tagss : List (List Str)) :
    ((tagTuples u tagss).map (fun t => normTagKey u t.tag)).Pairwise (fun a b => pyStrLe a b = true) := by
  rw [tagTuples_keys]
  exact sortKeys_sorted _

/-! ## Every tag group has a property (C07) -/

/-- **C07.**  For every operation and every tag of it (or `default`), `APIClient` has a property named
    `_tag_attr_name(sanitize_module_name(c))` that returns `sanitize_class_name(c) + "Client"`, where `c` is the canonical tag of the
    normalised key of that tag; `c` has the same key and is itself a tag of some operation. -/
theorem every_tag_group_has_a_property (u : UInfo) (tagss : List (List Str)) (ts : List Str) (hts : ts ∈ tagss)
    (t : Str) (ht : t ∈ tagsOr ts) :
    let c := canonicalTag u tagss (normTagKey u t)
    (tagAttr (sanModule u c), sanClass c ++ kClientSuffix) ∈ (apiClientSkel (tagTuples u tagss)).props ∧
      normTagKey u c = normTagKey u t ∧ ∃ ts' ∈ tagss, c ∈ tagsOr ts' := by
  intro c
  have hk : normTagKey u t ∈ tupleKeys u tagss := (mem_tupleKeys u tagss _).2 ⟨ts, hts, t, ht, rfl⟩
  obtain ⟨h1, h2⟩ := canonicalTag_spec u tagss _ hk
  rw [apiClientSkel_tagTuples_props]
  exact ⟨List.mem_map.2 ⟨_, hk, rfl⟩, h1, h2⟩

/-- The properties of `APIClient` are, in order, one per distinct normalised key: hence their number is the number of
    distinct keys. -/
theorem property_count (u : UInfo) (tagss : List (List Str)) :
    ∃ ks : List Str, ks.Nodup ∧ (∀ k, k ∈ ks ↔ ∃ ts ∈ tagss, ∃ t ∈ tagsOr ts, normTagKey u t = k) ∧
      (apiClientSkel (tagTuples u tagss)).props =
        ks.map (fun k => (tagAttr (sanModule u (canonicalTag u tagss k)), sanClass (canonicalTag u tagss k) ++ kClientSuffix)) :=
  ⟨tupleKeys u tagss, tupleKeys_nodup u tagss, mem_tupleKeys u tagss, apiClientSkel_tagTuples_props u tagss⟩

/-- **C07.**  The properties of `APIClient` are exactly (up to the order `sorted(tag_map)`) the tag clients that
    `EndpointsEmitter.emit` writes for the same operations: property `_tag_attr_name(<module>)` returns class `<cls>` of
    `endpoints/<module>.py`.  Operation ids play no role. -/
theorem tag_clients_are_properties (u : UInfo) (ops : List TagOp) :
    ((apiClientSkel (tagTuples u (ops.map (·.tags)))).props).Perm
      ((groupEndpoints u ops).map fun g => (tagAttr g.module, g.cls)) := by
  have h := (tagTuples_perm_groups_ops u ops).map (fun t : TagTuple => (tagAttr t.module, t.cls))
  simpa [apiClientSkel_props, List.map_map, Function.comp_def, groupTuple, TagTuple.module, TagTuple.cls] using h

/-- Two operations, three spellings of one tag and an untagged operation. -/
example :
    (apiClientSkel (tagTuples UInfo.ascii [[s "Data Sources", s "admin-ops"], [s "dataSources"], []])).props =
      [(s "admin_ops", s "AdminOpsClient"), (s "data_sources", s "DataSourcesClient"), (s "default", s "DefaultClient")] := by
  repeat rw [s_ofList]
  decide +kernel

/-! ## Property names (C20) -/

/-- **F64 repaired.**  The name under which a tag client is exposed is `_tag_attr_name(module)`: the module name, kept
    unchanged exactly when neither it nor `_` + it is one of the names the classes define themselves (`ownMembers`);
    otherwise a `_` is appended (ordinary tags keep their names). -/
theorem tag_attr_unchanged_iff (m : Str) : tagAttr m = m ↔ (m ∉ ownMembers ∧ privAttr m ∉ ownMembers) := by
  constructor
  · intro h
    rcases tagAttr_cases m with ⟨_, h1, h2⟩ | ⟨_, h'⟩
    · exact ⟨h1, h2⟩
    · rw [h] at h'
      have := congrArg List.length h'
      simp at this
  · rintro ⟨h1, h2⟩
    exact tagAttr_of_not m h1 h2

example : tagAttr (s "users") = s "users" ∧ tagAttr (s "request") = s "request_" ∧ tagAttr (s "base_url") = s "base_url_" ∧
    tagAttr (s "config_") = s "config_" := by
  repeat rw [s_ofList]
  decide +kernel

/-- The property names of the three classes, the private attributes and the keywords of `MockAPIClient.__init__` are all
    derived from the module names by `_tag_attr_name`. -/
theorem property_names_are_tag_attrs (tt : List TagTuple) :
    (apiClientSkel tt).props.map (·.1) = tt.map (fun t => tagAttr t.module) ∧
    (apiClientSkel tt).attrs = fixedAttrs ++ tt.map (fun t => privAttr (tagAttr t.module)) ∧
    (mockClientSkel tt).initParams = kSelf :: tt.map (fun t => tagAttr t.module) := by
  refine ⟨?_, rfl, rfl⟩
  simp [apiClientSkel_props, List.map_map, Function.comp_def]

/-- ✗ `property_names_valid`: every property name is a valid identifier that is no keyword — false (`-`, `用户`).
    Partial: when every tag has an ASCII alphanumeric. -/
theorem property_names_valid_partial (u : UInfo) (tagss : List (List Str))
    (h : ∀ ts ∈ tagss, ∀ t ∈ ts, t.any isAlnumA = true) :
    ∀ p ∈ (apiClientSkel (tagTuples u tagss)).props, isPyIdent p.1 = true ∧ isKeyword p.1 = false ∧
      visitSyntaxOk (tagTuples u tagss) = true := by
  have hall : ∀ t ∈ tagTuples u tagss, isValidPyIdentifier t.module = true ∧ isValidPyIdentifier (tagAttr t.module) = true := by
    intro t ht
    obtain ⟨h1, h2⟩ := tuple_of_tags u tagss (fun c => c.any isAlnumA = true) kDefaultTag_alnum h t ht
    have hv : isValidPyIdentifier t.module = true := by
      rw [h1, tuple_module]
      have := sanModule_valid u _ h2
      simp [isValidPyIdentifier, this.1, this.2]
    exact ⟨hv, tagAttr_valid _ hv⟩
  intro p hp
  rw [apiClientSkel_props] at hp
  obtain ⟨t, ht, rfl⟩ := List.mem_map.1 hp
  have hv := (hall t ht).2
  simp only [isValidPyIdentifier, Bool.and_eq_true, Bool.not_eq_true'] at hv
  refine ⟨hv.2, hv.1, ?_⟩
  unfold visitSyntaxOk
  rw [List.all_eq_true]
  intro t' ht'
  simp [(hall t' ht').1, (hall t' ht').2]

example : ∀ ts ∈ [[s "Data Sources", s "class"], [s "1st"], []], ∀ t ∈ ts, t.any isAlnumA = true := by
  repeat rw [s_ofList]
  decide +kernel

/-- ✗ witness (defect class `client-syntax-error`): a tag without ASCII alphanumeric gives the property `def (self)`. -/
theorem property_names_valid_counterexample :
    (apiClientSkel (tagTuples UInfo.ascii [[s "-"]])).props = [([], s "UnnamedClassClient")] ∧
      visitSyntaxOk (tagTuples UInfo.ascii [[s "-"]]) = false ∧ mockSyntaxOk (mockTuples UInfo.ascii [[s "-"]]) = false := by
  repeat rw [s_ofList]
  decide +kernel

/-- **F64 repaired.**  For EVERY input and every case table, no property name is one of the names the class defines itself: a fixed method
    (`request`, `close`, `__aenter__`, `__aexit__`), a fixed instance attribute (`config`, `transport`, `_base_url`),
    `__init__`, or `self` (the receiver of `MockAPIClient.__init__`, whose keywords are the property names). -/
theorem property_names (u : UInfo) (tagss : List (List Str)) :
    ∀ p ∈ (apiClientSkel (tagTuples u tagss)).props, p.1 ∉ fixedMethods ++ fixedAttrs ++ [kInit] ∧ p.1 ≠ kSelf := by
  intro p hp
  rw [apiClientSkel_props] at hp
  obtain ⟨t, _, rfl⟩ := List.mem_map.1 hp
  have h := (tagAttr_not_own t.module).1
  exact ⟨fun hm => h ((by decide : ∀ x ∈ fixedMethods ++ fixedAttrs ++ [kInit], x ∈ ownMembers) _ hm),
    fun e => h (e.symm ▸ (by decide : kSelf ∈ ownMembers) : (tagAttr t.module, t.cls).1 ∈ ownMembers)⟩

/-- No property is ever called `config` (the instance attribute): `config` is a reserved name, the sanitiser appends `_`
    (and `_tag_attr_name` would).  Every input, every case table. -/
theorem property_name_never_config (u : UInfo) (tagss : List (List Str)) :
    ∀ p ∈ (apiClientSkel (tagTuples u tagss)).props, p.1 ≠ kConfig := by
  intro p hp e
  exact (property_names u tagss p hp).1 (e ▸ (by decide : kConfig ∈ fixedMethods ++ fixedAttrs ++ [kInit]))

example : (apiClientSkel (tagTuples UInfo.ascii [[s "config"], [s "Config"]])).props = [(s "config_", s "Config_Client")] := by
  repeat rw [s_ofList]
  decide +kernel

/-- **F64 repaired.**  For every input and every case table a
    property is never called `_base_url`, `__aenter__`, `__aexit__` or `__init__`. -/
theorem property_names_avoid_dunder (u : UInfo) (tagss : List (List Str)) :
    ∀ p ∈ (apiClientSkel (tagTuples u tagss)).props, p.1 ∉ [kBaseUrl, kAenter, kAexit, kInit] := by
  intro p hp hm
  exact (property_names u tagss p hp).1
    ((by decide : ∀ x ∈ [kBaseUrl, kAenter, kAexit, kInit], x ∈ fixedMethods ++ fixedAttrs ++ [kInit]) _ hm)

/-- A case table in which the non-ASCII word character `é` lower-cases to the text `_base_url` (no CPython does that;
    the theorems quantify over every table). -/
def uOdd : UInfo := { UInfo.ascii with word := fun c => c == 'é', lower := fun c => if c == 'é' then s "_base_url" else [c] }

/-- The former witness of F64 for a property named `_base_url`: even when the module name is `_base_url`, the property is
    `_base_url_` (and its private attribute `__base_url_`). -/
theorem property_named_base_url_former_witness :
    (apiClientSkel (tagTuples uOdd [[s "é"]])).props.map (·.1) = [s "_base_url_"] ∧
      (apiClientSkel (tagTuples uOdd [[s "é"]])).attrs = [kConfig, kTransport, kBaseUrl, s "__base_url_"] := by
  repeat rw [s_ofList]
  decide +kernel

/-- The former witnesses of F64 (defect classes `property-shadowed-by-method`,
    `property-named-like-instance-attribute`): the tag clients of `request`, `close`, `Transport` are the properties
    `request_`, `close_`, `transport_`; their modules (import paths) keep their names. -/
theorem property_names_former_witness :
    (apiClientSkel (tagTuples UInfo.ascii [[s "request"], [s "close", s "Transport"]])).props.map (·.1) =
      [s "close_", s "request_", s "transport_"] ∧
    (apiClientSkel (tagTuples UInfo.ascii [[s "request"], [s "close", s "Transport"]])).methods = fixedMethods ∧
    (apiClientSkel (tagTuples UInfo.ascii [[s "request"], [s "close", s "Transport"]])).attrs =
      [kConfig, kTransport, kBaseUrl, s "_close_", s "_request_", s "_transport_"] ∧
    (tagTuples UInfo.ascii [[s "request"], [s "close", s "Transport"]]).map (·.module) = [kClose, kRequest, kTransport] := by
  repeat rw [s_ofList]
  decide +kernel

/-! ## Pairwise distinct property names -/

/-- ✗ `property_names_pairwise_distinct` is false for non-ASCII tags.  Partial: ASCII tags — two different normalised keys
    never give the same module name (`Pog.normTagKey_eq_noUs_sanModule`: the key is the module name without underscores),
    e.g. `a1` / `a_1` and `dataSources` / `data_sources` share their KEY, hence their group. -/
theorem property_names_pairwise_distinct_partial (u : UInfo) (tagss : List (List Str))
    (hascii : ∀ ts ∈ tagss, ∀ t ∈ ts, t.all isAscii = true) :
    ((apiClientSkel (tagTuples u tagss)).props.map (·.1)).Nodup := by
  simp only [apiClientSkel_props, List.map_map]
  -- the key of a tuple is its attribute name without underscores; the keys are pairwise distinct
  apply nodup_map_of_factor (tagTuples u tagss) _ (fun t => normTagKey u t.tag) noUs
  · intro t ht
    obtain ⟨h1, h2⟩ := tuple_of_tags u tagss (fun c => c.all isAscii = true) kDefaultTag_ascii hascii t ht
    simp only [Function.comp_def]
    rw [noUs_tagAttr]
    conv => rhs; rw [h1, tuple_module]
    exact normTagKey_eq_noUs_sanModule u t.tag h2
  · rw [tagTuples_keys]
    exact tupleKeys_nodup u tagss

example : ∀ ts ∈ [[s "a1", s "a_1"], [s "dataSources"], [s "data_sources"]], ∀ t ∈ ts, t.all isAscii = true := by
  repeat rw [s_ofList]
  decide +kernel

example : (apiClientSkel (tagTuples UInfo.ascii [[s "a1", s "a_1"], [s "dataSources"], [s "data_sources"]])).props.map (·.1) =
    [s "a_1", s "data_sources"] := by
  repeat rw [s_ofList]
  decide +kernel

/-- `request` and `request_` (like `Request`, `re-quest`, `_request`) share their key, hence their group: the trailing underscore
    of `_tag_attr_name` cannot make two properties collide. -/
example : (apiClientSkel (tagTuples UInfo.ascii [[s "request"], [s "request_"], [s "re-quest"]])).props.map (·.1) =
    [s "re_quest"] := by
  repeat rw [s_ofList]
  decide +kernel

/-- CPython's view of `é`: a word character, lower-case of itself. -/
def uLatin : UInfo := { UInfo.ascii with word := fun c => c == 'é' }

/-- ✗ witness (defect class `duplicate-property-name`): the tags `aé` and `a` have different keys but the same module `a`
    and the same class `AClient`: two properties `a`, the first one is dead. -/
theorem property_names_pairwise_distinct_counterexample :
    (apiClientSkel (tagTuples uLatin [[s "aé"], [s "a"]])).props = [(s "a", s "AClient"), (s "a", s "AClient")] ∧
      propSurvives (apiClientSkel (tagTuples uLatin [[s "aé"], [s "a"]])) 0 = false := by
  repeat rw [s_ofList]
  decide +kernel

/-- No property is ever replaced by one of the methods written after the properties (every input, every case table): a
    property can only be shadowed by another property of the same name. -/
theorem properties_not_shadowed_by_methods (u : UInfo) (tagss : List (List Str)) :
    ∀ p ∈ (apiClientSkel (tagTuples u tagss)).props, p.1 ∉ (apiClientSkel (tagTuples u tagss)).methods := by
  intro p hp
  have h := (property_names u tagss p hp).1
  simp only [List.mem_append, not_or] at h
  rw [apiClientSkel_methods]
  exact h.1.1

/-- ✗ `properties_survive`: every `@property` is still the attribute of that name in the finished class — false for
    non-ASCII tags only (`property_names_pairwise_distinct_counterexample`: two properties `a`).  Partial: ASCII tags.
    **F64 repaired**: tag groups called `request` or `close` are covered - no property is shadowed by one of the methods
    written after the properties (`properties_not_shadowed_by_methods`). -/
theorem properties_survive_partial (u : UInfo) (tagss : List (List Str))
    (hascii : ∀ ts ∈ tagss, ∀ t ∈ ts, t.all isAscii = true)
    (i : Nat) (hi : i < (apiClientSkel (tagTuples u tagss)).props.length) :
    propSurvives (apiClientSkel (tagTuples u tagss)) i = true :=
  propSurvives_of _ (property_names_pairwise_distinct_partial u tagss hascii)
    (properties_not_shadowed_by_methods u tagss) i hi

example : (∀ ts ∈ [[s "request", s "close"], [s "Users"]], ∀ t ∈ ts, t.all isAscii = true) ∧
    (apiClientSkel (tagTuples UInfo.ascii [[s "request", s "close"], [s "Users"]])).props.length = 3 := by
  repeat rw [s_ofList]
  decide +kernel

/-- The former witness of F64 (defect class `property-shadowed-by-method`): the tag client of `request` is the property `request_`, which
    survives next to the method `request`. -/
theorem property_shadowed_former_witness :
    (apiClientSkel (tagTuples UInfo.ascii [[s "request"], [s "users"]])).props.map (·.1) = [s "request_", s "users"] ∧
      propSurvives (apiClientSkel (tagTuples UInfo.ascii [[s "request"], [s "users"]])) 0 = true ∧
      propSurvives (apiClientSkel (tagTuples UInfo.ascii [[s "request"], [s "users"]])) 1 = true := by
  repeat rw [s_ofList]
  decide +kernel

/-! ## The three surfaces (C13) -/

/-- **C13.**  Written from the same `tag_tuples` (as `ClientVisitor.visit` does for the Protocol and the implementation),
    the three classes expose the same property names in the same order; the property `<module>` returns `<Class>` in
    `APIClient` and `<Class>Protocol` in `APIClientProtocol` and `MockAPIClient`; `MockAPIClient.__init__` has exactly one
    keyword per property (same names, same order) whose default is `Mock<Class>()`; and the same four fixed methods. -/
theorem surfaces_agree (tt : List TagTuple) :
    (protocolSkel tt).props.map (·.1) = (apiClientSkel tt).props.map (·.1) ∧
    (mockClientSkel tt).props.map (·.1) = (apiClientSkel tt).props.map (·.1) ∧
    (protocolSkel tt).props.map (·.2) = (apiClientSkel tt).props.map (fun p => p.2 ++ kProtocolSuffix) ∧
    (mockClientSkel tt).props = (protocolSkel tt).props ∧
    (mockClientSkel tt).initParams = kSelf :: (mockClientSkel tt).props.map (·.1) ∧
    mockDefaults tt = (apiClientSkel tt).props.map (fun p => kMockPrefix ++ p.2) ∧
    (mockClientSkel tt).attrs = (mockClientSkel tt).props.map (fun p => privAttr p.1) ∧
    (protocolSkel tt).methods = (apiClientSkel tt).methods ∧ (mockClientSkel tt).methods = (apiClientSkel tt).methods := by
  simp [protocolSkel_props, apiClientSkel_props, mockClientSkel_props, mockClientSkel_initParams, mockClientSkel_attrs,
    protocolSkel_methods, apiClientSkel_methods, mockClientSkel_methods, mockDefaults, List.map_map, Function.comp_def]

/-- **C13, `mock_surface`** (F23 repaired; before the repair `MocksEmitter.emit` built its own tuples — FIRST tag only, RAW tag
    string, insertion order — and this was false): the tuples the mocks emitter hands to `generate_client_mock_class` are the
    tuples of `ClientVisitor.visit`, so `MockAPIClient` exposes the properties of `APIClient` — same names, same order, each
    returning the Protocol of the tag client — for EVERY list of operation tags. -/
theorem mock_surface (u : UInfo) (tagss : List (List Str)) :
    mockTuples u tagss = tagTuples u tagss ∧
    (mockClientSkel (mockTuples u tagss)).props.map (·.1) = (apiClientSkel (tagTuples u tagss)).props.map (·.1) ∧
    (mockClientSkel (mockTuples u tagss)).props = (protocolSkel (tagTuples u tagss)).props ∧
    (mockClientSkel (mockTuples u tagss)).initParams = kSelf :: (apiClientSkel (tagTuples u tagss)).props.map (·.1) := by
  obtain ⟨_, h2, _, h4, h5, _⟩ := surfaces_agree (tagTuples u tagss)
  rw [mockTuples_eq_tagTuples]
  exact ⟨rfl, h2, h4, by rw [h5, h2]⟩

/-- The former witnesses of F23 (defect classes `mock-groups-by-first-raw-tag`, `mock-client-props-order`): the second tag of an
    operation has its property on `MockAPIClient` too, and the order is `APIClient`'s (sorted by key). -/
theorem mock_surface_former_witness :
    (apiClientSkel (tagTuples UInfo.ascii [[s "Users", s "admin-ops"]])).props.map (·.1) = [s "admin_ops", s "users"] ∧
    (mockClientSkel (mockTuples UInfo.ascii [[s "Users", s "admin-ops"]])).props.map (·.1) = [s "admin_ops", s "users"] ∧
    (apiClientSkel (tagTuples UInfo.ascii [[s "b"], [s "a"]])).props.map (·.1) = [s "a", s "b"] ∧
    (mockClientSkel (mockTuples UInfo.ascii [[s "b"], [s "a"]])).props.map (·.1) = [s "a", s "b"] := by
  repeat rw [s_ofList]
  decide +kernel

/-- Former witness of F23 (defect class `mock-client-props-differ`): the empty tag is the group `""` (module name `""`) for the mocks
    emitter as for `APIClient` — before the repair it was `default` for the mocks. -/
theorem mock_surface_empty_tag_former_witness :
    (apiClientSkel (tagTuples UInfo.ascii [[[]]])).props = [([], s "UnnamedClassClient")] ∧
    (mockClientSkel (mockTuples UInfo.ascii [[[]]])).props = [([], s "UnnamedClassClientProtocol")] := by
  repeat rw [s_ofList]
  decide +kernel

/-! ## The body of `MockAPIClient.__init__` (C01, finding F31) -/

/-- **F31, repaired.**  The `__init__` of `MockAPIClient` never has an empty body (without tag clients it is `pass`), whichever of
    the two tuple lists it is written from; nor has the `__init__` of `APIClient`. -/
theorem mock_init_body_never_empty (u : UInfo) (tagss : List (List Str)) :
    (mockClientSkel (mockTuples u tagss)).initBodyEmpty = false ∧
    (mockClientSkel (tagTuples u tagss)).initBodyEmpty = false ∧
    (apiClientSkel (tagTuples u tagss)).initBodyEmpty = false :=
  ⟨rfl, rfl, rfl⟩

/-- The former witness (defect class `mock-client-empty-init`): a document without operations gives a `mock_client.py` that
    compiles, like `client.py`. -/
theorem mock_client_compiles_when_no_operation (u : UInfo) :
    mockSyntaxOk (mockTuples u []) = true ∧ visitSyntaxOk (tagTuples u []) = true ∧
      (mockClientSkel (mockTuples u [])).initParams = [kSelf] :=
  ⟨rfl, rfl, rfl⟩

/-- The former witness of F23 (defect class `mock-client-duplicate-argument`): the tags `Users` and `users` of two operations are
    ONE group of the mocks emitter (before the repair: two groups with the same module name,
    `def __init__(self, users: …, users: …)`, a `SyntaxError`). -/
theorem mock_duplicate_argument_former_witness :
    (mockClientSkel (mockTuples UInfo.ascii [[s "Users"], [s "users"]])).initParams = [kSelf, s "users"] ∧
      mockSyntaxOk (mockTuples UInfo.ascii [[s "Users"], [s "users"]]) = true ∧
      visitSyntaxOk (tagTuples UInfo.ascii [[s "Users"], [s "users"]]) = true := by
  repeat rw [s_ofList]
  decide +kernel

/-- With ASCII tags the keywords of `MockAPIClient.__init__` are pairwise distinct, whatever spellings of a tag occur
    (`property_names_pairwise_distinct_partial` through `mock_surface`; non-ASCII tags: `property_names_pairwise_distinct_counterexample`). -/
theorem mock_init_keywords_distinct_partial (u : UInfo) (tagss : List (List Str))
    (hascii : ∀ ts ∈ tagss, ∀ t ∈ ts, t.all isAscii = true) :
    ((mockClientSkel (mockTuples u tagss)).initParams.drop 1).Nodup := by
  rw [(mock_surface u tagss).2.2.2]
  exact property_names_pairwise_distinct_partial u tagss hascii

example : ∀ ts ∈ [[s "Data Sources"], [s "data_sources", s "admin-ops"], []], ∀ t ∈ ts, t.all isAscii = true := by
  repeat rw [s_ofList]
  decide +kernel

/-- The former witness of F64 (defect class `mock-client-self-argument`): the keyword of the tag
    `self` is `self_`, next to the receiver `self`: `mock_client.py` compiles. -/
theorem mock_self_argument_former_witness :
    (mockClientSkel (mockTuples UInfo.ascii [[s "self"]])).initParams = [kSelf, s "self_"] ∧
      mockSyntaxOk (mockTuples UInfo.ascii [[s "self"]]) = true ∧ visitSyntaxOk (tagTuples UInfo.ascii [[s "self"]]) = true := by
  repeat rw [s_ofList]
  decide +kernel

/-- **F64 repaired.**  For every list of tuples the receiver `self` of `MockAPIClient.__init__` differs from every keyword. -/
theorem mock_self_never_a_keyword (tt : List TagTuple) : kSelf ∉ (mockClientSkel tt).initParams.tail := by
  rw [mockClientSkel_initParams]
  intro h
  obtain ⟨t, _, ht⟩ := List.mem_map.1 h
  have h' := (tagAttr_not_own t.module).1
  rw [ht] at h'
  exact h' (by decide)

/-! ## Private attributes -/

/-- **F64 repaired.**  For every input and every case table the private attribute `_<attr>` in which `APIClient` (and
    `MockAPIClient`) stores a tag client is none of the names the class defines itself: not `config`, `transport`, `_base_url`
    (the attribute that holds the base URL), a fixed method, or `__init__`. -/
theorem private_attr_never_own_member (u : UInfo) (tagss : List (List Str)) :
    ∀ a ∈ (apiClientSkel (tagTuples u tagss)).attrs.drop fixedAttrs.length, a ∉ fixedAttrs ++ fixedMethods ++ [kInit] := by
  intro a ha
  rw [apiClientSkel_attrs, List.drop_left] at ha
  obtain ⟨t, _, rfl⟩ := List.mem_map.1 ha
  intro hm
  exact (tagAttr_not_own t.module).2 ((by decide : ∀ x ∈ fixedAttrs ++ fixedMethods ++ [kInit], x ∈ ownMembers) _ hm)

/-- … hence the instance attributes assigned in `APIClient.__init__` never re-assign `config`, `transport` or `_base_url`. -/
theorem fixed_attrs_assigned_once (u : UInfo) (tagss : List (List Str)) :
    ∀ x ∈ fixedAttrs, (apiClientSkel (tagTuples u tagss)).attrs.count x = 1 := by
  intro x hx
  have hnot : x ∉ (tagTuples u tagss).map (fun t => privAttr (tagAttr t.module)) := by
    intro hmem
    refine private_attr_never_own_member u tagss x ?_ (List.mem_append_left _ (List.mem_append_left _ hx))
    rw [apiClientSkel_attrs, List.drop_left]
    exact hmem
  rw [apiClientSkel_attrs, List.count_append, List.count_eq_zero.2 hnot]
  exact (by decide : ∀ x ∈ fixedAttrs, fixedAttrs.count x + 0 = 1) x hx

/-- ✗ `private_attr_names_distinct_from_public` is false for non-ASCII tags (`private_attr_counterexample`).  Partial,
    `TagsOK`: the private attribute `_<attr>` of a tag client is never the name of a property; and (every input) it is none
    of `config`, `transport`, `_base_url`, nor a fixed method (F64 repaired). -/
theorem private_attr_names_distinct_from_public_partial (u : UInfo) (tagss : List (List Str)) (hok : TagsOK tagss) :
    ∀ t ∈ tagTuples u tagss,
      privAttr (tagAttr t.module) ∉ (apiClientSkel (tagTuples u tagss)).props.map (·.1) ∧
      privAttr (tagAttr t.module) ∉ fixedAttrs ∧ privAttr (tagAttr t.module) ∉ fixedMethods := by
  have hmod : ∀ t ∈ tagTuples u tagss, t.module = sanModule u t.tag ∧
      (t.tag.all isAscii = true ∨ t.tag.any isAlnumA = true) := by
    intro t ht
    obtain ⟨h1, h2⟩ := tuple_of_tags u tagss (fun c => c.all isAscii = true ∨ c.any isAlnumA = true)
      (.inr kDefaultTag_alnum) hok t ht
    exact ⟨by rw [h1, tuple_module]; rfl, h2⟩
  intro t ht
  have hown := (tagAttr_not_own t.module).2
  refine ⟨?_, fun hm => hown ((by decide : ∀ x ∈ fixedAttrs, x ∈ ownMembers) _ hm),
    fun hm => hown ((by decide : ∀ x ∈ fixedMethods, x ∈ ownMembers) _ hm)⟩
  intro hmem
  simp only [apiClientSkel_props, List.map_map] at hmem
  obtain ⟨t', ht', heq⟩ := List.mem_map.1 hmem
  simp only [Function.comp_def] at heq
  obtain ⟨hm, hta⟩ := hmod t ht
  obtain ⟨hm', hta'⟩ := hmod t' ht'
  -- `_<attr>` is an attribute name again only if both consist of underscores; such a name is the module name itself,
  -- of a tag with the empty key: the two tuples have the same key, so they are one tuple, and `_<m> = m` is absurd
  obtain ⟨hu0, hu0'⟩ := priv_eq_mod _ _ (tagAttr_modOK _ (hm ▸ sanModule_modOK u _ hta))
    (tagAttr_modOK _ (hm' ▸ sanModule_modOK u _ hta')) heq.symm
  have ea := tagAttr_of_allUs _ hu0
  have ea' := tagAttr_of_allUs _ hu0'
  rw [ea, hm] at hu0
  rw [ea', hm'] at hu0'
  rw [ea, ea'] at heq
  have := tagTuples_key_inj u tagss ht ht'
    ((normTagKey_of_allUs u _ hta hu0).trans (normTagKey_of_allUs u _ hta' hu0').symm)
  subst this
  have := congrArg List.length heq
  simp [privAttr] at this

example : TagsOK [[s "données", s "-"], [s "base_url"]] := by
  unfold TagsOK
  repeat rw [s_ofList]
  decide +kernel

/-- The former witness of F64 (defect class `private-attr-collision`): a tag group whose
    module name is `base_url` (`base_url`, `base-url`, `BaseUrl`, `base url` …) is the property `base_url_` and stores its lazily
    built client in `self._base_url_` — not in `self._base_url`, the attribute that holds the base URL. -/
theorem private_attr_base_url_former_witness :
    (apiClientSkel (tagTuples UInfo.ascii [[s "base-url"], [s "users"]])).attrs =
      [kConfig, kTransport, kBaseUrl, s "_base_url_", s "_users"] ∧
    (apiClientSkel (tagTuples UInfo.ascii [[s "base-url"], [s "users"]])).props.map (·.1) = [s "base_url_", s "users"] := by
  repeat rw [s_ofList]
  decide +kernel

/-- CPython's view of the Kelvin sign (U+212A, `'\u212a'`): a word character whose lower case is the ASCII letter `k`; `é` is a
    word character. -/
def uKelvin : UInfo :=
  { UInfo.ascii with word := fun c => c == '\u212a' || c == 'é', lower := fun c => if c == '\u212a' then ['k'] else [c] }

/-- ✗ witness (non-ASCII, defect class `private-attr-collision`): the tags `ké` and `_` + Kelvin sign have the keys `ké`
    and `k`, the modules `k` and `_k`: the private attribute of the first is the property of the second. -/
theorem private_attr_counterexample :
    (apiClientSkel (tagTuples uKelvin [[s "ké"], [['_', '\u212a']]])).props.map (·.1) = [s "_k", s "k"] ∧
    (apiClientSkel (tagTuples uKelvin [[s "ké"], [['_', '\u212a']]])).attrs.drop 3 = [s "__k", s "_k"] := by
  repeat rw [s_ofList]
  decide +kernel

end Pog.ClientGenProps
