import Pog.Lemmas.Resolve
/-
  Property theorems about the schema type resolver (`OpenAPISchemaResolver`, model `Pog/Model/Resolve.lean`).

  Five facts, each for every registry, context, fuel and flags: (1) every name a resolved annotation uses has an import
  request - false of the code as it stands, so: three counterexamples, the statement under the hypothesis that excludes
  them, and the format table; (2) `is_optional = not required`; (3) the members of a `Union[...]` are the distinct member
  types in document order; (4) a forward reference is produced only inside the models package; (5) the fuel of the model
  is a proof device.
-/
namespace Pog.ResolveProps
open Pog Pog.Resolve

private def s (x : String) : Str := x.toList

/-- an `IRSchema()` with every field at its default -/
def blank (uid : Nat) : IR :=
  { uid := uid, name := none, genName := none, stem := none, ty := none, format := none, enumNonEmpty := false,
    boolEnum := [], items := none, hasProps := false, anyOf := none, oneOf := none, allOf := none }

/-- what the correspondence compares, as one decidable record: `ResolvedType` (python_type as text), the ordered
    `add_import` calls, and fact (1) of the header (`coverOK`) evaluated on the result -/
structure Summary where
  pythonType : Str
  optional : Bool
  forwardRef : Bool
  needsImport : Bool
  imports : Imps
  covered : Bool
  deriving DecidableEq, Repr

def summary (x : Resolved × Imps) : Summary :=
  { pythonType := render x.1.ann, optional := x.1.optional, forwardRef := x.1.forwardRef,
    needsImport := x.1.needsImport, imports := x.2, covered := coverOK x }

/-- TABLE-LEVEL (re-checked by `decide` whenever `Pog/Gen/Resolver.lean` is regenerated): every value of
    `format_mapping`, and the default of its `.get`, is a python builtin or is imported — under that very name — by
    the first matching arm of the `if python_type == …: context.add_import(…)` chain. -/
theorem format_table_ok : formatTableOK = true := formatTableOK_holds

/-- The same fact in the form `∀ (f, t) ∈ formatMapping, t builtin ∨ (t, _, t) ∈ formatImports`. -/
theorem format_table_cover :
    ∀ p ∈ Pog.Gen.formatMapping, p.2 ∈ builtinNames ∨ ∃ m, (p.2, m, p.2) ∈ Pog.Gen.formatImports := by
  intro p hp
  have h := format_table_ok
  unfold formatTableOK at h
  rw [Bool.and_eq_true, List.all_eq_true] at h
  exact (fmtOK_iff.mp (h.1 p hp)).imp_right fun ⟨m, hi⟩ => ⟨m, importFor_mem hi⟩

/- ✗ resolve_imports_cover (FALSE of the code):
     resolve reg cur rel fuel s required underlying imps = some (r, imps') →
       ∀ n ∈ usedNames r, n ∈ builtinNames ∨ ∃ m, (m, n) ∈ imps'
   Two returns name a class without calling `context.add_import`:
     * `_resolve_named_schema` when `final_module_stem` is missing/empty
         (`return ResolvedType(python_type=class_name or "Any", is_optional=not required)`)      [resolve.named_no_stem_no_import]
     * `_resolve_string` on an enum that has a `generation_name`, reached when `resolve_underlying=True` or
       when the schema has no `name` (`return ResolvedType(python_type=schema.generation_name, …)`) [resolve.string_enum_no_import]
-/

/-- a named model (`name`, `generation_name`) whose `final_module_stem` was never set -/
def petNoStem : IR := { blank 1 with name := some (s "Pet"), genName := some (s "Pet"), ty := some (s "object") }

/-- a properly processed string enum: `name`, `generation_name`, `final_module_stem` all set -/
def statusEnum : IR :=
  { blank 1 with name := some (s "Status"), genName := some (s "Status"), stem := some (s "status"),
                 ty := some (s "string"), enumNonEmpty := true }

/-- an inline string enum that was given a `generation_name` but has no `name` -/
def statusEnumNameless : IR := { statusEnum with name := none }

/-- COUNTEREXAMPLE (class `resolve.named_no_stem_no_import`): the result is the bare name `Pet`, no import is
    requested, nothing marks it as a forward reference. -/
theorem resolve_imports_cover_counterexample_named_no_stem :
    (resolve [] none .absent 1 petNoStem true false []).map summary
      = some { pythonType := s "Pet", optional := false, forwardRef := false, needsImport := false, imports := [],
               covered := false } := by decide +kernel

/-- COUNTEREXAMPLE (class `resolve.string_enum_no_import`): with `resolve_underlying=True` the fully processed enum
    `Status` is resolved by `_resolve_string`, which returns the class name without importing it … -/
theorem resolve_imports_cover_counterexample_enum_underlying :
    (resolve [] none .absent 1 statusEnum true true []).map summary
      = some { pythonType := s "Status", optional := false, forwardRef := false, needsImport := false, imports := [],
               covered := false } := by decide +kernel

/-- … whereas with `resolve_underlying=False` the same schema is imported from its module. -/
example :
    (resolve [] none .absent 1 statusEnum true false []).map summary
      = some { pythonType := s "Status", optional := false, forwardRef := false, needsImport := true,
               imports := [(s "..models.status", s "Status")], covered := true } := by decide +kernel

/-- COUNTEREXAMPLE (class `resolve.string_enum_no_import`, nameless variant): no `name`, so `_resolve_named_schema`
    is skipped even with `resolve_underlying=False`. -/
theorem resolve_imports_cover_counterexample_enum_nameless :
    (resolve [] none .absent 1 statusEnumNameless true false []).map summary
      = some { pythonType := s "Status", optional := false, forwardRef := false, needsImport := false, imports := [],
               covered := false } := by decide +kernel

/-- the failing check is the failing property: `coverOK` decides `Covered` -/
theorem coverOK_iff_covered (x : Resolved × Imps) :
    coverOK x = true ↔ ∀ n ∈ usedNames x.1, n ∈ builtinNames ∨ ∃ m, (m, n) ∈ x.2 := by
  unfold coverOK
  simp only [List.all_eq_true, Bool.or_eq_true, List.contains_iff_mem, List.any_eq_true, beq_iff_eq]
  refine forall₂_congr fun n _ => or_congr_right ⟨?_, fun ⟨m, hm⟩ => ⟨(m, n), hm, rfl⟩⟩
  rintro ⟨p, hp, rfl⟩
  exact ⟨p.1, hp⟩

/-- PARTIAL: when the resolution of `s` passes through neither of the two bare returns (`hazardFree`, a decidable
    check that follows `resolve_schema` branch for branch with the same fuel), every UNQUOTED name of the resolved
    annotation is a python builtin (`str int float bool bytes dict`) or was requested through `context.add_import`
    (`List`, `Union`, `Any`, `Literal`, `date`, `datetime`, `time`, `UUID`, model classes); a top-level forward
    reference counts as quoted.  For all registries, contexts, fuel, flags and prior imports. -/
theorem resolve_imports_cover_partial {reg : List (Str × IR)} {cur : Option Str} {rel : RelMode} {fuel : Nat}
    {sch : IR} {required underlying : Bool} {imps imps' : Imps} {r : Resolved}
    (h : resolve reg cur rel fuel sch required underlying imps = some (r, imps'))
    (hz : hazardFree reg fuel sch underlying = true) :
    ∀ n ∈ usedNames r, n ∈ builtinNames ∨ ∃ m, (m, n) ∈ imps' :=
  resolve_induct (fun n s _ ru _ x => hazardFree reg n s ru = true → Covered x)
    (fun n s req ru imps k hd hz => by
      rw [hazardFree, hd] at hz
      exact leaf_covered _ _ _ _ _ _ (by simpa using hz))
    (fun n s req ru imps t x hd _ ih hz => by
      rw [hazardFree, hd] at hz
      exact ih hz)
    (fun n s req ru imps item ru' r imps1 hd _ ih hz => by
      rw [hazardFree, hd] at hz
      intro nm hnm
      simp only [arrayOf, usedNames, Bool.false_eq_true, ↓reduceIte, names, List.mem_cons] at hnm
      rcases hnm with rfl | hnm
      · exact Or.inr ⟨sTyping, mem_addImp_self ..⟩
      · exact (ih hz nm (names_quoteIfFwd_sub _ hnm)).imp_right fun ⟨md, hmd⟩ => ⟨md, sub_addImp _ _ _ hmd⟩)
    (fun n s req ru imps ms parts imps1 hd hm hz => by
      rw [hazardFree, hd] at hz
      exact unionOf_covered _ _ (MembersP.covered hm (by simpa using hz)))
    fuel sch required underlying imps (r, imps') h hz

/-- the hazard check at a leaf is exactly "this is one of the two bare returns" -/
theorem leafHazard_iff (k : Leaf) (sch : IR) :
    leafHazard k sch = true ↔
      (k = .named ∧ truthy sch.stem = false) ∨ (k = .string ∧ sch.enumNonEmpty = true ∧ truthy sch.genName = true) := by
  cases k <;> simp [leafHazard]

/-- `anyOf: [Pet (models/pet.py), array of uuid strings, boolean enum [true]]` seen from an endpoint module -/
def sampleUnion : IR :=
  { blank 1 with
    anyOf := some [
      { blank 2 with name := some (s "Pet"), genName := some (s "Pet"), stem := some (s "pet"), ty := some (s "object") },
      { blank 3 with ty := some (s "array"),
                     items := some { blank 4 with ty := some (s "string"), format := some (s "uuid") } },
      { blank 5 with ty := some (s "boolean"), enumNonEmpty := true, boolEnum := [some true] }] }

/-- non-vacuity of `resolve_imports_cover_partial`: a union of a model, a `List[UUID]` and a `Literal[True]` is
    hazard free, resolves, and needs five imports. -/
example :
    hazardFree [] 3 sampleUnion false = true ∧
    (resolve [] (some (s "/out/endpoints/pet.py")) .absent 3 sampleUnion false false []).map summary
      = some { pythonType := s "Union[Pet, List[UUID], Literal[True]]", optional := true, forwardRef := false,
               needsImport := false, covered := true,
               imports := [(s "..models.pet", s "Pet"), (s "uuid", s "UUID"), (s "typing", s "List"),
                           (s "typing", s "Literal"), (s "typing", s "Union")] } := by
  simp only [sampleUnion, s]
  -- string literals to character lists first: the kernel decodes a literal at a cost superlinear in its length
  repeat rw [String.toList_ofList]
  decide +kernel

/-- `is_optional = not required` in every branch: `required` flows unchanged through the registry fallbacks
    (by name, by type) and through allOf; arrays and unions resolve their parts with `required=True` but build their
    own result from the caller's flag. -/
theorem resolve_optional_iff_not_required {reg : List (Str × IR)} {cur : Option Str} {rel : RelMode} {fuel : Nat}
    {sch : IR} {required underlying : Bool} {imps imps' : Imps} {r : Resolved}
    (h : resolve reg cur rel fuel sch required underlying imps = some (r, imps')) :
    r.optional = !required :=
  (resolve_basic fuel sch required underlying imps (r, imps') h).optional

/-- the union loop is entered exactly for a non-empty `any_of`, or (no `any_of`, no `all_of`) a non-empty `one_of` -/
theorem dispatch_union {reg : List (Str × IR)} {sch : IR} {ru : Bool} {ms : List IR}
    (hd : dispatch reg sch ru = .union ms) :
    ms ≠ [] ∧ (sch.anyOf = some ms ∨ (sch.anyOf = none ∧ sch.allOf = none ∧ sch.oneOf = some ms)) :=
  (dispatch_eq_union_iff.mp hd).2

/-- anyOf / oneOf: `parts` are, in document order, the members' resolved types (each resolved with `required=True`,
    quoted when it is a forward reference).  With exactly one member the result IS that member — no `Union`, no
    import of `Union`.  Otherwise the result is `Union[us]` where the texts of `us` are pairwise distinct, contain
    the text of every part, are drawn from the parts, and are exactly the first occurrences in document order
    (`List.eraseDups` of the parts' texts = `list(dict.fromkeys(...))`), and `typing.Union` is requested last. -/
theorem union_members_nodup_and_cover {reg : List (Str × IR)} {cur : Option Str} {rel : RelMode} {fuel : Nat}
    {sch : IR} {required underlying : Bool} {imps imps' : Imps} {r : Resolved} {ms : List IR}
    (hd : dispatch reg sch underlying = .union ms)
    (h : resolve reg cur rel (fuel + 1) sch required underlying imps = some (r, imps')) :
    ∃ parts imps1,
      members (resolve reg cur rel fuel) underlying ms imps = some (parts, imps1) ∧
      Forall₂ (fun m p => ∃ rm i1 i2,
          resolve reg cur rel fuel m true (subRu underlying m) i1 = some (rm, i2) ∧
          p = quoteIfFwd rm.ann rm.forwardRef) ms parts ∧
      (∀ p, parts = [p] → r.ann = p ∧ imps' = imps1) ∧
      (parts.length ≠ 1 → ∃ us,
        r.ann = .union us ∧
        (us.map render).Nodup ∧
        (∀ p ∈ parts, render p ∈ us.map render) ∧
        (∀ u ∈ us, u ∈ parts) ∧
        us.map render = (parts.map render).eraseDups ∧
        imps' = addImp imps1 sTyping ['U', 'n', 'i', 'o', 'n']) := by
  obtain ⟨parts, imps1, hm, hx⟩ := resolve_union_unfold hd h
  refine ⟨parts, imps1, hm, ?_, ?_, ?_⟩
  · exact (members_spec (P := fun _ _ _ _ _ => True) (fun _ _ _ _ _ _ => trivial) _ _ _ _ hm).forall₂
  · intro p hp
    subst hp
    rw [unionOf_single] at hx
    cases hx
    exact ⟨rfl, rfl⟩
  · intro hlen
    rw [unionOf_many _ _ hlen] at hx
    cases hx
    refine ⟨dedupAnn parts [], rfl, ?_, ?_, fun u hu => dedupAnn_mem hu, ?_, rfl⟩
    · rw [dedupAnn_render_nil]
      exact nodup_eraseDups _
    · intro p hp
      rw [dedupAnn_render_nil]
      exact List.mem_eraseDups.mpr (List.mem_map_of_mem hp)
    · exact dedupAnn_render_nil parts

/-- non-vacuity: `anyOf: [integer, string, integer]` gives `Union[int, str]`; `oneOf: [integer]` gives `int`. -/
example :
    (resolve [] none .absent 2
        { blank 1 with anyOf := some [{ blank 2 with ty := some (s "integer") }, { blank 3 with ty := some (s "string") },
                                      { blank 4 with ty := some (s "integer") }] } true false []).map
        (fun x => (render x.1.ann, x.2)) = some (s "Union[int, str]", [(s "typing", s "Union")]) ∧
    (resolve [] none .absent 2
        { blank 1 with oneOf := some [{ blank 2 with ty := some (s "integer") }] } true false []).map
        (fun x => (render x.1.ann, x.2)) = some (s "int", []) := by decide +kernel

/-- `cur` is `<dir>/models/<stem>.py` for some stem (in the sense of `os.path.basename` / `os.path.dirname`) -/
def InModelsPackage (cur : Option Str) : Prop :=
  ∃ c stem, cur = some c ∧ c ≠ [] ∧ pathBasename c = stem ++ s ".py" ∧ pathBasename (pathDirname c) = s "models"

theorem selfOK_inModels {cur : Option Str} (h : SelfOK cur) : InModelsPackage cur := by
  obtain ⟨stem, hs⟩ := h
  obtain ⟨c, hc, hne, h1, h2⟩ := selfImport_iff.mp hs
  exact ⟨c, stem, hc, hne, by simpa [dotPy, s] using h1, by simpa [modelsDir, s] using h2⟩

/-- `_resolve_named_schema` answers with a forward reference exactly when the schema's OWN `final_module_stem` is
    set and `current_file` is `models/<that stem>.py`. -/
theorem named_forward_ref_iff_self_import (cur : Option Str) (rel : RelMode) (sch : IR) (required : Bool) (imps : Imps) :
    (resolveNamed cur rel sch required imps).1.forwardRef = true ↔
      ∃ stem, sch.stem = some stem ∧ stem ≠ [] ∧ selfImport cur stem = true := by
  unfold resolveNamed
  -- `final_module_stem` missing, empty, or set; in the last case the self-import test decides
  rcases sch.stem with _ | _ | ⟨c, cs⟩
  · simp
  · simp
  · dsimp only
    split <;> simp [*]

/-- A forward reference (top-level `is_forward_ref`, or a quoted name anywhere inside the annotation) is produced only
    when `current_file`'s basename is `<stem>.py` AND its parent directory is `models`; a top-level forward reference
    is a bare class name for which no import was requested (`needs_import = False`). -/
theorem self_import_only_in_models_package {reg : List (Str × IR)} {cur : Option Str} {rel : RelMode} {fuel : Nat}
    {sch : IR} {required underlying : Bool} {imps imps' : Imps} {r : Resolved}
    (h : resolve reg cur rel fuel sch required underlying imps = some (r, imps')) :
    (r.forwardRef = true → InModelsPackage cur ∧ r.needsImport = false ∧ ∃ cls, r.ann = .name cls) ∧
    (hasQuoted r.ann = true → InModelsPackage cur) := by
  have hf := (resolve_basic fuel sch required underlying imps (r, imps') h).fwd
  exact ⟨fun hfw => ⟨selfOK_inModels (hf.1 hfw).1, (hf.1 hfw).2⟩, fun hq => selfOK_inModels (hf.2 hq)⟩

/-- Outside the models package nothing is quoted and nothing is a forward reference: every named schema is imported. -/
theorem no_forward_ref_outside_models {reg : List (Str × IR)} {cur : Option Str} {rel : RelMode} {fuel : Nat}
    {sch : IR} {required underlying : Bool} {imps imps' : Imps} {r : Resolved}
    (hcur : ∀ c, cur = some c → pathBasename (pathDirname c) ≠ s "models")
    (h : resolve reg cur rel fuel sch required underlying imps = some (r, imps')) :
    r.forwardRef = false ∧ hasQuoted r.ann = false := by
  have hp := self_import_only_in_models_package h
  have hno : ¬ InModelsPackage cur := by
    rintro ⟨c, _, hc, _, _, h2⟩
    exact hcur c hc h2
  exact ⟨Bool.eq_false_iff.2 fun hf => hno (hp.1 hf).1, Bool.eq_false_iff.2 fun hq => hno (hp.2 hq)⟩

/-- `Pet` (module stem `pet`) -/
def petModel : IR :=
  { blank 1 with name := some (s "Pet"), genName := some (s "Pet"), stem := some (s "pet"), ty := some (s "object") }

/-- the endpoint module `endpoints/pet.py` IMPORTS `Pet` from `models/pet.py`; `models/pet.py` itself gets a forward
    reference and no import; `models/xpet.py` is another module and imports. -/
example :
    (resolve [] (some (s "/out/endpoints/pet.py")) .absent 1 petModel true false []).map summary
      = some { pythonType := s "Pet", optional := false, forwardRef := false, needsImport := true,
               imports := [(s "..models.pet", s "Pet")], covered := true } ∧
    (resolve [] (some (s "/out/models/pet.py")) .absent 1 petModel true false []).map summary
      = some { pythonType := s "Pet", optional := false, forwardRef := true, needsImport := false, imports := [],
               covered := true } ∧
    (resolve [] (some (s "/out/models/xpet.py")) .absent 1 petModel true false []).map summary
      = some { pythonType := s "Pet", optional := false, forwardRef := false, needsImport := true,
               imports := [(s "..models.pet", s "Pet")], covered := true } := by
  simp only [petModel, s]
  repeat rw [String.toList_ofList]
  decide +kernel

/-- the hypothesis of `no_forward_ref_outside_models` holds of an endpoint module -/
example : ∀ c, some (s "/out/endpoints/pet.py") = some c → pathBasename (pathDirname c) ≠ s "models" := by
  intro c hc
  cases hc
  simp only [s]
  repeat rw [String.toList_ofList]
  decide +kernel

/-- The fuel is a proof device, not behaviour: an answer obtained with some fuel is the answer with more fuel. -/
theorem resolve_monotone_fuel {reg : List (Str × IR)} {cur : Option Str} {rel : RelMode} {fuel : Nat}
    {sch : IR} {required underlying : Bool} {imps : Imps} {x : Resolved × Imps}
    (h : resolve reg cur rel fuel sch required underlying imps = some x) :
    resolve reg cur rel (fuel + 1) sch required underlying imps = some x :=
  resolve_induct (fun n s req ru imps x => resolve reg cur rel (n + 1) s req ru imps = some x)
    (fun _ _ _ _ _ _ hd => by rw [resolve, hd])
    (fun _ _ _ _ _ _ _ hd _ ih => by
      rw [resolve, hd]
      exact ih)
    (fun _ _ _ _ _ _ _ _ _ hd _ ih => by
      rw [resolve, hd]
      simp only [ih])
    (fun _ _ _ _ _ _ _ _ hd hm => by
      rw [resolve, hd]
      simp only [hm.members_eq_of])
    fuel sch required underlying imps x h

theorem resolve_monotone_fuel_le {reg : List (Str × IR)} {cur : Option Str} {rel : RelMode} {fuel fuel' : Nat}
    (hle : fuel ≤ fuel') {sch : IR} {required underlying : Bool} {imps : Imps} {x : Resolved × Imps}
    (h : resolve reg cur rel fuel sch required underlying imps = some x) :
    resolve reg cur rel fuel' sch required underlying imps = some x := by
  induction hle with
  | refl => exact h
  | step _ ih => exact resolve_monotone_fuel ih

/-- `none` really is "out of fuel": a schema whose `type` names a registry entry that is the schema itself is resolved
    by an unconditional recursive call (no identity test on that path; the code raises `RecursionError`). -/
example :
    let loop : IR := { blank 1 with name := some (s "Node"), ty := some (s "Node") }
    ∀ fuel ∈ [1, 5, 40], (resolve [(s "Node", loop)] none .absent fuel loop true false []).isNone = true := by
  decide +kernel

end Pog.ResolveProps
