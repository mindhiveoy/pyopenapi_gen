import Pog.Lemmas.Loader
/-
  Property theorems about the inside of one operation of `parse_operations` (model `Pog/Model/Loader.lean`:
  parameters, request body, the `responses` loop, `parse_response`, `post_process_operation`), used by C01, C04, C05,
  C06, C19 and C20 (their `-- INDEX` lines name what each takes).  In order: the parsed status codes are the declared
  keys; the content keys and the stream flag of a parsed response (`stream_format`, unlike the flag, depends on the order
  of the content mapping); what the promotion names of inline schemas are and when two of them coincide; the parameters
  of an operation (order, override of path-level ones, no duplicate key); locality of the parse; the name collisions of
  `post_process_operation`.  A `✗` in a doc comment marks a statement that is FALSE of the code, proved with a witness.
-/
namespace Pog.LoaderProps
open Pog Pog.Ops Pog.Loader

private def s (x : String) : Str := x.toList

/-- an oracle that never raises and returns an anonymous, non-binary schema -/
def plainOracle : Oracle := fun _ _ => some {}

private def jobj (kvs : List (String × JsonV)) : JsonV := .obj (kvs.map (fun kv => (kv.1.toList, kv.2)))
private def jstr (x : String) : JsonV := .str x.toList

/-- `{"type": "object", "properties": {<p>: {"type": "string"}}}` -/
private def objSchema (p : String) : JsonV :=
  jobj [("type", jstr "object"), ("properties", jobj [(p, jobj [("type", jstr "string")])])]

/-! ## status codes are the declared keys -/

/-- **response_status_is_declared_key** (C06).  For every operation node whose parse does not raise, the status codes
    of the parsed responses are the keys of the `responses` mapping, in order — whatever the entries are: inline
    responses, a `$ref` to one `components.responses` entry used under several keys, a `$ref` to a schema.  (Every
    response is parsed under the key it is DECLARED under; the referenced component has no code of its own.) -/
theorem response_status_is_declared_key (u : UInfo) (orc : Oracle) (c : Comps) (i : OpIn) (out : OpOut)
    (h : parseOp u orc c i = .ok out) :
    i.responses.map (fun p => normKey p.1) = out.responses.map (fun r => StatusKey.strKey r.status) := by
  obtain ⟨_, _, _, _, _, _, resps, _, _, _, _, h4, rfl⟩ := parseOp_ok h
  simpa [normResponses, List.map_map, Function.comp_def] using parseResponses_status h4

/-- One component response used under two keys, plus a schema `$ref` under a third: three responses, under the
    declared keys. -/
example :
    (parseOp UInfo.ascii plainOracle
      { responses := [(s "Err", jobj [("description", jstr "e"),
                                      ("content", jobj [("application/json", jobj [("schema", objSchema "m")])])])] }
      { opId := s "getUser",
        responses := [(.strKey (s "404"), jobj [("$ref", jstr "#/components/responses/Err")]),
                      (.strKey (s "default"), jobj [("$ref", jstr "#/components/responses/Err")]),
                      (.strKey (s "200"), jobj [("$ref", jstr "#/components/schemas/User")])] }).toOption.map
      (fun o => o.responses.map (fun r => (r.status, r.content.map (·.1))))
    = some [(s "404", [s "application/json"]), (s "default", [s "application/json"]), (s "200", [s "application/json"])] := by
  simp only [s, jobj, jstr, objSchema, List.map_cons, List.map_nil]
  repeat rw [String.toList_ofList]
  decide +kernel

/-- An unquoted integer key (YAML `200:`) is read as its decimal string (F16 repaired): the parsed status is that string. -/
theorem normKey_int (n : Int) : normKey (.intKey n) = .strKey (toString n).toList := rfl

/-- A key that is neither a string nor an integer (YAML `1.5:`, `true:`) still makes the whole operation raise
    (`code must be a string`): with `response_status_is_declared_key`, a kept operation has only string / integer keys. -/
theorem response_bad_key_raises (u : UInfo) (orc : Oracle) (c : Comps) (i : OpIn) (r : Str) (node : JsonV)
    (hm : (StatusKey.badKey r, node) ∈ i.responses) : ∀ out, parseOp u orc c i ≠ .ok out := by
  intro out h
  have h1 := response_status_is_declared_key u orc c i out h
  have : normKey (StatusKey.badKey r) ∈ i.responses.map (fun p => normKey p.1) := List.mem_map.mpr ⟨_, hm, rfl⟩
  rw [h1] at this
  obtain ⟨x, _, hx⟩ := List.mem_map.mp this
  cases hx

theorem respError_normKey (opId : Str) (ks : List StatusKey) :
    Ops.respError opId (ks.map normKey) = Ops.respError opId ks := by
  induction ks with
  | nil => rfl
  | cons k rest ih =>
    cases k <;> simp [normKey, Ops.respError, ih]

/-- Link with the control skeleton (`Pog.Ops.parseOne`): an operation this model keeps passes the response-key check
    `Ops.respError` of that model (no float / bool / null key, no empty id with responses). -/
theorem kept_operation_passes_respError (u : UInfo) (orc : Oracle) (c : Comps) (i : OpIn) (out : OpOut)
    (h : parseOp u orc c i = .ok out) : Ops.respError i.opId (i.responses.map (·.1)) = none := by
  obtain ⟨_, _, _, _, _, _, _, _, _, _, _, h4, _⟩ := parseOp_ok h
  rw [← respError_normKey]
  simpa [normResponses, List.map_map, Function.comp_def] using parseResponses_respError h4

/-! ## content keys -/

/-- **response_content_keys_preserved** (C05).  Each parsed response has, in order, exactly the media types of the
    content mapping of its RESOLVED node (`ContentKeysOf`: `resolveResponse` of the declared node is a mapping whose
    `content` member — absent = empty — lists them). -/
theorem response_content_keys_preserved (u : UInfo) (orc : Oracle) (c : Comps) (i : OpIn) (out : OpOut)
    (h : parseOp u orc c i = .ok out) :
    out.responses.length = i.responses.length ∧
      ∀ p ∈ (normResponses i.responses).zip out.responses, ContentKeysOf c.responses p.1 p.2 := by
  obtain ⟨_, _, _, _, _, _, resps, _, _, _, _, h4, rfl⟩ := parseOp_ok h
  have := parseResponses_content_keys h4
  exact ⟨by simpa [normResponses] using this.1, this.2⟩

/-- A `$ref` into `components.responses` resolves to the table entry exactly when that entry exists and is TRUTHY. -/
theorem response_ref_resolves (tbl : List (Str × JsonV)) (kvs : List (Str × JsonV)) (r : Str) (v : JsonV)
    (h1 : aget kvs "$ref".toList = some (.str r)) (h2 : startsWith r respPrefix = true)
    (h3 : aget tbl (lastSeg r) = some v) (h4 : pyTruthy v = true) :
    resolveResponse tbl (.obj kvs) = v := by
  rw [resolveResponse_ref h1 h2, refOr_truthy _ h3 h4]

/-- What the code does with a DANGLING `#/components/responses/X` (no entry `X`, or a falsy one such as `{}`): because of
    `raw_responses.get(ref_name, {}) or rn_node` the `$ref` node ITSELF is parsed as the response — no exception, no
    warning; its content is whatever `content` sibling the `$ref` node happens to have. -/
theorem dangling_response_ref_is_its_own_node (tbl : List (Str × JsonV)) (kvs : List (Str × JsonV)) (r : Str)
    (h1 : aget kvs "$ref".toList = some (.str r)) (h2 : startsWith r respPrefix = true)
    (h3 : aget tbl (lastSeg r) = none ∨ ∃ v, aget tbl (lastSeg r) = some v ∧ pyTruthy v = false) :
    resolveResponse tbl (.obj kvs) = .obj kvs := by
  rw [resolveResponse_ref h1 h2]
  rcases h3 with h3 | ⟨v, h3, h4⟩
  · exact refOr_none _ h3
  · exact refOr_falsy _ h3 h4

/-- … so a bare dangling reference silently becomes a response WITHOUT content (not streaming, no schema request). -/
theorem dangling_bare_response_ref (u : UInfo) (orc : Oracle) (tbl : List (Str × JsonV)) (opId code r : Str)
    (hop : opId ≠ []) (h2 : startsWith r respPrefix = true) (h3 : aget tbl (lastSeg r) = none) :
    parseResponse u orc opId (.strKey code) (resolveResponse tbl (.obj [("$ref".toList, .str r)]))
      = .ok (⟨code, [], false, none⟩, []) := by
  have h1 : aget [("$ref".toList, JsonV.str r)] "$ref".toList = some (.str r) := by simp [aget]
  rw [dangling_response_ref_is_its_own_node tbl _ r h1 h2 (Or.inl h3)]
  have hc : contentOf [("$ref".toList, JsonV.str r)] = .ok [] := by
    simp only [contentOf, aget]
    rw [if_neg (by decide)]
  rw [parseResponse_eq u orc opId code _ [] hop hc]
  rfl

example : resolveResponse [(s "E", .obj [])] (jobj [("$ref", jstr "#/components/responses/E")])
    = jobj [("$ref", jstr "#/components/responses/E")] := by
  simp only [s, jobj, jstr, List.map_cons, List.map_nil]
  repeat rw [String.toList_ofList]
  decide +kernel

/-! ## the stream flag -/

/-- **stream_flag_iff** (C05/C19).  `stream` is set iff some media type of the response, lower-cased, is a key of the
    (generated) `STREAM_FORMATS` table, or some content schema came back with `format == "binary"`.
    (`stream_table_values_truthy`, by `decide` over the table, is what makes `if fmt:` equivalent to "is a key".) -/
theorem stream_flag_iff (u : UInfo) (orc : Oracle) (opId : Str) (sc : StatusKey) (node : JsonV) (r : IRResp)
    (ev : List Event) (h : parseResponse u orc opId sc node = .ok (r, ev)) :
    r.stream = true ↔
      (∃ e ∈ r.content, u.lowerS e.1 ∈ Pog.Gen.streamFormats.map (·.1)) ∨ (∃ e ∈ r.content, e.2.isBinary = true) := by
  obtain ⟨code, kvs, c, content, _, _, _, _, _, rfl, _⟩ := parseResponse_ok h
  simp only [streamOf_flag, Bool.or_eq_true, List.any_eq_true, streamLookup_isSome_iff]

example : (parseResponse UInfo.ascii plainOracle (s "op") (.strKey (s "200"))
    (jobj [("content", jobj [("Text/Event-Stream", jobj [])])])).toOption.map (fun x => (x.1.stream, x.1.streamFormat))
    = some (true, some (s "event-stream")) := by
  simp only [s, jobj, List.map_cons, List.map_nil]
  repeat rw [String.toList_ofList]
  decide +kernel

/-- The FLAG does not depend on the order of the content mapping: a permuted mapping is accepted iff the original is,
    and yields the same status, the same flag and the permuted content. -/
theorem stream_flag_perm_invariant (u : UInfo) (orc : Oracle) (opId code : Str) (c c' : List (Str × JsonV))
    (hp : c.Perm c') (r : IRResp) (ev : List Event) (h : respOfContent u orc opId code c = .ok (r, ev)) :
    ∃ r' ev', respOfContent u orc opId code c' = .ok (r', ev') ∧ r'.status = r.status ∧ r'.stream = r.stream ∧
      r.content.Perm r'.content := by
  obtain ⟨content, hc, rfl, _⟩ := respOfContent_ok h
  obtain ⟨content', hc', hperm⟩ := respContent_perm hp hc
  refine ⟨⟨code, content', (streamOf u content').1, (streamOf u content').2⟩, contentEvents content', ?_, rfl,
    (streamOf_flag_perm u hperm).symm, hperm⟩
  simp only [respOfContent, hc']

/-- ✗ **stream_format_perm_invariant** is FALSE: `stream_format` is taken from the LAST stream media type of the mapping.
    `{octet-stream, event-stream}` gives `event-stream`, the same mapping written the other way round gives
    `octet-stream`.  (Nothing downstream reads `IRResponse.stream_format`: the only other occurrence in the repository is
    the field declaration in `ir.py` — the generators branch on `stream` and on the media type — so the order dependence
    is not observable in generated code.) -/
theorem stream_format_perm_counterexample :
    let c : List (Str × JsonV) := [(s "application/octet-stream", .obj []), (s "text/event-stream", .obj [])]
    c.Perm c.reverse ∧
    (respOfContent UInfo.ascii plainOracle (s "op") (s "200") c).toOption.map (·.1.streamFormat)
      = some (some (s "event-stream")) ∧
    (respOfContent UInfo.ascii plainOracle (s "op") (s "200") c.reverse).toOption.map (·.1.streamFormat)
      = some (some (s "octet-stream")) := by
  simp only [s]
  repeat rw [String.toList_ofList]
  exact ⟨(List.reverse_perm _).symm, by decide +kernel, by decide +kernel⟩

/-- **stream_format_perm_partial**: when all stream media types present agree on the format (in particular when there
    is at most one), `stream_format` is order independent too. -/
theorem stream_format_perm_partial (u : UInfo) (orc : Oracle) (opId code : Str) (c c' : List (Str × JsonV))
    (hp : c.Perm c') (r r' : IRResp) (ev ev' : List Event)
    (h : respOfContent u orc opId code c = .ok (r, ev)) (h' : respOfContent u orc opId code c' = .ok (r', ev'))
    (hu : ∀ f ∈ r.content.filterMap (fun e => streamLookup u e.1),
          ∀ g ∈ r.content.filterMap (fun e => streamLookup u e.1), f = g) :
    r'.streamFormat = r.streamFormat ∧ r'.stream = r.stream := by
  obtain ⟨content, hc, rfl, _⟩ := respOfContent_ok h
  obtain ⟨content', hc', rfl, _⟩ := respOfContent_ok h'
  obtain ⟨content'', hc'', hperm⟩ := respContent_perm hp hc
  rw [hc'] at hc''
  cases hc''
  rw [streamOf_format_perm u hperm hu]
  exact ⟨rfl, rfl⟩

example : ∀ f ∈ ([(s "application/json", ContentEntry.placeholder), (s "text/event-stream", .placeholder)]).filterMap
      (fun e => streamLookup UInfo.ascii e.1),
    ∀ g ∈ ([(s "application/json", ContentEntry.placeholder), (s "text/event-stream", .placeholder)]).filterMap
      (fun e => streamLookup UInfo.ascii e.1), f = g := by
  simp only [s]
  repeat rw [String.toList_ofList]
  decide +kernel

/-! ## promotion names -/

/-- **promotion_name_media** (C19/C20).  The request made for one media node of a response carries the promotion name
    `promo` exactly when the media node is not itself a schema `$ref` and its `schema` is an inline object-like node
    (`objLike`); every other request is anonymous. -/
theorem promotion_name_media (orc : Oracle) (promo : Str) (mn : JsonV) (req : ParseReq) (out : ParseOut)
    (h : respMedia orc promo mn = .ok (.parsed req out)) :
    (req.name = some promo ↔ (mediaIsSchemaRef mn = .ok false ∧ objLike req.node = true)) ∧
    (req.name = none ∨ req.name = some promo) := by
  rcases mediaReq_some (respMedia_parsed h).1 with ⟨hr, hreq⟩ | ⟨hr, kvs, _, _, hname⟩
  · subst hreq
    refine ⟨⟨fun e => (by cases e), fun ⟨e, _⟩ => ?_⟩, Or.inl rfl⟩
    rw [hr] at e
    cases e
  · cases ho : objLike req.node with
    | false =>
      rw [ho] at hname
      refine ⟨⟨fun e => ?_, fun ⟨_, e⟩ => (by cases e)⟩, Or.inl hname⟩
      rw [hname] at e; cases e
    | true =>
      rw [ho] at hname
      exact ⟨⟨fun _ => ⟨hr, rfl⟩, fun _ => hname⟩, Or.inr hname⟩

/-- **promotion_name_response**: inside `parse_response(code, …, opId)` every request comes from a media node of the
    content mapping under the same media type, and `promo` is `opId ++ code ++ "Response"` (`respPromoName`). -/
theorem promotion_name_response (u : UInfo) (orc : Oracle) (opId code : Str) (node : JsonV) (r : IRResp)
    (ev : List Event) (h : parseResponse u orc opId (.strKey code) node = .ok (r, ev))
    (mt : Str) (req : ParseReq) (out : ParseOut) (hm : (mt, ContentEntry.parsed req out) ∈ r.content) :
    ∃ kvs c mn, node = .obj kvs ∧ contentOf kvs = .ok c ∧ (mt, mn) ∈ c ∧
      respMedia orc (respPromoName opId code) mn = .ok (.parsed req out) ∧
      (req.name = some (respPromoName opId code) ↔ (mediaIsSchemaRef mn = .ok false ∧ objLike req.node = true)) ∧
      (req.name = none ∨ req.name = some (respPromoName opId code)) := by
  obtain ⟨code', kvs, c, content, hsc, hnode, _, hc, hcont, rfl, _⟩ := parseResponse_ok h
  cases hsc
  obtain ⟨mn, hmn, hmedia⟩ := respContent_mem hcont hm
  exact ⟨kvs, c, mn, hnode, hc, hmn, hmedia, promotion_name_media orc _ mn req out hmedia⟩

example : (respMedia plainOracle (respPromoName (s "getUser") (s "200")) (jobj [("schema", objSchema "a")])).toOption.map
    (fun e => e.req.map (·.name)) = some (some (some (s "getUser200Response"))) := by
  simp only [s, jobj, jstr, objSchema, List.map_cons, List.map_nil]
  repeat rw [String.toList_ofList]
  decide +kernel

/-- **promotion_name_parameter**: a parameter schema is requested under `{opId}Param{SanitizedName}`
    (`paramPromoName`; without the `{opId}Param` prefix when the id is empty) exactly when it is an inline object-like node,
    anonymously otherwise; the promoted item enum of an "array of string enums" parameter is registered under
    `{opId}Param{SanitizedName}Item` (and named `sanitize_class_name` of that) when the parameter name is truthy. -/
theorem promotion_name_parameter (orc : Oracle) (opId : Str) (node : JsonV) (p : IRParam) (ev : List Event)
    (h : parseParam orc opId node = .ok (p, ev)) :
    (∀ req, p.schema = .parsed req →
      ev = [.parse req] ∧
      ((objLike req.node = true ∧ ∃ n, p.name = .str n ∧ req.name = some (paramPromoName opId n)) ∨
       (objLike req.node = false ∧ req.name = none))) ∧
    (∀ k it, p.schema = .enumArray k it →
      it = k.map sanClass ∧
      ((pyTruthy p.name = true ∧ ∃ n, p.name = .str n ∧ k = some (paramEnumName opId n) ∧
          ev = [.regEnum (paramEnumName opId n)]) ∨
       (pyTruthy p.name = false ∧ k = none ∧ ev = []))) := by
  obtain ⟨kvs, pname, sc, _, _, hs, rfl⟩ := parseParam_ok h
  constructor
  · intro req hreq
    cases hreq
    obtain ⟨h1, h2, _, h4⟩ := paramSchema_parsed hs
    rw [h1]
    exact ⟨h2, h4⟩
  · intro k it hk
    cases hk
    exact (paramSchema_enumArray hs).2

example : (parseParam plainOracle (s "listPets") (jobj [("name", jstr "filter-by"), ("schema", objSchema "a")])).toOption.map
    (fun x => x.2) = some [.parse ⟨some (s "listPetsParamFilterBy"), objSchema "a"⟩] := by
  simp only [s, jobj, jstr, objSchema, List.map_cons, List.map_nil]
  repeat rw [String.toList_ofList]
  decide +kernel

/-- **promotion_name_body**: every media type of a request body is requested under `{opId}RequestBody` when its schema
    is an inline object-like node, anonymously otherwise. -/
theorem promotion_name_body (orc : Oracle) (promo : Str) (media : JsonV) (req : ParseReq) (out : ParseOut)
    (h : bodyMedia orc promo media = .ok (req, out)) :
    req.name = if objLike req.node then some promo else none := by
  unfold bodyMedia at h
  split at h
  · simp only at h
    split at h
    · cases h
    · injection h with h; injection h with h _; subst h; rfl
  · cases h

/-- Two response promotion names coincide exactly when the concatenations `opId ++ code` do. -/
theorem respPromoName_eq_iff (a c a' c' : Str) : respPromoName a c = respPromoName a' c' ↔ a ++ c = a' ++ c' :=
  Pog.Loader.respPromoName_eq_iff a c a' c'

/-- ✗ **promotion_names_injective** (different (operation, response, media type) ⇒ different requested name) is FALSE.
    (a) The loader never validates the keys of `responses`, and `(a, 200)` / `(a2, 00)` concatenate to the same text. -/
theorem promotion_name_collision_arbitrary_keys :
    respPromoName (s "a") (s "200") = respPromoName (s "a2") (s "00") ∧ (s "a", s "200") ≠ (s "a2", s "00") := by
  decide

/-- (b) inside ONE response the media type is not part of the name: two different inline object schemas under
    `application/json` and `application/xml` are both requested as `op200Response`. -/
theorem promotion_name_collision_same_response :
    (parseResponse UInfo.ascii plainOracle (s "op") (.strKey (s "200"))
      (jobj [("content", jobj [("application/json", jobj [("schema", objSchema "a")]),
                               ("application/xml", jobj [("schema", objSchema "b")])])])).toOption.map (·.2)
      = some [.parse ⟨some (s "op200Response"), objSchema "a"⟩, .parse ⟨some (s "op200Response"), objSchema "b"⟩] ∧
    objSchema "a" ≠ objSchema "b" := by
  simp only [s, jobj, jstr, objSchema, List.map_cons, List.map_nil]
  repeat rw [String.toList_ofList]
  decide +kernel

/-- (c) the same for the media types of a request body (`opRequestBody` twice). -/
theorem promotion_name_collision_request_body :
    (parseBody plainOracle [] (s "op")
      (jobj [("content", jobj [("application/json", jobj [("schema", objSchema "a")]),
                               ("multipart/form-data", jobj [("schema", objSchema "b")])])])).toOption.map (·.2)
      = some [.parse ⟨some (s "opRequestBody"), objSchema "a"⟩, .parse ⟨some (s "opRequestBody"), objSchema "b"⟩] := by
  simp only [s, jobj, jstr, objSchema, List.map_cons, List.map_nil]
  repeat rw [String.toList_ofList]
  decide +kernel

/-- (d) parameters: the name goes through `sanitize_class_name`, `a-b` and `a_b` (or a path-level and an operation-level
    parameter of the same name) meet. -/
theorem promotion_name_collision_parameters :
    paramPromoName (s "op") (s "a-b") = paramPromoName (s "op") (s "a_b") ∧ s "a-b" ≠ s "a_b" := by
  simp only [s]
  repeat rw [String.toList_ofList]
  decide +kernel

/-- (e) and the requested name is itself sanitised by `_parse_schema` / `IRSchema.__post_init__`: operation ids that
    differ only in word separators request DIFFERENT names that become the SAME class name. -/
theorem promotion_name_collision_after_sanitize :
    respPromoName (s "get_user") (s "200") ≠ respPromoName (s "getUser") (s "200") ∧
    sanClass (respPromoName (s "get_user") (s "200")) = sanClass (respPromoName (s "getUser") (s "200")) := by
  simp only [s]
  repeat rw [String.toList_ofList]
  decide +kernel

/-- **promotion_names_injective_partial**: for keys OpenAPI allows — `default`, or a digit followed by two characters
    (`200`, `2XX`) — the response promotion name determines both the operation id and the key. -/
theorem promotion_names_injective_partial (a c a' c' : Str) (hc : isStatusKey c = true) (hc' : isStatusKey c' = true)
    (h : respPromoName a c = respPromoName a' c') : a = a' ∧ c = c' :=
  respPromoName_inj_status hc hc' h

example : isStatusKey (s "2XX") = true ∧ isStatusKey (s "default") = true ∧ isStatusKey (s "404") = true := by decide

/-- Two different operations can only request the same response name when one operation id is a prefix of the other. -/
theorem promotion_names_differ_unless_prefix (a c a' c' : Str) (h : respPromoName a c = respPromoName a' c') :
    a <+: a' ∨ a' <+: a := by
  rcases List.append_eq_append_iff.mp ((Loader.respPromoName_eq_iff a c a' c').mp h) with ⟨m, h1, _⟩ | ⟨m, h1, _⟩
  · exact .inl ⟨m, h1.symm⟩
  · exact .inr ⟨m, h1.symm⟩

/-- Inside one operation, responses declared under different keys request different names. -/
theorem promotion_names_injective_same_operation (a c c' : Str) (h : respPromoName a c = respPromoName a c') : c = c' :=
  List.append_cancel_left ((Loader.respPromoName_eq_iff a c a c').mp h)

/-- A response promotion name is never a request-body promotion name (`…Response` / `…RequestBody`). -/
theorem response_vs_body_promotion_names_disjoint (a c a' : Str) : respPromoName a c ≠ rbPromoName a' := by
  intro h
  have := congrArg List.getLast? h
  simp [respPromoName, rbPromoName, List.getLast?_append] at this

/-! ## parameters -/

/-- **parameters_order_and_count** (C04/C07).  Both parameter lists of a kept operation are parsed, one `IRParameter` per
    declared node, each carrying `node["name"]` of its (resolved) node; the parameters of the operation are the path-level
    ones that no operation-level parameter overrides (`mergeParams`: same `name` and same `in`), in order, followed by ALL
    the operation-level ones, in order - a sub-list of the plain concatenation, nothing re-ordered, and exactly the
    concatenation when no operation-level parameter repeats a path-level (name, in). -/
theorem parameters_order_and_count (u : UInfo) (orc : Oracle) (c : Comps) (i : OpIn) (out : OpOut)
    (h : parseOp u orc c i = .ok out) :
    ∃ base ev1 own ev2,
      parseParams orc c.parameters i.opId i.pathParams = .ok (base, ev1) ∧
      parseParams orc c.parameters i.opId i.params = .ok (own, ev2) ∧
      out.params = mergeParams base own ∧ base.length = i.pathParams.length ∧ own.length = i.params.length ∧
      (base ++ own).map (·.name) = (i.pathParams ++ i.params).map (paramNameOf c.parameters) ∧
      out.params.Sublist (base ++ own) ∧ own <:+ out.params ∧
      ((∀ p ∈ base, ∀ q ∈ own, sameParamKey p q = false) → out.params = base ++ own) := by
  obtain ⟨base, ev1, own, ev2, _, _, _, _, h1, h2, _, _, rfl⟩ := parseOp_ok h
  refine ⟨base, ev1, own, ev2, h1, h2, rfl, parseParams_length h1, parseParams_length h2, ?_,
    mergeParams_sublist base own, mergeParams_suffix base own, mergeParams_of_distinct⟩
  simp only [List.map_append, parseParams_names h1, parseParams_names h2]

/-- Each parameter is parsed with THIS operation's id: a named schema request of a parameter is
    `{opId}Param{SanitizedName}` of that very parameter. -/
theorem parameters_carry_operation_id (u : UInfo) (orc : Oracle) (c : Comps) (i : OpIn) (out : OpOut)
    (h : parseOp u orc c i = .ok out) :
    ∀ p ∈ out.params, ∀ req, p.schema = .parsed req →
      req.name = none ∨ ∃ n, p.name = .str n ∧ req.name = some (paramPromoName i.opId n) := by
  obtain ⟨base, ev1, own, ev2, _, _, _, _, h1, h2, _, _, rfl⟩ := parseOp_ok h
  intro p hp req hreq
  have : ∃ node ev, parseParam orc i.opId node = .ok (p, ev) := by
    rcases mem_mergeParams.mp hp with ⟨hp, _⟩ | hp
    · exact parseParams_mem h1 p hp
    · exact parseParams_mem h2 p hp
  obtain ⟨node, ev, hpp⟩ := this
  rcases ((promotion_name_parameter orc i.opId node p ev hpp).1 req hreq).2 with ⟨_, n, hn, hr⟩ | ⟨_, hr⟩
  · exact Or.inr ⟨n, hn, hr⟩
  · exact Or.inl hr

/-- **parameters_operation_level_wins** (F4 repaired; OpenAPI: "a parameter at the operation level overrides the one of the
    path item with the same name and location").  Every operation-level parameter is a parameter of the operation; a
    path-level one is exactly when NO operation-level parameter has its (name, in) (Python `==` on both). -/
theorem parameters_operation_level_wins (u : UInfo) (orc : Oracle) (c : Comps) (i : OpIn) (out : OpOut)
    (h : parseOp u orc c i = .ok out) :
    ∃ base ev1 own ev2,
      parseParams orc c.parameters i.opId i.pathParams = .ok (base, ev1) ∧
      parseParams orc c.parameters i.opId i.params = .ok (own, ev2) ∧
      (∀ p ∈ own, p ∈ out.params) ∧
      (∀ p ∈ base, (∀ q ∈ own, sameParamKey p q = false) → p ∈ out.params) ∧
      (∀ p ∈ out.params, p ∈ own ∨ (p ∈ base ∧ ∀ q ∈ own, sameParamKey p q = false)) := by
  obtain ⟨base, ev1, own, ev2, _, _, _, _, h1, h2, _, _, rfl⟩ := parseOp_ok h
  exact ⟨base, ev1, own, ev2, h1, h2, fun p hp => mem_mergeParams.mpr (.inr hp),
    fun p hp hd => mem_mergeParams.mpr (.inl ⟨hp, hd⟩), fun p hp => (mem_mergeParams.mp hp).symm⟩

/-- The declared nodes of one `parameters` list have pairwise different (name, in): `node["name"]` /
    `node.get("in", "query")` of the RESOLVED nodes, compared as Python compares them (`pyEqJ`). -/
def DeclKeysDistinct (tbl : List (Str × JsonV)) (ps : List JsonV) : Prop :=
  ps.Pairwise (fun a b =>
    (pyEqJ (paramNameOf tbl a) (paramNameOf tbl b) && pyEqJ (paramInOf tbl a) (paramInOf tbl b)) = false)

/-- **parameters_no_duplicate_key** (C01/C20; F4 repaired).  When neither the path-level list nor the operation-level list
    declares one (name, in) twice (what OpenAPI demands of each list), the parsed parameter list of a kept operation has no
    two entries with the same (name, in) - whatever the two lists share with each other.  (Before the repair the lists
    were concatenated: a parameter declared at both levels was there twice and the emitted `def` had a duplicate argument.) -/
theorem parameters_no_duplicate_key (u : UInfo) (orc : Oracle) (c : Comps) (i : OpIn) (out : OpOut)
    (h : parseOp u orc c i = .ok out)
    (hb : DeclKeysDistinct c.parameters i.pathParams) (ho : DeclKeysDistinct c.parameters i.params) :
    out.params.Pairwise (fun a b => sameParamKey a b = false) := by
  obtain ⟨base, ev1, own, ev2, _, _, _, _, h1, h2, _, _, rfl⟩ := parseOp_ok h
  have key : ∀ {ps : List JsonV} {l : List IRParam} {ev : List Event},
      parseParams orc c.parameters i.opId ps = .ok (l, ev) → DeclKeysDistinct c.parameters ps →
      l.Pairwise (fun a b => sameParamKey a b = false) := by
    intro ps l ev hp hd
    have hk : (l.map (fun p => (p.name, p.pin))).Pairwise
        (fun (a b : JsonV × JsonV) => (pyEqJ a.1 b.1 && pyEqJ a.2 b.2) = false) := by
      rw [parseParams_keys hp]
      exact List.pairwise_map.mpr hd
    exact List.pairwise_map.mp hk
  exact mergeParams_pairwise (key h1 hb) (key h2 ho)

/-- The hypotheses are satisfiable with an override present: `id`/path at both levels, plus an operation-level `id`/query. -/
example :
    let pl := [jobj [("name", jstr "id"), ("in", jstr "path"), ("schema", jobj [("type", jstr "string")])]]
    let ol := [jobj [("name", jstr "id"), ("in", jstr "path"), ("schema", jobj [("type", jstr "integer")])],
               jobj [("name", jstr "id"), ("schema", jobj [("type", jstr "string")])]]
    DeclKeysDistinct [] pl ∧ DeclKeysDistinct [] ol ∧
    (parseOp UInfo.ascii plainOracle {} { opId := s "getUser", pathParams := pl, params := ol }).toOption.map
      (fun o => o.params.map (fun p => (p.name, p.pin)))
      = some [(jstr "id", jstr "path"), (jstr "id", jstr "query")] := by
  simp only [s, jobj, jstr, List.map_cons, List.map_nil]
  repeat rw [String.toList_ofList]
  refine ⟨?_, ?_, by decide +kernel⟩
  · exact List.pairwise_singleton _ _
  · refine List.Pairwise.cons ?_ (List.pairwise_singleton _ _)
    intro b hb
    rw [List.mem_singleton.mp hb]
    decide +kernel

/-- The FORMER WITNESS of F4 (both entries used to be in the result): the operation-level `id`/path
    replaces the path-level one - one entry, carrying the operation-level schema. -/
theorem parameters_override_former_witness :
    (parseOp UInfo.ascii plainOracle {}
      { opId := s "getUser",
        pathParams := [jobj [("name", jstr "id"), ("in", jstr "path"), ("schema", jobj [("type", jstr "string")])]],
        params := [jobj [("name", jstr "id"), ("in", jstr "path"), ("schema", jobj [("type", jstr "integer")])]] }).toOption.map
      (fun o => o.params.map (fun p => (p.name, p.pin, p.schema)))
    = some [(jstr "id", jstr "path", .parsed ⟨none, jobj [("type", jstr "integer")]⟩)] := by
  simp only [s, jobj, jstr, List.map_cons, List.map_nil]
  repeat rw [String.toList_ofList]
  decide +kernel

/-- The comparison is Python's `==`: the same name in ANOTHER location is a different parameter (both are kept), and
    `name: true` / `name: 1` are the same key. -/
theorem parameters_override_is_python_eq :
    (parseOp UInfo.ascii plainOracle {}
      { opId := s "op",
        pathParams := [jobj [("name", jstr "id"), ("in", jstr "path")], jobj [("name", .bool true), ("in", jstr "query")]],
        params := [jobj [("name", jstr "id")], jobj [("name", .int 1)]] }).toOption.map
      (fun o => o.params.map (fun p => (p.name, p.pin)))
    = some [(jstr "id", jstr "path"), (jstr "id", jstr "query"), (.int 1, jstr "query")] := by
  simp only [s, jobj, jstr, List.map_cons, List.map_nil]
  repeat rw [String.toList_ofList]
  decide +kernel

/-! ## locality -/

/-- The component tables are read only by looking up the referenced names. -/
theorem parse_depends_on_lookups_only (u : UInfo) (orc : Oracle) (c c' : Comps) (i : OpIn)
    (h1 : ∀ k, aget c.parameters k = aget c'.parameters k)
    (h2 : ∀ k, aget c.responses k = aget c'.responses k)
    (h3 : ∀ k, aget c.requestBodies k = aget c'.requestBodies k) :
    parseOp u orc c i = parseOp u orc c' i :=
  parseOp_congr u orc c c' i h1 h2 h3

/-- **parse_is_local** (C19).  What is computed for one operation is a function of its node, the path-level parameter
    list, its id, the component tables AS MAPPINGS and the results of the `_parse_schema` calls it makes: re-ordering
    the entries of `components.parameters`, `components.responses`, `components.requestBodies` (distinct keys) changes
    nothing.  (The opaque `_parse_schema` results — the `Oracle` — are NOT local: they depend on the registry state left
    by the operations parsed before; that dependence is the subject of the parser model.) -/
theorem parse_is_local (u : UInfo) (orc : Oracle) (c c' : Comps) (i : OpIn)
    (hp : c.parameters.Perm c'.parameters) (hpn : (c.parameters.map (·.1)).Nodup)
    (hr : c.responses.Perm c'.responses) (hrn : (c.responses.map (·.1)).Nodup)
    (hb : c.requestBodies.Perm c'.requestBodies) (hbn : (c.requestBodies.map (·.1)).Nodup) :
    parseOp u orc c i = parseOp u orc c' i :=
  parseOp_congr u orc c c' i (aget_perm hp hpn) (aget_perm hr hrn) (aget_perm hb hbn)

example : ([(s "A", JsonV.null), (s "B", JsonV.null)]).Perm [(s "B", JsonV.null), (s "A", JsonV.null)] ∧
    (([(s "A", JsonV.null), (s "B", JsonV.null)]).map (·.1)).Nodup :=
  ⟨List.Perm.swap _ _ _, by decide⟩

/-! ## the post-processor -/

/-- an oracle returning an anonymous object schema with properties -/
def objOracle : Oracle := fun _ _ => some { objProps := true }

/-- ✗ **post_process_names_distinct** is FALSE.  Two responses (`200`, `201`) whose anonymous schemas are objects with
    properties are BOTH renamed `{OpId}Response` by `post_process_operation`, and `parsed_schemas["OpResponse"]` is
    written twice: the second schema replaces the first in the registry. -/
theorem post_process_response_name_collision_counterexample :
    ((parseOp UInfo.ascii objOracle {}
      { opId := s "op",
        responses := [(.strKey (s "200"), jobj [("content", jobj [("application/json", jobj [("schema", jobj [("$ref", jstr "#/components/schemas/A")])])])]),
                      (.strKey (s "201"), jobj [("content", jobj [("application/json", jobj [("schema", jobj [("$ref", jstr "#/components/schemas/B")])])])])] }).toOption.map
      (postProcess (s "op")))
    = some { bodyNames := [],
             respNames := [(s "200", [(s "application/json", some (s "OpResponse"))]),
                           (s "201", [(s "application/json", some (s "OpResponse"))])],
             events := [.regSet (s "OpResponse"), .regSet (s "OpResponse")] } := by
  simp only [s, jobj, jstr, List.map_cons, List.map_nil]
  repeat rw [String.toList_ofList]
  decide +kernel

/-- … and every anonymous content schema of a request body is renamed `{OpId}Request`, whatever its media type. -/
theorem post_process_request_name_collision_counterexample :
    ((parseOp UInfo.ascii plainOracle {}
      { opId := s "op",
        requestBody := some (jobj [("content", jobj [("application/json", jobj [("schema", jobj [("type", jstr "string")])]),
                                                     ("text/plain", jobj [("schema", jobj [("type", jstr "integer")])])])]) }).toOption.map
      (postProcess (s "op")))
    = some { bodyNames := [(s "application/json", some (s "OpRequest")), (s "text/plain", some (s "OpRequest"))],
             respNames := [],
             events := [.regSet (s "OpRequest"), .regSet (s "OpRequest")] } := by
  simp only [s, jobj, jstr, List.map_cons, List.map_nil]
  repeat rw [String.toList_ofList]
  decide +kernel

end Pog.LoaderProps
