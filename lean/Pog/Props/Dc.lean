import Pog.Lemmas.Dc
/-
  Dc — `DataclassGenerator.generate`: which fields a model class gets, in which order, with which defaults.

  Model: `Pog/Model/Dc.lean` (`Pog.Dc.generate`, `fieldsData`, `objectFields`, `sortProps`, `fieldDefault`,
  `renderOrder`, `bodyLines`), re-using M-names (`sanMethod`, `enumMemberStr`), M-fresh (`fieldNames`), M-sinks
  (`renderDefaultStr`, `renderFieldLine`) and M-pylex (`evalStrLit`).  Every theorem quantifies over EVERY schema, every
  `required` list (names that are not properties included), every opaque type text and every CPython case table `u`;
  the only well-formedness ever assumed is "the property names are pairwise distinct" (keys of a python `dict`), and
  only where it is needed.

  The results, in the order of the file: the class body is a valid dataclass body (C01: defaults last, no attribute
  called `field`); one field per property, `field_mappings`, required ⇔ no default (C02); what `_get_field_default`
  returns, branch by branch; the order of `sorted_props` (C19); when `generate` raises.  Three full statements are FALSE
  of the code and appear as a `_counterexample` (a concrete witness, evaluated) with an `_exact` / `_partial` theorem
  whose hypothesis is the excluded input class: a `str` default evaluates to itself (astral characters come back as two
  lone surrogates), an enum member can be named from its value by `upper().replace(..)` (`enumDefaultMember`, a rule
  that is NOT part of `_get_field_default`, which looks the member up by value: F53), and `generate` never raises RuntimeError (the text `default_factory` anywhere in the class makes it raise
  when no field uses a factory).  An `example` after a theorem shows that its hypotheses can be met together.
-/
namespace Pog.DcProps
open Pog Pog.Dc Pog.Diff

private def sStr : Str := "str".toList
private def sStrOpt : Str := "str | None".toList

/-- `Thing`: colliding names (`userId`, `user_id`, `user-id`), a keyword, an array, a plain object, an enum reference
    with the default `N/A`, a string default with a quote and a backslash; `required` names `user_id`, `obj` and a name
    that is no property. -/
def thing : DcSchema :=
  { name := some "Thing".toList, ty := some sObject,
    props := [
      { key := "userId".toList, ty := some "string".toList, default := some (.str "a\"b\\".toList), pyType := sStrOpt },
      { key := "user_id".toList, ty := some "integer".toList, default := some (.int 3), pyType := "int".toList },
      { key := "user-id".toList, ty := some "boolean".toList, default := some (.bool true), pyType := "bool | None".toList },
      { key := "class".toList, ty := some sArray, pyType := "List[str] | None".toList },
      { key := "obj".toList, ty := some sObject, pyType := "dict[str, Any]".toList },
      { key := "lvl".toList, ty := some "string".toList, name := some "Level".toList,
        default := some (.str "N/A".toList), pyType := "Level | None".toList,
        enumVals := some ["N/A".toList, "ok".toList] },
      { key := "meta".toList, ty := some sObject, pyType := "dict[str, Any] | None".toList } ],
    required := ["user_id".toList, "zzz".toList, "obj".toList] }

/-- What the real generator emits for `thing` (checked by `vf/corr/dc.py` on the same input). -/
example :
    (generate UInfo.ascii thing "Thing".toList).toOption.map (fun o => o.lines.map String.ofList)
      = some ["obj: dict[str, Any]",
              "user_id: int",
              "class_: List[str] | None = field(default_factory=list)  # Maps from 'class'",
              "lvl: Level | None = Level(\"N/A\")",
              "meta: dict[str, Any] | None = field(default_factory=dict)",
              "user_id_2: bool | None = True  # Maps from 'user-id'",
              "user_id_3: str | None = \"a\\\"b\\\\\"  # Maps from 'userId'"] := by
  refine map_ofList_eq_some _ DcOut.lines _ ?_
  simp only [List.map]
  -- literals as character lists first: decoding a string literal costs the kernel time quadratic in its length
  repeat rw [String.toList_ofList]
  decide +kernel

/-! ## the class body is a valid dataclass body (C01) -/

/-- FULL: whatever the schema and the `required` list (unknown names, duplicates, nothing required, everything
    required), in the class body `generate` returns no field without a default follows a field with a default; the
    body lines are one `name: type` / `name: type = default` line per field, in that order. -/
theorem rendered_defaults_last (u : UInfo) (s : DcSchema) (b : Str) (out : DcOut) (h : generate u s b = .ok out) :
    out.body.Pairwise (fun f g => hasDefault f = true → hasDefault g = true)
      ∧ defaultsLast false out.body = true
      ∧ (shape s ≠ .wrapperJson → out.fields ≠ [] → out.lines = out.body.map fieldLine) := by
  obtain ⟨_, _, hbody, hlines⟩ := generate_ok_inv u s b out h
  refine ⟨hbody ▸ renderOrder_pairwise _, hbody ▸ renderOrder_defaultsLast _, ?_⟩
  intro hsh hne
  rw [hlines hsh, hbody]
  cases hf : out.fields with
  | nil => exact absurd hf hne
  | cons _ _ => rfl

/-- The renderer's partition, for ANY list of field tuples (not only those the generator builds). -/
theorem render_order_defaults_last (fs : List DcField) :
    (renderOrder fs).Pairwise (fun f g => hasDefault f = true → hasDefault g = true) ∧ (renderOrder fs).Perm fs :=
  ⟨renderOrder_pairwise fs, renderOrder_perm fs⟩

/-- FULL: on what the generator hands over, the renderer's re-ordering is the identity — `sorted_props` already puts
    the required properties (exactly the fields without a default) first. -/
theorem render_order_is_identity (u : UInfo) (s : DcSchema) (b : Str) (out : DcOut) (h : generate u s b = .ok out) :
    out.body = out.fields := by
  obtain ⟨hfs, _, hbody, _⟩ := generate_ok_inv u s b out h
  rw [hbody]
  rcases fieldsData_cases hfs with e | e | e
  · rw [e]
    rfl
  · rw [e]
    rfl
  · exact objectFields_renderOrder u s _ e

/-- The text of one field line. -/
theorem field_line_shape (f : DcField) :
    fieldLine f = f.pyName ++ ": ".toList ++ f.pyType
      ++ (match f.default with | some d => " = ".toList ++ d | none => [])
      ++ (if (f.doc.getD []).isEmpty then [] else ' ' :: ' ' :: renderFieldComment (f.doc.getD [])) := rfl

/-! ## no field rebinds `field` (C01; F5) -/

/-- `Rec` (the input of F5): an optional property called `field` next to an array property. -/
def recField : DcSchema :=
  { name := some "Rec".toList, ty := some sObject,
    props := [
      { key := "field".toList, ty := some "string".toList, pyType := sStrOpt },
      { key := "tags".toList, ty := some sArray, pyType := "List[str] | None".toList } ] }

/-- FULL (F5): whatever the schema, no field of the class `generate` returns is called `field`.  The class body
    is executed top to bottom and `name: T = default` REBINDS `name` for the statements after it; `field` is the one
    lower-case name a later statement of the body calls (`field(default_factory=list)`), so an attribute of that name with
    a default would make the next factory default call its value (`TypeError: 'NoneType' object is not callable`).  A
    property of that name asks for `field_` (`dcFieldBase`), and the collision loop only appends `_<n>`. -/
theorem no_field_named_field (u : UInfo) (s : DcSchema) (b : Str) (out : DcOut) (h : generate u s b = .ok out) :
    ∀ f ∈ out.fields, f.pyName ≠ "field".toList := by
  obtain ⟨hfs, _, _, _⟩ := generate_ok_inv u s b out h
  intro f hf
  rcases fieldsData_cases hfs with e | e | e
  · rw [e] at hf
    cases hf
  · rw [e] at hf
    rw [List.mem_singleton.mp hf]
    show sItems ≠ "field".toList
    decide
  · obtain ⟨names, hfn, _, hlen, hobj⟩ := objectFields_spec u s
    rw [hobj] at e
    have hnames := zipFields_pyName u s.required _ names hlen
    rw [Option.some.inj e] at hnames
    intro hname
    have : f.pyName ∈ names := hnames ▸ List.mem_map.mpr ⟨f, hf, rfl⟩
    exact fieldNames_ne_field _ _ hfn (hname ▸ this)

/-- The identifier a property asks for: `field_` when `sanitize_method_name` gives `field`, that name otherwise.  (That the
    wire key stays `field` in `field_mappings` is the last part of `one_field_per_property`.) -/
theorem field_property_keeps_wire_key (p : Str) :
    dcFieldBase p = if sanMethod p = "field".toList then "field_".toList else sanMethod p :=
  dcFieldBase_eq p

/-- The input of F5: the attribute is `field_`, the array default calls `dataclasses.field`, and the
    mapping keeps the wire key `field`. -/
theorem field_shadow_former_witness :
    (generate UInfo.ascii recField "Rec".toList).toOption.map
        (fun o => (o.lines.map String.ofList, o.mappings.map (fun kv => (String.ofList kv.1, String.ofList kv.2))))
      = some (["field_: str | None = None  # Maps from 'field'",
               "tags: List[str] | None = field(default_factory=list)"],
              [("field", "field_"), ("tags", "tags")]) := by decide +kernel

/-- A property that already is `field_` (or `Field`, `FIELD`, `-field-`: everything `sanitize_method_name` maps to `field`)
    asks for the same identifier; the collision loop separates them. -/
example : fieldNames ["Field".toList, "field".toList, "field_".toList, "fields".toList]
    = some ["field_".toList, "field__2".toList, "field__3".toList, "fields".toList] := by
  repeat rw [String.toList_ofList]
  decide +kernel

/-! ## one field per property (C02) -/

/-- FULL (property names pairwise distinct): the collision loop terminates; the class body is a permutation of
    `fields_data`; its wire keys are exactly the property names, each once; the python identifiers are pairwise
    distinct; every property has its field, with the type the type service gave, and `field_mappings` maps the
    property name to that field's identifier. -/
theorem one_field_per_property (u : UInfo) (s : DcSchema) (hnd : (s.props.map DcProp.key).Nodup) :
    ∃ fs, objectFields u s = some fs
      ∧ (renderOrder fs).Perm fs
      ∧ ((renderOrder fs).map DcField.wire).Perm (s.props.map (fun p => some p.key))
      ∧ ((renderOrder fs).map DcField.wire).Nodup
      ∧ ((renderOrder fs).map DcField.pyName).Nodup
      ∧ fs.length = s.props.length
      ∧ (∀ p ∈ s.props, ∃ f ∈ renderOrder fs,
            f.wire = some p.key ∧ f.pyType = p.pyType ∧ (p.key, f.pyName) ∈ mappingsOf fs) := by
  obtain ⟨names, _, hnn, hlen, hfs⟩ := objectFields_spec u s
  have hperm := sortProps_perm s.required s.props
  have hro := renderOrder_perm (zipFields u s.required (sortProps s.required s.props) names)
  have hwire : ((renderOrder (zipFields u s.required (sortProps s.required s.props) names)).map DcField.wire).Perm
      (s.props.map (fun p => some p.key)) :=
    (hro.map _).trans (zipFields_wire u _ _ _ hlen ▸ hperm.map _)
  refine ⟨_, hfs, hro, hwire, ?_, ?_, ?_, ?_⟩
  · exact hwire.nodup_iff.2 ((List.pairwise_map.1 hnd).map _ fun _ _ h e => h (Option.some.inj e))
  · exact (hro.map _).nodup_iff.2 ((zipFields_pyName u _ _ _ hlen).symm ▸ hnn)
  · rw [zipFields_length u _ _ _ hlen, hperm.length_eq]
  · intro p hp
    -- the sorted list is as long as `names`, so `p` has a partner `n` in the zip: the field is `mkField … p n`
    have hz : p ∈ ((sortProps s.required s.props).zip names).map Prod.fst := by
      rw [List.map_fst_zip (Nat.le_of_eq hlen)]
      exact hperm.mem_iff.2 hp
    obtain ⟨⟨p, n⟩, hpn, rfl⟩ := List.mem_map.1 hz
    have hf : mkField u s.required p n ∈ zipFields u s.required (sortProps s.required s.props) names := by
      rw [zipFields_eq_map_zip]
      exact List.mem_map.2 ⟨_, hpn, rfl⟩
    exact ⟨_, hro.mem_iff.2 hf, rfl, rfl, List.mem_filterMap.2 ⟨_, hf, rfl⟩⟩

/-- FULL: `field_mappings` lists the sorted property names against the identifiers: as a `dict` it has every property
    name as a key exactly once (given distinct names), and its values are the identifiers of `fields_data`, in order. -/
theorem mappings_are_the_wire_keys (u : UInfo) (s : DcSchema) (fs : List DcField) (h : objectFields u s = some fs) :
    (mappingsOf fs).map Prod.fst = (sortProps s.required s.props).map DcProp.key
      ∧ (mappingsOf fs).map Prod.snd = fs.map DcField.pyName
      ∧ fs.map DcField.wire = (mappingsOf fs).map (fun kv => some kv.1) := by
  obtain ⟨names, _, _, hlen, hfs⟩ := objectFields_spec u s
  rw [h] at hfs
  cases hfs
  have hl : ((sortProps s.required s.props).map DcProp.key).length = names.length := by simpa using hlen
  rw [mappingsOf_zipFields, zipFields_pyName u _ _ _ hlen, zipFields_wire u _ _ _ hlen]
  refine ⟨List.map_fst_zip (by omega), List.map_snd_zip (by omega), ?_⟩
  show _ = List.map (some ∘ Prod.fst) _
  rw [← List.map_map, List.map_fst_zip (by omega), List.map_map]
  rfl

/-- The same, read off the result of `generate` for an object schema. -/
theorem one_field_per_property_generated (u : UInfo) (s : DcSchema) (b : Str) (out : DcOut)
    (h : generate u s b = .ok out) (hsh : shape s = .object) (hnd : (s.props.map DcProp.key).Nodup) :
    out.body.Perm out.fields
      ∧ (out.body.map DcField.wire).Perm (s.props.map (fun p => some p.key))
      ∧ (out.body.map DcField.pyName).Nodup
      ∧ out.mappings.map Prod.fst = (sortProps s.required s.props).map DcProp.key
      ∧ out.mappings.map Prod.snd = out.fields.map DcField.pyName := by
  obtain ⟨hfs, hmap, hbody, _⟩ := generate_ok_inv u s b out h
  simp only [fieldsData, hsh] at hfs
  obtain ⟨fs, hfs', h1, h2, _, h4, _, _⟩ := one_field_per_property u s hnd
  rw [hfs] at hfs'
  cases hfs'
  obtain ⟨m1, m2, _⟩ := mappings_are_the_wire_keys u s _ hfs
  exact ⟨hbody ▸ h1, hbody ▸ h2, hbody ▸ h4, hmap ▸ m1, hmap ▸ m2⟩

example : (thing.props.map DcProp.key).Nodup ∧ shape thing = .object := by decide +kernel

/-! ## required ⇔ no default (C02) -/

/-- FULL: a field of an object schema has no default expression iff the property it was built from is listed in
    `required`; otherwise its default is what `_get_field_default` returns. -/
theorem required_iff_no_default (u : UInfo) (s : DcSchema) (fs : List DcField) (h : objectFields u s = some fs)
    (f : DcField) (hf : f ∈ renderOrder fs) :
    ∃ p ∈ s.props, f.wire = some p.key
      ∧ (f.default = none ↔ p.key ∈ s.required)
      ∧ (p.key ∉ s.required → f.default = some (fieldDefault u p)) := by
  obtain ⟨names, _, _, _, hfs⟩ := objectFields_spec u s
  rw [h] at hfs
  cases hfs
  have hf' := (renderOrder_perm _).mem_iff.1 hf
  obtain ⟨p, hp, n, _, rfl⟩ := zipFields_mem u _ _ _ f hf'
  refine ⟨p, (sortProps_perm _ _).mem_iff.1 hp, rfl, ?_, ?_⟩
  · simp only [mkField]
    by_cases hc : p.key ∈ s.required <;> simp [hc]
  · intro hc
    simp [mkField, hc]

/-- The same, read off the result of `generate`. -/
theorem required_iff_no_default_generated (u : UInfo) (s : DcSchema) (b : Str) (out : DcOut)
    (h : generate u s b = .ok out) (hsh : shape s = .object) (f : DcField) (hf : f ∈ out.body) :
    ∃ p ∈ s.props, f.wire = some p.key ∧ (f.default = none ↔ p.key ∈ s.required) := by
  obtain ⟨hfs, _, hbody, _⟩ := generate_ok_inv u s b out h
  simp only [fieldsData, hsh] at hfs
  obtain ⟨p, hp, hw, hd, _⟩ := required_iff_no_default u s _ hfs f (hbody ▸ hf)
  exact ⟨p, hp, hw, hd⟩

theorem default_array (u : UInfo) (p : DcProp) (h : p.ty = some sArray) : fieldDefault u p = factoryList := by
  simp [fieldDefault, h]

theorem default_plain_object (u : UInfo) (p : DcProp) (h : p.ty = some sObject) (hn : p.name = none)
    (h1 : p.anyOf = false) (h2 : p.oneOf = false) (h3 : p.allOf = false) : fieldDefault u p = factoryDict := by
  have : sObject ≠ sArray := by decide
  simp [fieldDefault, h, hn, h1, h2, h3, this]

/-- No `default` (or JSON `null`): `None`. -/
theorem default_absent (u : UInfo) (p : DcProp) (h : usesFactory p = false) (hd : p.default = none) :
    fieldDefault u p = sNone := by
  rw [fieldDefault_of_not_factory u p h, hd]

/-- A list / dict default is dropped: `None` (the code logs a warning). -/
theorem default_nonscalar (u : UInfo) (p : DcProp) (h : usesFactory p = false) (he : refersToEnum p = false) (t : Str)
    (hd : p.default = some (.other t)) : fieldDefault u p = sNone := by
  rw [fieldDefault_of_not_factory u p h, hd]; simp [he, scalarDefault]

theorem default_bool (u : UInfo) (p : DcProp) (h : usesFactory p = false) (he : refersToEnum p = false) (v : Bool)
    (hd : p.default = some (.bool v)) : fieldDefault u p = if v then sTrue else sFalse := by
  rw [fieldDefault_of_not_factory u p h, hd]; simp [he, scalarDefault]

theorem default_int (u : UInfo) (p : DcProp) (h : usesFactory p = false) (he : refersToEnum p = false) (i : Int)
    (hd : p.default = some (.int i)) : fieldDefault u p = intStr i := by
  rw [fieldDefault_of_not_factory u p h, hd]; simp [he, scalarDefault]

/-- A float default is pasted as CPython's `str(x)` (so `inf` / `nan` become bare names — oracle class
    `dc-float-default-nonfinite`). -/
theorem default_float (u : UInfo) (p : DcProp) (h : usesFactory p = false) (he : refersToEnum p = false) (t : Str)
    (hd : p.default = some (.float t)) : fieldDefault u p = t := by
  rw [fieldDefault_of_not_factory u p h, hd]; simp [he, scalarDefault]

theorem default_str (u : UInfo) (p : DcProp) (h : usesFactory p = false) (he : refersToEnum p = false) (v : Str)
    (hd : p.default = some (.str v)) : fieldDefault u p = renderDefaultStr v := by
  rw [fieldDefault_of_not_factory u p h, hd]; simp [he, scalarDefault]

/-- A property that names an enum schema: the member is looked up BY VALUE (F53) - `Name("…")` with the literal of the plain
    string branch for a `str` default, `Name(<str(default)>)` otherwise. -/
theorem default_enum_expr (u : UInfo) (p : DcProp) (h : usesFactory p = false) (he : refersToEnum p = true)
    (d : DefaultVal) (hd : p.default = some d) :
    fieldDefault u p = enumDefaultExpr u p d := by
  rw [fieldDefault_of_not_factory u p h, hd]; simp [he]

/-- … and for a `str` default the argument of the lookup is exactly the string literal of `default_str`: by
    `str_default_exact` it evaluates to the default for every string inside the BMP - the lookup `Level("N/A")` finds the member
    whose VALUE is the default, whatever `EnumGenerator` named it. -/
theorem default_enum_str_expr (u : UInfo) (p : DcProp) (h : usesFactory p = false) (he : refersToEnum p = true)
    (v : Str) (hd : p.default = some (.str v)) :
    fieldDefault u p = p.name.getD [] ++ '(' :: renderDefaultStr v ++ [')'] := by
  rw [default_enum_expr u p h he _ hd]; rfl

example : usesFactory { key := "n".toList, ty := some "string".toList } = false
    ∧ refersToEnum { key := "n".toList, ty := some "string".toList } = false := by decide +kernel

/-- ✗ `str_default_evaluates`: "the emitted text is one string literal evaluating to the default" — for EVERY string
    the text is one `"…"` literal, and its value is the UTF-16 code units of the default. -/
theorem str_default_is_one_literal (v : Str) : evalStrLitCp (renderDefaultStr v) = some (utf16Cps v) := by
  simp only [renderDefaultStr, evalStrLitCp]
  exact litRun_json v

/-- EXACT: it evaluates to the default itself iff the default has no character outside the BMP. -/
theorem str_default_exact (u : UInfo) (p : DcProp) (h : usesFactory p = false) (he : refersToEnum p = false) (v : Str)
    (hd : p.default = some (.str v)) : evalStrLit (fieldDefault u p) = some v ↔ v.all isBmp = true := by
  rw [default_str u p h he v hd]
  simp only [evalStrLit, str_default_is_one_literal, Option.bind_some]
  constructor
  · intro hv
    by_cases hb : v.all isBmp = true
    · exact hb
    · have : v.all isBmp = false := by simpa using hb
      rw [cpsToStr_utf16_astral v this] at hv
      cases hv
  · intro hv
    rw [utf16Cps_bmp v hv, cpsToStr_strToCps]

/-- PARTIAL: quotes, backslashes, control characters, line ends, NUL, any BMP character: exact. -/
theorem str_default_partial (u : UInfo) (p : DcProp) (h : usesFactory p = false) (he : refersToEnum p = false) (v : Str)
    (hd : p.default = some (.str v)) (hv : v.all isBmp = true) : evalStrLit (fieldDefault u p) = some v :=
  (str_default_exact u p h he v hd).2 hv

example : ("a\"b\\n\n\r\x00 \"\"\" é漢 \\u0041".toList).all isBmp = true := by
  repeat rw [String.toList_ofList]
  decide +kernel

/-- COUNTEREXAMPLE: the default `😀` is emitted as `"😀"`, which python reads as two lone surrogates. -/
theorem str_default_counterexample :
    fieldDefault UInfo.ascii { key := "e".toList, ty := some "string".toList, default := some (.str "😀".toList) }
        = "\"\\ud83d\\ude00\"".toList
      ∧ evalStrLitCp ("\"\\ud83d\\ude00\"".toList) = some [0xd83d, 0xde00]
      ∧ evalStrLit ("\"\\ud83d\\ude00\"".toList) = none := by
  repeat rw [String.toList_ofList]
  decide +kernel

/-! ## why an enum default is rendered as a lookup by value (F53): the member NAME cannot be derived by
       `upper().replace("-","_").replace(" ","_")` - that rule (`enumDefaultMember`; `fieldDefault` does not use it) and
       `EnumGenerator`'s disagree on the values below, and de-duplication makes the name depend on the other values of the enum. -/

/- ✗ `enum_default_member_exists`: for every string enum value `v`,
       `enumMemberStr u v = some (enumDefaultMember u v)`
   (the member a by-name rule would write is the member `EnumGenerator` creates for that value).  FALSE: -/

/-- COUNTEREXAMPLES: `N/A` ↦ `N/A` vs `NA`; `2x` ↦ `2X` vs `MEMBER_2X`; `in progress!` ↦ `IN_PROGRESS!` vs
    `IN_PROGRESS`; `if` ↦ `IF` vs `IF_`; the empty string ↦ nothing vs `MEMBER_EMPTY_STRING`. -/
theorem enum_default_member_counterexample :
    (enumDefaultMember UInfo.ascii "N/A".toList = "N/A".toList
        ∧ enumMemberStr UInfo.ascii "N/A".toList = some "NA".toList)
    ∧ (enumDefaultMember UInfo.ascii "2x".toList = "2X".toList
        ∧ enumMemberStr UInfo.ascii "2x".toList = some "MEMBER_2X".toList)
    ∧ (enumDefaultMember UInfo.ascii "in progress!".toList = "IN_PROGRESS!".toList
        ∧ enumMemberStr UInfo.ascii "in progress!".toList = some "IN_PROGRESS".toList)
    ∧ (enumDefaultMember UInfo.ascii "if".toList = "IF".toList
        ∧ enumMemberStr UInfo.ascii "if".toList = some "IF_".toList)
    ∧ (enumDefaultMember UInfo.ascii [] = []
        ∧ enumMemberStr UInfo.ascii [] = some "MEMBER_EMPTY_STRING".toList) := by
  repeat rw [String.toList_ofList]
  decide +kernel

/-- The rendered default of the property of F53: `Level("N/A")` (a by-name `Level.N/A` would be python `Level.N / A`, an
    AttributeError at import). -/
theorem enum_default_expr_by_value :
    fieldDefault UInfo.ascii
        { key := "lvl".toList, ty := some "string".toList, name := some "Level".toList,
          default := some (.str "N/A".toList), enumVals := some ["N/A".toList, "ok".toList] }
      = "Level(\"N/A\")".toList ∧
    fieldDefault UInfo.ascii
        { key := "code".toList, ty := some "integer".toList, name := some "Code".toList,
          default := some (.int 1), enumVals := some ["1".toList, "2".toList] }
      = "Code(1)".toList := by
  repeat rw [String.toList_ofList]
  decide +kernel

/-- EXACT: the two rules agree on a value iff the upper-cased, `-`/space-replaced value is already of the form
    `[A-Z_][A-Z0-9_]*` and is not a python keyword when lower-cased (`enumAgree`, decidable). -/
theorem enum_default_member_exact (u : UInfo) (v : Str) :
    enumMemberStr u v = some (enumDefaultMember u v) ↔ enumAgree (enumDefaultMember u v) = true :=
  enumMember_agree_iff u v

/-- PARTIAL: on the intended class `[A-Za-z][A-Za-z0-9 _-]*` (`enumPlain`), keywords excepted, the member exists under
    the name the by-name rule gives — for every case table `u`. -/
theorem enum_default_member_partial (u : UInfo) (v : Str) (hv : enumPlain v = true)
    (hk : isKeyword ((enumDefaultMember u v).map lowerA) = false) :
    enumMemberStr u v = some (enumDefaultMember u v) := by
  rw [enum_default_member_exact]
  simp [enumAgree, enumOK_of_plain u v hv, hk]

example : enumPlain "in-progress".toList = true
    ∧ isKeyword ((enumDefaultMember UInfo.ascii "in-progress".toList).map lowerA) = false
    ∧ enumDefaultMember UInfo.ascii "in-progress".toList = "IN_PROGRESS".toList := by decide +kernel

/-- PARTIAL, for the whole enum: when every value of the enum is in the agreeing class and the base names are pairwise
    distinct (so that the `_1, _2…` de-duplication of `EnumGenerator.generate` does nothing), the members of the
    generated enum are exactly the names the by-name rule gives, value by value. -/
theorem enum_default_member_in_enum_partial (u : UInfo) (vals : List Str)
    (h : ∀ v ∈ vals, enumAgree (enumDefaultMember u v) = true)
    (hnd : (vals.map (enumDefaultMember u)).Nodup) :
    enumMembersOfValues u vals = some (vals.map (enumDefaultMember u)) :=
  enumMembersOfValues_of_agree u vals h hnd

example : (∀ v ∈ ["ok".toList, "in-progress".toList, "not_started".toList],
      enumAgree (enumDefaultMember UInfo.ascii v) = true)
    ∧ (["ok".toList, "in-progress".toList, "not_started".toList].map (enumDefaultMember UInfo.ascii)).Nodup := by
  repeat rw [String.toList_ofList]
  decide +kernel

/-- COUNTEREXAMPLE (de-duplication): in the enum `["a-b", "a b"]` both values have the base name `A_B`; the second
    member is renamed `A_B_1`, so a by-name rendering `X.A_B` of the default `a b` would name a member that exists but carries
    the OTHER value (`fieldDefault` renders `X("a b")`; oracle class `dc-enum-default-wrong-member`). -/
theorem enum_default_wrong_member_counterexample :
    enumMembersOfValues UInfo.ascii ["a-b".toList, "a b".toList] = some ["A_B".toList, "A_B_1".toList]
      ∧ enumDefaultMember UInfo.ascii "a b".toList = "A_B".toList := by decide +kernel

/-- A non-negative `int` default of an (integer) enum: the by-name rule gives a text that starts with a digit, never an attribute
    name (`Code.1`; `fieldDefault` renders `Code(1)`) — oracle class `dc-enum-default-int-member-missing`. -/
theorem int_enum_default_never_identifier (u : UInfo) (n : Nat) :
    isPyIdent (enumDefaultMember u (DefaultVal.int (Int.ofNat n)).pyStr) = false := by
  show isPyIdent (enumDefaultMember u (natStr n)) = false
  have hd := natStr_digits n
  cases hs : natStr n with
  | nil => exact absurd hs (natStr_ne_nil n)
  | cons c cs =>
    have hc : isDigitA c = true := hd c (by rw [hs]; exact List.mem_cons_self)
    have hal : isAlnumA c = true := by char_arith
    have hup : upperA c = c := by
      unfold upperA
      rw [if_neg]
      char_arith
    rw [enumDefaultMember_cons, enumDefaultMember_alnum u hal, hup]
    have : isIdStart c = false := by char_arith
    simp [isPyIdent, this]

/-! ## `sorted_props` (C19) -/

/-- FULL (distinct property names): `sorted_props` is a permutation of the properties; the required ones come first;
    each group is in strictly ascending python string order (code points). -/
theorem sorted_props_is_sorted (req : List Str) (ps : List DcProp) (hnd : (ps.map DcProp.key).Nodup) :
    (sortProps req ps).Perm ps
      ∧ ∃ rs os, sortProps req ps = rs ++ os
          ∧ (∀ p ∈ rs, p.key ∈ req) ∧ (∀ p ∈ os, p.key ∉ req)
          ∧ rs.Pairwise (fun a b => strLt a.key b.key = true)
          ∧ os.Pairwise (fun a b => strLt a.key b.key = true) := by
  refine ⟨sortProps_perm req ps, _, _, sortProps_split req ps, ?_, ?_, ?_, ?_⟩
  · intro p hp
    simpa [isReq] using (List.mem_filter.1 hp).2
  · intro p hp
    simpa [isReq] using (List.mem_filter.1 hp).2
  · exact sortProps_group_sorted req ps hnd _ fun a b ha hb => ha.trans hb.symm
  · refine sortProps_group_sorted req ps hnd _ fun a b ha hb => ?_
    rw [Bool.not_eq_true'] at ha hb
    exact ha.trans hb.symm

/-- FULL: the result does not depend on the order of the `properties` mapping. -/
theorem sorted_props_order_independent (req : List Str) (ps₁ ps₂ : List DcProp) (hp : ps₁.Perm ps₂)
    (hnd : (ps₁.map DcProp.key).Nodup) : sortProps req ps₁ = sortProps req ps₂ :=
  sortProps_of_perm req hp hnd

/-- FULL: … nor on the order or multiplicity of the entries of `required`. -/
theorem sorted_props_required_order_independent (r₁ r₂ : List Str) (h : ∀ k, k ∈ r₁ ↔ k ∈ r₂) (ps : List DcProp) :
    sortProps r₁ ps = sortProps r₂ ps :=
  sortProps_congr h ps

/-- FULL (C19): two schemas that differ only in the ORDER of `properties` and of `required` generate the same fields,
    the same class body, the same mappings — or raise the same exception. -/
theorem generate_order_independent (u : UInfo) (s : DcSchema) (b : Str) (ps₂ : List DcProp) (r₂ : List Str)
    (hp : s.props.Perm ps₂) (hr : ∀ k, k ∈ s.required ↔ k ∈ r₂) (hnd : (s.props.map DcProp.key).Nodup) :
    generate u { s with props := ps₂, required := r₂ } b = generate u s b := by
  have hempty : ps₂.isEmpty = s.props.isEmpty := by
    rw [Bool.eq_iff_iff, List.isEmpty_iff_length_eq_zero, List.isEmpty_iff_length_eq_zero, hp.length_eq]
  have hshape : shape { s with props := ps₂, required := r₂ } = shape s := by
    simp only [shape, isArbitraryJson, hempty]
    rfl
  have hsort : sortProps r₂ ps₂ = sortProps s.required s.props := by
    rw [← sortProps_congr hr ps₂, ← sortProps_of_perm s.required hp hnd]
  have hobj : objectFields u { s with props := ps₂, required := r₂ } = objectFields u s := by
    simp only [objectFields, hsort]
    congr 1
    funext names
    exact (zipFields_congr u hr _ names).symm
  have hfd : fieldsData u { s with props := ps₂, required := r₂ } = fieldsData u s := by
    simp only [fieldsData, hshape, hobj, arrayWrapperField]
  simp only [generate, hshape, hfd, textMentionsFactory, wrapperValueType]
  rfl

/-- FULL: the collision loop always terminates. -/
theorem generate_never_diverges (u : UInfo) (s : DcSchema) (b : Str) : generate u s b ≠ .error .loopDiverges := by
  rcases generate_cases u s b with ⟨_, h⟩ | ⟨_, _, _, h⟩ | ⟨_, _, _, fs, _, h⟩
  · simp [h]
  · simp [h]
  · rw [h]
    split <;> simp

/-- FULL: `ValueError` exactly for a schema without a name or an empty base name. -/
theorem generate_value_error_iff (u : UInfo) (s : DcSchema) (b : Str) :
    generate u s b = .error .valueError ↔ (s.name = none ∨ b = []) := by
  rcases generate_cases u s b with ⟨hc, h⟩ | ⟨hn, hb, _, h⟩ | ⟨hn, hb, _, fs, _, h⟩
  · simp [h, hc]
  · simp [h, hn, hb]
  · rw [h]
    split <;> simp [hn, hb]

/- ✗ `generate_never_raises_runtime_error`: for a named schema and a non-empty base name `generate` returns code.
   FALSE: the post-condition `"default_factory" in rendered_code` ⇒ `field` imported looks at the WHOLE text. -/

/-- COUNTEREXAMPLE: one required string property called `defaultFactory` (identifier `default_factory`)
    — `generate` raises `RuntimeError("'field' import from dataclasses missing when default_factory is used.")`. -/
theorem generate_default_factory_counterexample :
    generate UInfo.ascii
        { name := some "T".toList, ty := some sObject,
          props := [{ key := "defaultFactory".toList, ty := some "string".toList, pyType := "str".toList }],
          required := ["defaultFactory".toList] } "T".toList
      = .error .fieldImportMissing := by
  apply eq_error_of_raised
  repeat rw [String.toList_ofList]
  decide +kernel

/-- PARTIAL: when the text `default_factory` occurs nowhere (docstring, class name, field lines, `Meta` entries) — or
    some field really uses a factory — a named schema with a non-empty base name always generates, and the result is
    `fields_data` in the renderer's order. -/
theorem generate_ok_partial (u : UInfo) (s : DcSchema) (b : Str) (hn : s.name ≠ none) (hb : b ≠ [])
    (hsh : shape s ≠ .wrapperJson)
    (hclean : ∀ fs, fieldsData u s = some fs → textMentionsFactory s b fs = false ∨ fieldImported fs = true) :
    ∃ fs, fieldsData u s = some fs
      ∧ generate u s b = .ok { shape := shape s, fields := fs, mappings := mappingsOf fs, body := renderOrder fs,
                               lines := bodyLines fs, valueType := none } := by
  rcases generate_cases u s b with ⟨hc, _⟩ | ⟨_, _, hw, _⟩ | ⟨_, _, _, fs, hfs, h⟩
  · exact (hc.elim hn hb).elim
  · exact absurd hw hsh
  · refine ⟨fs, hfs, ?_⟩
    rw [h, if_neg]
    rcases hclean fs hfs with e | e <;> simp [e]

example : thing.name ≠ none ∧ shape thing ≠ .wrapperJson
    ∧ (∀ fs, fieldsData UInfo.ascii thing = some fs →
        textMentionsFactory thing "Thing".toList fs = false ∨ fieldImported fs = true) := by
  have himp : (fieldsData UInfo.ascii thing).all fieldImported = true := by decide +kernel
  exact ⟨by decide +kernel, by decide +kernel, fun fs h => .inr ((Option.all_eq_true _ _).1 himp fs h)⟩

end Pog.DcProps
