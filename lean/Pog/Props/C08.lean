import Pog.Lemmas.Tracker
import Pog.Lemmas.Parser
import Pog.Lemmas.ParserNames
/-
  C08 — loading terminates, the cycle tracker returns to rest, every declared name is present.

  First the tracker `unified_cycle_detection.py` on its own (M-tracker): what every event word of the
  shape the parser emits does to depth, stack and states, the depth cut, and where the tracker's
  bookkeeping goes wrong.  Then the parser (M-parser) on top of it: every call emits such a word, so
  the tracker is at rest after every top-level schema; the registry only grows; and which of
  "terminates within the depth limit" and "every declared name is present" hold, with the
  documents on which they fail.  Theorems marked ✗ are machine-checked counterexamples to the
  property as stated in the property text.  A back-ticked name at the head of a doc comment that
  is not a declaration here (`parse_emits_bracketed`, `parse_terminates`, `all_names_present`) is the
  name of that claim in DESIGN.md section 4 / C08.
-/
namespace Pog.C08
open Pog Pog.Trk

/-- `tracker_bracket`.  For EVERY tracker state and every event word of the shape `_parse_schema`
    emits (`Shaped`: CONTINUE bodies closed by one exit, non-CONTINUE answers closed immediately,
    and the RETURN_EXISTING fall-through that exits twice):
    the depth does not grow, the stack only loses elements (it is a sublist of the initial one and
    stays duplicate-free), no truthy name entered in the word is left IN_PROGRESS, and names that
    are not entered keep their state. -/
theorem tracker_bracket (s : TrSt) (w : List Ev) (hw : Shaped w) :
    (runEvs s w).depth ≤ s.depth ∧
    (runEvs s w).stack.Sublist s.stack ∧
    (s.stack.Nodup → (runEvs s w).stack.Nodup) ∧
    (∀ n ∈ entered w, n ≠ [] → dGet n (runEvs s w).states ≠ some .inProgress) ∧
    (∀ n, n ∉ entered w → dGet n (runEvs s w).states = dGet n s.states) :=
  ⟨shaped_depth_le hw s, shaped_stack_sublist hw s, runEvs_stack_nodup w s,
   fun n hn hne => (shaped_states hw s n).2 hn hne, fun n hn => (shaped_states hw s n).1 hn⟩

example : Shaped [.enter (some "A".toList) true .continueParsing,
    .enter (some "A".toList) true .createPlaceholder, .exit (some "A".toList),
    .enter (some "B".toList) true .returnExisting, .exit (some "B".toList), .reset "B".toList,
    .enter none true .continueParsing, .exit none, .exit (some "B".toList),
    .exit (some "A".toList)] :=
  .cont _ _ [_, _, _, _, _, _, _, _] [] (.stop _ _ _ _ (by decide)
    (.fall (some "B".toList) true [_, _] [] (.cont _ _ [] [] .nil .nil) .nil)) .nil

/-- On Dyck words proper (one exit per enter) the depth is restored exactly.  (Dyck words are
    shaped, `WellBracketed.shaped`, so `tracker_bracket` holds of them as well.) -/
theorem tracker_bracket_depth_eq (s : TrSt) (w : List Ev) (hw : WellBracketed w) :
    (runEvs s w).depth = s.depth :=
  wellBracketed_depth_eq hw s

/-- `stack_nodup`: whatever events arrive, in whatever order, the stack never holds a name twice
    (a name is pushed only when `schema_name in schema_stack` was false). -/
theorem stack_nodup (s : TrSt) (w : List Ev) (h : s.stack.Nodup) : (runEvs s w).stack.Nodup :=
  runEvs_stack_nodup w s h

/-- That the depth is never negative is built into the model's `Nat`; what the guard
    `if context.recursion_depth > 0` does is that an exit at depth 0 is absorbed. -/
theorem depth_saturates (s : TrSt) (n : Option Str) (h : s.depth = 0) : (exit s n).depth = 0 := by
  rw [exit_depth, h]

theorem exit_depth (s : TrSt) (n : Option Str) : (exit s n).depth = s.depth - 1 := Trk.exit_depth s n

theorem enter_depth (s : TrSt) (n : Option Str) (a : Bool) : (enter s n a).1.depth = s.depth + 1 :=
  Trk.enter_depth s n a

/-- `depth_cut`: entering a named schema that is neither COMPLETED nor a placeholder while
    `recursion_depth ≥ max_depth` answers CREATE_PLACEHOLDER with a depth placeholder that is
    written to `parsed_schemas[name]`; depth is incremented as for every enter, the stack and every
    other name's state are untouched, the name itself becomes PLACEHOLDER_DEPTH. -/
theorem depth_cut (s : TrSt) (n : Str) (a : Bool) (hd : s.maxDepth ≤ s.depth)
    (hst : s.stateOf n = .notStarted ∨ s.stateOf n = .inProgress) :
    (enter s (some n) a).2.action = .createPlaceholder ∧
    (enter s (some n) a).2.placeholder = some .depth ∧
    (enter s (some n) a).2.stored = true ∧
    (enter s (some n) a).1.stack = s.stack ∧
    (enter s (some n) a).1.depth = s.depth + 1 ∧
    dGet n (enter s (some n) a).1.states = some .phDepth ∧
    ∀ m, m ≠ n → dGet m (enter s (some n) a).1.states = dGet m s.states := by
  have hso : TrSt.stateOf { s with allowSelf := a, depth := s.depth + 1 } n = s.stateOf n := rfl
  -- of the five answers of `check` only the depth cut is compatible with the hypotheses
  rcases check_cases { s with allowSelf := a, depth := s.depth + 1 } n with
    ⟨h, _⟩ | ⟨h, _⟩ | ⟨_, _, e⟩ | ⟨_, h, _⟩ | ⟨_, h, _⟩
  · rcases hst with h' | h' <;> rw [hso, h'] at h <;> cases h
  · rcases hst with h' | h' <;> rw [hso, h'] at h <;> cases h
  · have hact : (enter s (some n) a).2.action = .createPlaceholder := by rw [enter_snd, e]
    refine ⟨hact, by rw [enter_snd, e], by rw [enter_snd, e], ?_, Trk.enter_depth s _ a, ?_,
      fun m => enter_states_ne s n m a⟩
    · rcases enter_stack s (some n) a with h | ⟨_, _, _, _, h, _⟩
      · exact h
      · rw [hact] at h
        cases h
    · rw [enter_states, e]
      exact dGet_dSet_self _ _ _
  · exact absurd (Nat.le_trans h hd) (Nat.not_succ_le_self _)
  · exact absurd (Nat.le_trans h hd) (Nat.not_succ_le_self _)

example : let s : TrSt := { depth := 3, maxDepth := 3 }
    s.maxDepth ≤ s.depth ∧ s.stateOf "Node".toList = .notStarted := by decide +kernel

/-- When the name cut at the depth limit is not on the stack, the balancing exit undoes the enter
    completely (depth and stack), leaving only the PLACEHOLDER_DEPTH mark. -/
theorem depth_cut_restores (s : TrSt) (n : Str) (a : Bool) (hd : s.maxDepth ≤ s.depth)
    (hst : s.stateOf n = .notStarted ∨ s.stateOf n = .inProgress) (hns : n ∉ s.stack) :
    (exit (enter s (some n) a).1 (some n)).depth = s.depth ∧
    (exit (enter s (some n) a).1 (some n)).stack = s.stack ∧
    dGet n (exit (enter s (some n) a).1 (some n)).states = some .phDepth := by
  obtain ⟨_, _, _, hstack, hdepth, hstate, _⟩ := depth_cut s n a hd hst
  refine ⟨by rw [Trk.exit_depth, hdepth]; omega, ?_, ?_⟩
  · rw [exit_stack_some, hstack]
    split
    · rfl
    · exact List.erase_of_not_mem hns
  · rcases exit_states (enter s (some n) a).1 (some n) with e | ⟨m, hm, hip, _⟩
    · rw [e]
      exact hstate
    · cases hm
      rw [hstate] at hip
      cases hip

/-- A COMPLETED name (or one that already is a placeholder) is answered before the depth test is
    reached: no depth limit applies to it. -/
theorem depth_cut_not_applied_to_known (s : TrSt) (n : Str) (a : Bool) :
    (s.stateOf n = .completed → (enter s (some n) a).2.action = .returnExisting) ∧
    (s.stateOf n = .phCycle ∨ s.stateOf n = .phDepth ∨ s.stateOf n = .phSelfRef →
        (enter s (some n) a).2.action = .returnPlaceholder) := by
  have hso : TrSt.stateOf { s with allowSelf := a, depth := s.depth + 1 } n = s.stateOf n := rfl
  rw [enter_snd]
  rcases check_cases { s with allowSelf := a, depth := s.depth + 1 } n with
    ⟨h, e⟩ | ⟨h, e⟩ | ⟨h, _⟩ | ⟨h, _⟩ | ⟨h, _⟩ <;> rw [hso] at h
  · exact ⟨fun _ => by rw [e], fun h' => by rw [h] at h'; rcases h' with h' | h' | h' <;> cases h'⟩
  · exact ⟨fun h' => (by rw [h'] at h; cases h), fun _ => by rw [e]⟩
  -- the other three answers are only given in state NOT_STARTED or IN_PROGRESS
  all_goals
    rcases h with h | h <;> rw [h]
    all_goals exact ⟨nofun, fun h' => by rcases h' with h' | h' | h' <;> cases h'⟩

/-- ✗ "no state corruption" fails when the name that hits the depth limit is itself IN PROGRESS
    further down the stack: the balancing exit removes the OUTER entry from the stack and the
    outer schema's state is now PLACEHOLDER_DEPTH for the rest of the load. -/
theorem depth_cut_corrupts_counterexample :
    let A := "A".toList; let B := "B".toList
    let s : TrSt := { stack := [A, B], states := [(A, .inProgress), (B, .inProgress)],
                      depth := 2, maxDepth := 2 }
    let s' := exit (enter s (some A) false).1 (some A)
    (enter s (some A) false).2.action = .createPlaceholder ∧
    (enter s (some A) false).2.placeholder = some .depth ∧
    s'.stack = [B] ∧ s'.depth = 2 ∧ dGet A s'.states = some .phDepth := by
  decide +kernel

/-- ✗ The same for cycle placeholders that are not stored: `A → B → A`.  The re-entrant `A` gets a
    placeholder (CREATE_PLACEHOLDER, not stored: no heuristic fires), but the balancing
    `unified_exit_schema("A")` removes the outer `A` from the stack *by value* and, since its state
    is still IN_PROGRESS, marks it COMPLETED while its body is still being parsed. -/
theorem cycle_exit_pops_outer_counterexample :
    let A := "A".toList; let B := "B".toList
    let s : TrSt := { stack := [A, B], states := [(A, .inProgress), (B, .inProgress)], depth := 2 }
    let r := enter s (some A) false
    let s' := exit r.1 (some A)
    r.2.action = .createPlaceholder ∧ r.2.placeholder = some .cycle ∧ r.2.stored = false ∧
    s'.stack = [B] ∧ dGet A s'.states = some .completed ∧ s'.depth = 2 := by
  decide +kernel

/-- The placeholder of a DIRECT self reference is stored (state PLACEHOLDER_CYCLE, or
    PLACEHOLDER_SELF_REF when `allow_self_reference`), unlike that of the cycle `A → B → A`; so is
    that of `User → UserGroup → User`, because `"UserGroup".startswith("User")` trips
    `is_nested_property_self_ref`, and that of `Tree → TreeChildrenItem → Tree` (`is_direct_array_self_ref`). -/
theorem store_policy_examples :
    let s1 : TrSt := { stack := ["A".toList], states := [("A".toList, .inProgress)], depth := 1 }
    let s2 : TrSt := { stack := ["User".toList, "UserGroup".toList],
                       states := [("User".toList, .inProgress), ("UserGroup".toList, .inProgress)],
                       depth := 2 }
    let s3 : TrSt := { stack := ["Tree".toList, "TreeChildrenItem".toList],
                       states := [("Tree".toList, .inProgress)], depth := 2 }
    (enter s1 (some "A".toList) false).2 =
        { action := .createPlaceholder, placeholder := some .cycle, stored := true,
          info := some ⟨"A".toList, ["A".toList, "A".toList], true, 1⟩ } ∧
    (enter s1 (some "A".toList) true).2.placeholder = some .selfRef ∧
    dGet "A".toList (enter s1 (some "A".toList) true).1.states = some .phSelfRef ∧
    (enter s2 (some "User".toList) true).2.stored = true ∧
    dGet "User".toList (enter s2 (some "User".toList) true).1.states = some .phCycle ∧
    (enter s3 (some "Tree".toList) true).2.stored = true := by
  decide +kernel

/-- ✗ The RETURN_EXISTING fall-through (`schema_parser.py:455-471`) exits once to "balance the
    enter", falls through into the body and exits AGAIN in `finally`: one enter, two exits, the
    depth ends one lower than it started (or is absorbed at 0). -/
theorem fallthrough_loses_depth_counterexample :
    let X := "X".toList
    let s : TrSt := { states := [(X, .completed)], depth := 5 }
    let w : List Ev := [.enter (some X) true .returnExisting, .exit (some X), .reset X, .exit (some X)]
    Shaped w ∧ Consistent s w ∧ (runEvs s w).depth = 4 ∧
    (runEvs { s with depth := 0 } w).depth = 0 :=
  ⟨.fall (some "X".toList) true [] [] .nil .nil, by decide +kernel⟩

/-- The rest state is preserved by every shaped word: this is what makes the tracker usable for
    the next top-level schema. -/
theorem rest_state_after_word (s : TrSt) (w : List Ev) (hs : s.AtRest) (hw : Shaped w) :
    (runEvs s w).AtRest := by
  obtain ⟨hstack, hdepth, hst⟩ := hs
  refine ⟨List.eq_nil_of_sublist_nil (hstack ▸ shaped_stack_sublist hw s),
    Nat.eq_zero_of_le_zero (hdepth ▸ shaped_depth_le hw s), fun n hn => ?_⟩
  by_cases h : n ∈ entered w
  · exact (shaped_states hw s n).2 h hn
  · rw [(shaped_states hw s n).1 h]
    exact hst n hn

example : (({ } : TrSt)).AtRest := ⟨rfl, rfl, fun n _ => by simp [dGet]⟩

/-- ✗ The name `""` is never pushed, popped or completed because every such step is guarded by
    `if schema_name`: it stays IN_PROGRESS.  (It reaches `_parse_schema` as the context name of an own
    property keyed `""` of an anonymous `allOf` node, `all_of_parser.py:78`; a component named `""`
    does not get that far, `build_schemas` raises for it.) -/
theorem empty_name_left_in_progress_counterexample :
    let w : List Ev := [.enter (some []) true .continueParsing, .exit (some [])]
    WellBracketed w ∧ Consistent {} w ∧ dGet [] (runEvs {} w).states = some .inProgress :=
  ⟨.cont _ _ [] [] .nil .nil, by decide +kernel⟩

open Pog.Prs

/-- `parse_emits_bracketed`, in the form that is TRUE of the code: for every declaration set, fuel,
    name, node, flag and state, the events appended by one `_parse_schema` call form a `Shaped` word
    `w`; the tracker state afterwards is the replay of `w`, and every recorded action is the action the
    tracker gave.  (`Shaped` = Dyck words + the double-exit fall-through; it is not `WellBracketed`,
    see `parse_not_well_bracketed_counterexample`.) -/
theorem parse_emits_shaped (decls : Decls) (fuel : Nat) (name : Option Str) (node : Node) (allow : Bool)
    (s : Prs.PSt) :
    ∃ w, (parse decls fuel name node allow s).2.trace = s.trace ++ w ∧ Shaped w ∧
      (parse decls fuel name node allow s).2.tr = runEvs s.tr w ∧ Consistent s.tr w :=
  parse_ext decls fuel name node allow s

/-- The whole of `build_schemas`: its trace is a shaped word replayed from the fresh tracker. -/
theorem build_schemas_shaped (maxDepth fuel : Nat) (decls : Decls) :
    Shaped (buildSchemas maxDepth fuel decls).trace ∧
    (buildSchemas maxDepth fuel decls).tr = runEvs { maxDepth := maxDepth } (buildSchemas maxDepth fuel decls).trace ∧
    Consistent { maxDepth := maxDepth } (buildSchemas maxDepth fuel decls).trace := by
  obtain ⟨w, ht, hs, hr, hc⟩ := buildLoop_ext decls fuel decls { tr := { maxDepth := maxDepth } }
  have : (buildSchemas maxDepth fuel decls).trace = w := by
    unfold buildSchemas; rw [ht]; rfl
  rw [this]
  exact ⟨hs, hr, hc⟩

/-- `rest_state_after_toplevel`: if the tracker is at rest when `_parse_schema` is called (as it is
    for every top-level schema), it is at rest when the call returns — nothing in progress, depth
    zero, no truthy name IN_PROGRESS — for EVERY schema graph (self references, mutual and longer
    cycles, cycles through arrays / maps / compositions / inline objects), every nesting, every depth
    limit, and also when the model ran out of fuel.  Saturation of the depth counter is part of why. -/
theorem rest_state_after_toplevel (decls : Decls) (fuel : Nat) (name : Option Str) (node : Node)
    (allow : Bool) (s : Prs.PSt) (h : s.tr.AtRest) : (parse decls fuel name node allow s).2.tr.AtRest := by
  obtain ⟨w, _, hs, hr, _⟩ := parse_ext decls fuel name node allow s
  rw [hr]
  exact rest_state_after_word s.tr w h hs

/-- The tracker is at rest after `build_schemas`, whatever the document, depth limit and fuel. -/
theorem build_schemas_rest (maxDepth fuel : Nat) (decls : Decls) :
    (buildSchemas maxDepth fuel decls).tr.AtRest := by
  obtain ⟨hs, hr, _⟩ := build_schemas_shaped maxDepth fuel decls
  rw [hr]
  exact rest_state_after_word _ _ ⟨rfl, rfl, fun n _ => by simp [dGet]⟩ hs

theorem build_schemas_maxDepth (maxDepth fuel : Nat) (decls : Decls) :
    (buildSchemas maxDepth fuel decls).tr.maxDepth = maxDepth := by
  obtain ⟨_, hr, _⟩ := build_schemas_shaped maxDepth fuel decls
  rw [hr, runEvs_maxDepth]

def cObj (ps : List (String × Node)) : Node := .obj (some (ps.map (fun kv => (kv.1.toList, kv.2)))) [] none
def cRef (s : String) : Node := .ref s.toList

def countEnters : List Ev → Nat
  | [] => 0
  | .enter _ _ _ :: w => countEnters w + 1
  | _ :: w => countEnters w
def countExits : List Ev → Nat
  | [] => 0
  | .exit _ :: w => countExits w + 1
  | _ :: w => countExits w

/-- ✗ `parse_emits_bracketed` as a Dyck property is false.  `Z` is an alias (`$ref: B`), so it is
    COMPLETED but never registered; the second reference to it is answered RETURN_EXISTING, not found,
    and falls through: 4 enters, 5 exits. -/
theorem parse_not_well_bracketed_counterexample :
    let decls : Decls := [("A".toList, cObj [("x", cRef "Z"), ("y", cRef "Z")]),
                          ("Z".toList, cRef "B"), ("B".toList, cObj [])]
    let s := buildLoop decls 10 (decls.take 1) { tr := { maxDepth := 150 } }
    s.oom = false ∧ countEnters s.trace = 4 ∧ countExits s.trace = 5 ∧
    s.trace.drop 5 = [.enter (some "Z".toList) true .returnExisting, .exit (some "Z".toList),
                      .reset "Z".toList, .exit (some "Z".toList), .exit (some "A".toList)] := by
  decide +kernel

/-- The five schemas of `parse_terminates_counterexample`. -/
def loopDecls : Decls := [
  ("Zz".toList, cObj [("p0", cRef "Aa"), ("p2", .arr (cRef "Dd")), ("p3", cRef "Aa")]),
  ("Aa".toList, cObj [("p0", cRef "Dd"), ("p2", cRef "Dd"), ("p3", cRef "Bb"), ("p4", cRef "Bb")]),
  ("Dd".toList, cRef "Cc"),
  ("Cc".toList, cObj [("p1", cRef "Aa"), ("p2", cRef "Aa")]),
  ("Bb".toList, cObj [("p0", cRef "Zz"), ("p1", cRef "Zz")])]

/-- ✗ `parse_terminates` ("a fuel bound computable from the depth limit suffices" / "recursion is cut
    by placeholders at the configured depth limit").  With `PYOPENAPI_MAX_DEPTH = 8` the five schemas
    `loopDecls` need MORE than 100 nested `_parse_schema` calls, and not a single name was ever cut
    at the depth limit (`depthExceeded = []`): cycle exits pop and COMPLETE outer stack entries, the
    alias `Dd` is COMPLETED-but-unregistered, and every RETURN_EXISTING fall-through gives back one
    unit of depth, so the counter never exceeds 8 while the nesting grows.  The real loader dies
    with `RecursionError` at the default settings (oracle class
    `depth-limit-bypassed-recursion-error`). -/
theorem parse_terminates_counterexample :
    (buildSchemas 8 100 loopDecls).oom = true ∧ (buildSchemas 8 100 loopDecls).tr.depthExceeded = [] := by
  decide +kernel

/-- The four schemas of `parse_terminates_unsanitised_name_counterexample` (F61): no alias schema at all.  The component
    `user_group` is registered under its class-cased name `UserGroup`, so every later reference to the COMPLETED
    `user_group` is answered RETURN_EXISTING, is NOT found under the raw name and falls through to a re-parse. -/
def loopDecls2 : Decls := [
  ("Bb".toList, .allOf [cRef "user_group"] [] []),
  ("PetOwner".toList, .allOf [cRef "Bb", cRef "user_group"] [] []),
  ("Children".toList, cObj []),
  ("user_group".toList, .oneOf [
      .allOf [cRef "Bb", cRef "PetOwner"]
        [("user_group".toList, cRef "Children"), ("group".toList, .prim .boolean false)]
        ["user_group".toList, "children".toList, "data".toList, "group".toList],
      cRef "user_group"])]

/-- ✗ `parse_terminates` again, WITHOUT an alias schema (F61): at the default limit 150 the four schemas
    `loopDecls2` need more than 320 nested `_parse_schema` calls - more than the interpreter stack holds. -/
theorem parse_terminates_unsanitised_name_counterexample :
    (buildSchemas 150 320 loopDecls2).oom = true := by
  decide +kernel

/-- ✗ `all_names_present`: "every declared schema name is present in the result".  An alias schema is
    resolved to its target, NOT registered under its own name ("pure reference"), and the
    post-condition of `build_schemas` raises `RuntimeError("Schema 'A' … was not parsed")`. -/
theorem all_names_present_counterexample :
    let decls : Decls := [("A".toList, cRef "B"), ("B".toList, cObj [("x", .prim .string false)])]
    let s := buildSchemas 150 10 decls
    s.oom = false ∧ missing decls s = ["A".toList] ∧ s.reg.map (·.1) = ["B".toList] := by
  decide +kernel

/-- ✗ The same failure without any reference: the (legal) component name `a.b`.
    `sanitize_class_name("a.b") = "AB"`, `IRSchema.__post_init__` sanitizes the already sanitized name
    again (`"Ab"`), the schema is registered under `"Ab"`, and the post-condition looks for `"a.b"` and
    `"AB"` only. -/
theorem all_names_present_dotted_counterexample :
    let decls : Decls := [("a.b".toList, cObj [("x", .prim .string false)])]
    let s := buildSchemas 150 10 decls
    s.oom = false ∧ missing decls s = ["a.b".toList] ∧ s.reg.map (·.1) = ["Ab".toList] ∧
    sanClass "a.b".toList = "AB".toList ∧ sanClass "AB".toList = "Ab".toList := by
  decide +kernel

/-- `all_names_present`, for the input class that excludes exactly the two counterexamples (and
    top-level arrays, which the proof does not cover): if every declared schema has a truthy name whose
    class-casing is idempotent (`sanitize_class_name(sanitize_class_name(n)) == sanitize_class_name(n)`)
    and its node is neither a bare `$ref` nor an array, then — whatever the schemas reference, however
    they are nested, whatever the depth limit, and even if inner calls ran out of fuel — the
    post-condition of `build_schemas` holds: every declared name is registered under its raw or its
    class-cased name, and no `RuntimeError` is raised. -/
theorem all_names_present_partial (maxDepth fuel : Nat) (decls : Decls) (h : ∀ d ∈ decls, GoodDecl d) :
    missing decls (buildSchemas maxDepth (fuel + 1) decls) = [] :=
  buildSchemas_missing_nil maxDepth fuel decls h

example : ∀ d ∈ ([("User".toList, cObj [("group", cRef "UserGroup")]),
                   ("UserGroup".toList, .allOf [cRef "User"] [("members".toList, .arr (cRef "User"))] []),
                   ("user_status".toList, .prim .string true),
                   ("Pet".toList, .oneOf [cRef "User", cRef "Nowhere"])] : Decls), GoodDecl d := by
  repeat rw [String.toList_ofList]
  decide +kernel

/-- The registry never loses a key: whatever `_parse_schema` call, a name registered before is
    registered after (its VALUE may be replaced). -/
theorem registry_only_grows (decls : Decls) (fuel : Nat) (name : Option Str) (node : Node) (allow : Bool)
    (s : Prs.PSt) (k : Str) (h : s.regHas k = true) : (parse decls fuel name node allow s).2.regHas k = true :=
  parse_frame regMono_frame decls fuel name node allow s k h

end Pog.C08
