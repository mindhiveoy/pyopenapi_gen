import Pog.Lemmas.Http
/-
  C17 — the transport applies defaults, per-request headers and auth as documented.

  FULL STATEMENT: for every combination of transport default headers, per-request headers and
  authentication plug-ins (bearer token, API key in header / query / cookie, extra headers, OAuth2 with
  refresh, compositions in any order) the request that leaves the transport carries the per-request
  headers over the defaults, then each plug-in's contribution in composition order, with an API key
  placed in the location and under the name it was configured with; the caller's query parameters,
  body and other arguments pass through unchanged.

  Proved about the model `Pog.Model.Http` (= `HttpxTransport._prepare_headers/request`, `CompositeAuth`, `BearerAuth`,
  `HeadersAuth`, `ApiKeyAuth`, `OAuth2Auth`; tied to the code by vf/corr/c17.py): every part of the full statement, for all
  inputs — the headers dict as sequential `merge_headers` writes read by exact key, the wire view (case-insensitive
  names, last writer wins, one line per name), the placement of an API key per location, `bearer_token`, the pass-through
  of the caller's arguments, the OAuth2 refresh.  The `_former_witness` theorems evaluate the inputs of the findings
  F27a (case variants of one header name) and F27b (API key in query / cookie).
-/
namespace Pog.C17
open Pog

/-- `CompositeAuth(*ps).authenticate_request` applies the plug-ins one after the other, left to right,
    each on the result of the previous one; the first exception aborts (monadic fold in `Except`). -/
theorem composite_order (ps : List Plugin) (a : RequestArgs) :
    authenticate (.composite ps) a = ps.foldlM (fun acc p => authenticate p acc) a := by
  rw [authenticate_composite]; exact authenticateAll_eq_foldlM ps a

/-- The headers written by a composite are the concatenation of its members' writes, in order; nesting
    is flattened. -/
theorem composite_contrib (ps : List Plugin) :
    contrib (.composite ps) = (ps.map contrib).flatten := by
  rw [contrib_composite]
  induction ps with
  | nil => rfl
  | cons p ps ih => rw [contribAll, ih, List.map_cons, List.flatten_cons]

/-- `_prepare_headers` raises exactly the exception of the first failing plug-in, otherwise its result is
    `{}` merged — `merge_headers`, in this order — with the default headers, the per-request
    headers, and each plug-in's writes in composition order (or the `bearer_token` line). -/
theorem headers_are_sequential_writes (defaults reqHeaders : Option Dict) (auth : Option Plugin)
    (bearer : Option Str) :
    prepareHeaders defaults reqHeaders auth bearer =
      match auth.bind firstErr with
      | some e => .error e
      | none => .ok (dictUpdateCI [] (allWrites defaults reqHeaders auth bearer)) :=
  prepareHeaders_spec defaults reqHeaders auth bearer

/-- The dict handed to httpx, read by EXACT (case-sensitive) key: `k` is present iff the LAST writer of that
    header name — in any spelling, among defaults, per-request headers, plug-ins in order — spelled it `k`,
    and then it carries that writer's value; in particular a key that was only written in an earlier layer
    under another spelling is gone.  No key occurs twice. -/
theorem header_last_writer_wins_exact (defaults reqHeaders : Option Dict) (auth : Option Plugin)
    (bearer : Option Str) (res : Dict) (h : prepareHeaders defaults reqHeaders auth bearer = .ok res) :
    (∀ k, dictGet res k =
        match lastWriterCI (allWrites defaults reqHeaders auth bearer) k with
        | some w => if w.1 = k then some w.2 else none
        | none => none)
    ∧ (∀ k, k ∈ dictKeys res ↔ ∃ v, lastWriterCI (allWrites defaults reqHeaders auth bearer) k = some (k, v))
    ∧ (dictKeys res).Nodup := by
  cases prepareHeaders_ok h
  have hg : ∀ k, dictGet (dictUpdateCI [] (allWrites defaults reqHeaders auth bearer)) k =
      match lastWriterCI (allWrites defaults reqHeaders auth bearer) k with
      | some w => if w.1 = k then some w.2 else none
      | none => none := by
    intro k; rw [dictGet_dictUpdateCI]; cases lastWriterCI (allWrites defaults reqHeaders auth bearer) k <;> simp [dictGet]
  refine ⟨hg, fun k => ?_, nodup_dictUpdateCI _ _ (by simp [dictKeys])⟩
  rw [← dictGet_isSome_iff, hg]
  rcases lastWriterCI (allWrites defaults reqHeaders auth bearer) k with _ | ⟨k1, v1⟩
  · simp
  · by_cases hk : k1 = k <;> simp [hk]

/-- FULL STATEMENT (F27a repaired).  For every combination of default headers, per-request headers, auth
    plug-in (any composition) and bearer token, whatever the spellings: under each header name (ASCII
    case-insensitive, as httpx and HTTP read it) the request carries the value of the LAST writer among
    [defaults, per-request headers, plug-ins in composition order / bearer token] and nothing else — i.e.
    plug-ins over per-request headers over defaults; every written name is sent on exactly one line. -/
theorem header_precedence (defaults reqHeaders : Option Dict) (auth : Option Plugin)
    (bearer : Option Str) (res : Dict)
    (h : prepareHeaders defaults reqHeaders auth bearer = .ok res) :
    (∀ name, wireLookup res name = (lastWriteCI (allWrites defaults reqHeaders auth bearer) name).toList)
    ∧ (∀ name, wireLookup res name =
        (((lastWriteCI (authWrites auth bearer) name).or (lastWriteCI (reqHeaders.getD []) name)).or
          (lastWriteCI (defaults.getD []) name)).toList)
    ∧ (∀ k ∈ dictKeys (allWrites defaults reqHeaders auth bearer), (wireLookup res k).length = 1)
    ∧ (∀ name, (wireLookup res name).length ≤ 1) := by
  cases prepareHeaders_ok h
  have hw := wireLookup_dictUpdateCI_nil (allWrites defaults reqHeaders auth bearer)
  refine ⟨hw, fun name => ?_, fun k hk => ?_, fun name => ?_⟩
  · rw [hw]; simp [allWrites, lastWriteCI_append, Option.or_assoc]
  · rw [hw, Option.length_toList, lastWriteCI_isSome_of_mem _ k k hk (ciEq_refl k), if_pos rfl]
  · rw [hw]
    exact Option.length_toList_le

/-- The hypothesis of `header_precedence` is satisfiable on an input with case variants in every layer:
    the former witness of F27a extended by a plug-in that writes a third spelling. -/
example : ∃ res, prepareHeaders (some [("x-b".toList, "d".toList)]) (some [("X-B".toList, "r".toList)])
    (some (.headers [("X-b".toList, "p".toList)])) none = .ok res :=
  ⟨[("X-b".toList, "p".toList)], by decide +kernel⟩

/-- Former witness of F27a: default `x-b: d`, per-request `X-B: r`, no auth.  The dict handed to httpx has
    ONE entry, spelled as the per-request header spelled it, and one line `X-B: r` goes out — the value of
    the last writer of that header name. -/
theorem header_precedence_former_witness :
    prepareHeaders (some [("x-b".toList, "d".toList)]) (some [("X-B".toList, "r".toList)]) none none
        = .ok [("X-B".toList, "r".toList)]
    ∧ wireLookup [("X-B".toList, "r".toList)] "x-b".toList = ["r".toList]
    ∧ (lastWriteCI (allWrites (some [("x-b".toList, "d".toList)]) (some [("X-B".toList, "r".toList)]) none none)
        "x-b".toList).toList = ["r".toList] := by
  decide +kernel

/-- Former witness between a plug-in and a per-request header: `BearerAuth` writes `Authorization`, the
    caller's lower-case `authorization` is replaced, one credential is sent. -/
theorem header_precedence_former_witness_auth :
    (match prepareHeaders none (some [("authorization".toList, "mine".toList)])
        (some (.bearer "t".toList)) none with
      | .ok res => wireLookup res "Authorization".toList
      | .error _ => []) = ["Bearer t".toList] := by
  decide +kernel

/-- Plug-ins among themselves: the last plug-in in composition order wins even when an earlier one used the
    spelling again that is already in the dict (`Authorization` — `authorization` — `Authorization`). -/
example :
    (match prepareHeaders (some [("X-B".toList, "d".toList), ("Accept".toList, "a".toList)])
        (some [("x-b".toList, "r".toList)])
        (some (.composite [.bearer "t".toList, .headers [("authorization".toList, "low".toList)],
          .oauth2 "o".toList none, .headers [("X-b".toList, "p".toList)]])) none with
      | .ok res => (wireLookup res "x-b".toList, wireLookup res "AUTHORIZATION".toList, res)
      | .error _ => ([], [], [])) =
      (["p".toList], ["Bearer o".toList], [("Accept".toList, "a".toList),
        ("Authorization".toList, "Bearer o".toList), ("X-b".toList, "p".toList)]) := by
  decide +kernel

/-! API key placement, FULL STATEMENT (holds): `location = "header"` → one header line `name: key`;
  `location = "query"` → the request's params contain `name ↦ key`; `location = "cookie"` → the request's cookies
  contain `name ↦ key`. -/

/-- `location="header"`: the request carries `name: key` — in the dict under exactly the configured spelling,
    on the wire as the ONLY line of that name — whatever the defaults and per-request headers. -/
theorem apikey_header_placed (defaults reqHeaders : Option Dict) (bearer : Option Str) (key name : Str) :
    ∃ res, prepareHeaders defaults reqHeaders (some (.apiKey key locHeader name)) bearer = .ok res
      ∧ dictGet res name = some key ∧ wireLookup res name = [key] :=
  prepareHeaders_auth_wins _ _ _ _ name key (by simp [firstErr])
    (by simp [authWrites, contrib, lastWriterCI, ciEq_refl])

/-- FULL STATEMENT (F27b repaired).  With `location="query"` the params handed to httpx are the caller's params
    (absent / `None` = `{}`) with `name ↦ key` assigned — an entry of exactly that name is replaced in place,
    otherwise the key is appended — and reading `name` back yields `key`; the cookies are the caller's and the
    headers are those built from defaults and per-request headers alone.  With `location="cookie"` the same
    with params and cookies exchanged.  For EVERY key, name, default headers, bearer token and caller arguments. -/
theorem apikey_query_cookie_placed {β : Type} (defaults : Option Dict) (bearer : Option Str)
    (c : CallerArgs β) (key name : Str) :
    (sendArgs { auth := some (.apiKey key locQuery name), bearerToken := bearer, defaultHeaders := defaults } c
      = .ok { headers := baseHeaders defaults c.headers, params := some (dictSet (c.params.getD []) name key),
              cookies := c.cookies, other := c.other }
      ∧ dictGet (dictSet (c.params.getD []) name key) name = some key)
    ∧ (sendArgs { auth := some (.apiKey key locCookie name), bearerToken := bearer, defaultHeaders := defaults } c
      = .ok { headers := baseHeaders defaults c.headers, params := c.params,
              cookies := some (dictSet (c.cookies.getD []) name key), other := c.other }
      ∧ dictGet (dictSet (c.cookies.getD []) name key) name = some key) := by
  refine ⟨⟨?_, by simp [dictGet_dictSet]⟩, ⟨?_, by simp [dictGet_dictSet]⟩⟩
  · simp [sendArgs, prepareRequest, authenticate, locQuery_ne_locHeader]
    cases c.cookies <;> rfl
  · simp [sendArgs, prepareRequest, authenticate, locCookie_ne_locHeader, locCookie_ne_locQuery]
    cases c.params <;> rfl

/-- The same inside any composite, at any position: if no plug-in raises, the request is sent and its params
    (cookies) hold `name ↦ key`, unless a LATER plug-in of the composite writes the same query (cookie) name — then
    that later one wins, as composition order demands. -/
theorem apikey_query_cookie_placed_in_composite {β : Type} (defaults : Option Dict) (bearer : Option Str)
    (c : CallerArgs β) (pre post : List Plugin) (key name : Str) (hne : firstErrAll (pre ++ post) = none) :
    (name ∉ dictKeys (contribQAll post) →
      ∃ s, sendArgs { auth := some (.composite (pre ++ [.apiKey key locQuery name] ++ post)), bearerToken := bearer,
                      defaultHeaders := defaults } c = .ok s
        ∧ s.params.bind (fun d => dictGet d name) = some key)
    ∧ (name ∉ dictKeys (contribCAll post) →
      ∃ s, sendArgs { auth := some (.composite (pre ++ [.apiKey key locCookie name] ++ post)), bearerToken := bearer,
                      defaultHeaders := defaults } c = .ok s
        ∧ s.cookies.bind (fun d => dictGet d name) = some key) := by
  obtain ⟨hpre, hpost⟩ := Option.or_eq_none_iff.mp (firstErrAll_append pre post ▸ hne)
  constructor
  · intro hq
    refine ⟨_, (sendArgs_eq_ok_iff _ _ _).mpr ⟨?_, rfl⟩, ?_⟩
    · simp [firstErrAll_append, firstErrAll_cons, firstErr, hpre, hpost]
    · simp [queryWrites, contribQAll_append, contribQAll, contribQ, dictGet_writeInto, lastWrite_append, lastWrite,
        lastWrite_eq_none_of_not_mem _ _ hq]
  · intro hq
    refine ⟨_, (sendArgs_eq_ok_iff _ _ _).mpr ⟨?_, rfl⟩, ?_⟩
    · simp [firstErrAll_append, firstErrAll_cons, firstErr, hpre, hpost]
    · simp [cookieWrites, contribCAll_append, contribCAll, contribC, dictGet_writeInto, lastWrite_append, lastWrite,
        lastWrite_eq_none_of_not_mem _ _ hq]

/-- The hypotheses of `apikey_query_cookie_placed_in_composite` are satisfiable with plug-ins on both sides. -/
example : firstErrAll ([.bearer "b".toList] ++ [.apiKey "k".toList locQuery "other".toList, .headers []]) = none
    ∧ "api_key".toList ∉ dictKeys (contribQAll [.apiKey "k".toList locQuery "other".toList, .headers []]) := by
  decide +kernel

/-- A query / cookie API key does not touch the headers: removing that plug-in from a composite, at any
    position, does not change what `_prepare_headers` returns (headers or exception). -/
theorem apikey_query_cookie_leaves_headers (defaults reqHeaders : Option Dict) (bearer : Option Str)
    (pre post : List Plugin) (key name loc : Str) (hloc : loc = locQuery ∨ loc = locCookie) :
    prepareHeaders defaults reqHeaders (some (.composite (pre ++ [.apiKey key loc name] ++ post))) bearer
      = prepareHeaders defaults reqHeaders (some (.composite (pre ++ post))) bearer := by
  apply prepareHeaders_drop_silent
  · rcases hloc with h | h <;> subst h <;> simp [firstErr]
  · rcases hloc with h | h <;> subst h <;> simp [contrib, locQuery_ne_locHeader, locCookie_ne_locHeader]

/-- Former witness of F27b on the plain configuration: `ApiKeyAuth("SECRET", "query", "api_key")`, a caller that
    passes no params: httpx gets `params={"api_key": "SECRET"}`, no cookies, no headers; with
    `ApiKeyAuth("SECRET", "cookie", "sid")` it gets `cookies={"sid": "SECRET"}`. -/
theorem apikey_query_placed_former_witness :
    ((match sendArgs { auth := some (.apiKey "SECRET".toList "query".toList "api_key".toList) }
        ({ other := () } : CallerArgs Unit) with
      | .ok s => s.params
      | .error _ => none) = some [("api_key".toList, "SECRET".toList)]
    ∧ (match sendArgs { auth := some (.apiKey "SECRET".toList "query".toList "api_key".toList) }
        ({ other := () } : CallerArgs Unit) with
      | .ok s => (s.headers, s.cookies)
      | .error _ => ([("raised".toList, [])], none)) = ([], none))
    ∧ ((match sendArgs { auth := some (.apiKey "SECRET".toList "cookie".toList "sid".toList) }
        ({ other := () } : CallerArgs Unit) with
      | .ok s => s.cookies
      | .error _ => none) = some [("sid".toList, "SECRET".toList)]
    ∧ (match sendArgs { auth := some (.apiKey "SECRET".toList "cookie".toList "sid".toList) }
        ({ other := () } : CallerArgs Unit) with
      | .ok s => (s.headers, s.params)
      | .error _ => ([("raised".toList, [])], none)) = ([], none)) := by
  decide +kernel

/-- Any other `location` string: `ValueError("Invalid API key location: <loc>")` out of
    `_prepare_headers` (hence out of `request`, before httpx is called). -/
theorem apikey_bad_location_raises {β : Type} (defaults : Option Dict) (bearer : Option Str) (c : CallerArgs β)
    (key name loc : Str) (h : loc ≠ locHeader ∧ loc ≠ locQuery ∧ loc ≠ locCookie) :
    prepareHeaders defaults c.headers (some (.apiKey key loc name)) bearer
      = .error (.valueError (badLocationMsg loc))
    ∧ sendArgs { auth := some (.apiKey key loc name), bearerToken := bearer, defaultHeaders := defaults } c
      = .error (.valueError (badLocationMsg loc)) := by
  have hp : prepareHeaders defaults c.headers (some (.apiKey key loc name)) bearer
      = .error (.valueError (badLocationMsg loc)) := by
    rw [prepareHeaders_spec]; simp [firstErr, h.1, h.2.1, h.2.2]
  exact ⟨hp, by rw [sendArgs_spec]; simp [firstErr, h.1, h.2.1, h.2.2]⟩

example : "Header".toList ≠ locHeader ∧ "Header".toList ≠ locQuery ∧ "Header".toList ≠ locCookie := by decide +kernel

/-- A composite raises iff one of its members does (the first one's exception), never otherwise. -/
theorem composite_raises_iff (ps : List Plugin) (a : RequestArgs) :
    (∃ e, authenticate (.composite ps) a = .error e) ↔ ∃ p ∈ ps, firstErr p ≠ none := by
  have key : firstErrAll ps ≠ none ↔ ∃ p ∈ ps, firstErr p ≠ none := by
    induction ps with
    | nil => simp [firstErrAll]
    | cons p ps ih => simp [firstErrAll_cons, Option.or_eq_none_iff, Decidable.imp_iff_not_or, ih]
  rw [← key]
  cases hf : firstErrAll ps with
  | some e =>
    simp [authenticateAll_of_firstErr_some ps a e hf]
  | none =>
    obtain ⟨r, hr⟩ := authenticateAll_of_firstErr_none ps a hf
    simp [hr]

/-- With an auth plug-in the `bearer_token` constructor argument is ignored; without one it sets
    `Authorization: Bearer <t>` (replacing a default / per-request header of that name, however spelled). -/
theorem bearer_token_only_without_auth (defaults reqHeaders : Option Dict) :
    (∀ (p : Plugin) (bearer : Option Str),
        prepareHeaders defaults reqHeaders (some p) bearer = prepareHeaders defaults reqHeaders (some p) none)
    ∧ (∀ t : Str, ∃ res, prepareHeaders defaults reqHeaders none (some t) = .ok res
        ∧ res = dictSetCI (baseHeaders defaults reqHeaders) hAuthorization (bearerValue t)
        ∧ dictGet res hAuthorization = some (bearerValue t))
    ∧ prepareHeaders defaults reqHeaders none none = .ok (baseHeaders defaults reqHeaders) := by
  refine ⟨fun p bearer => by simp [prepareHeaders, prepareRequest],
    fun t => ⟨_, by simp [prepareHeaders, prepareRequest], rfl, ?_⟩, by simp [prepareHeaders, prepareRequest]⟩
  simp [dictGet_dictSetCI]

/-- Query / cookie writes come from `ApiKeyAuth(location="query"|"cookie")` only: every other plug-in kind, and the
    `bearer_token` path, writes none. -/
theorem query_cookie_writes_only_from_apikey (tok : Str) (cb : Option (Str → Str)) (h : Dict) (key name : Str) :
    contribQ (.bearer tok) = [] ∧ contribC (.bearer tok) = []
    ∧ contribQ (.headers h) = [] ∧ contribC (.headers h) = []
    ∧ contribQ (.oauth2 tok cb) = [] ∧ contribC (.oauth2 tok cb) = []
    ∧ contribQ (.apiKey key locHeader name) = [] ∧ contribC (.apiKey key locHeader name) = []
    ∧ contribQ (.apiKey key locCookie name) = [] ∧ contribC (.apiKey key locQuery name) = []
    ∧ queryWrites none = [] ∧ cookieWrites none = [] := by
  simp [contribQ, contribC, queryWrites, cookieWrites, locQuery_ne_locHeader.symm, locCookie_ne_locHeader.symm,
    locCookie_ne_locQuery, locCookie_ne_locQuery.symm]

/-- Whatever the plug-in configuration: if the request is sent, httpx receives every other keyword unchanged;
    its `params` (`cookies`) are the caller's with the plug-ins' query (cookie) API keys assigned in composition
    order — so exactly the caller's value (absent stays absent) when no plug-in places a key there, and in any
    case every caller entry whose name no plug-in writes keeps its value; the headers depend on the caller's
    `headers` only; and the request is sent unless a plug-in raises. -/
theorem passthrough {β : Type} (t : Transport) (c : CallerArgs β) :
    (∀ s, sendArgs t c = .ok s →
        s.other = c.other
        ∧ s.params = writeInto c.params (queryWrites t.auth)
        ∧ s.cookies = writeInto c.cookies (cookieWrites t.auth)
        ∧ (queryWrites t.auth = [] → s.params = c.params)
        ∧ (cookieWrites t.auth = [] → s.cookies = c.cookies)
        ∧ (∀ k, k ∉ dictKeys (queryWrites t.auth) →
            s.params.bind (fun d => dictGet d k) = c.params.bind (fun d => dictGet d k))
        ∧ (∀ k, k ∉ dictKeys (cookieWrites t.auth) →
            s.cookies.bind (fun d => dictGet d k) = c.cookies.bind (fun d => dictGet d k))
        ∧ prepareHeaders t.defaultHeaders c.headers t.auth t.bearerToken = .ok s.headers)
    ∧ ((∃ s, sendArgs t c = .ok s) ↔ t.auth.bind firstErr = none) := by
  constructor
  · intro s hs
    obtain ⟨he, rfl⟩ := (sendArgs_eq_ok_iff t c s).mp hs
    refine ⟨rfl, rfl, rfl, fun h => by simp [h], fun h => by simp [h], fun k hk => ?_, fun k hk => ?_, ?_⟩
    · simp [dictGet_writeInto, lastWrite_eq_none_of_not_mem _ k hk]
    · simp [dictGet_writeInto, lastWrite_eq_none_of_not_mem _ k hk]
    · rw [prepareHeaders_spec, he]
  · exact ⟨fun ⟨s, hs⟩ => ((sendArgs_eq_ok_iff t c s).mp hs).1, fun he => ⟨_, (sendArgs_eq_ok_iff t c _).mpr ⟨he, rfl⟩⟩⟩

/-- With a refresh callback the header carries `cb tok` when that is non-empty and differs from `tok`,
    otherwise `tok`; the plug-in keeps that token for the next request.  Without a callback: `tok`. -/
theorem oauth2_refresh (defaults reqHeaders : Option Dict) (bearer : Option Str) (tok : Str) (cb : Str → Str) :
    (∃ res, prepareHeaders defaults reqHeaders (some (.oauth2 tok (some cb))) bearer = .ok res
      ∧ dictGet res hAuthorization
          = some (bearerValue (if cb tok ≠ [] ∧ cb tok ≠ tok then cb tok else tok)))
    ∧ (∃ res, prepareHeaders defaults reqHeaders (some (.oauth2 tok none)) bearer = .ok res
      ∧ dictGet res hAuthorization = some (bearerValue tok))
    ∧ pluginAfter (.oauth2 tok (some cb))
        = .oauth2 (if cb tok ≠ [] ∧ cb tok ≠ tok then cb tok else tok) (some cb) := by
  have h : ∀ cb', ∃ res, prepareHeaders defaults reqHeaders (some (.oauth2 tok cb')) bearer = .ok res
      ∧ dictGet res hAuthorization = some (bearerValue (effToken tok cb')) := fun cb' =>
    let ⟨res, h1, h2, _⟩ := prepareHeaders_auth_wins defaults reqHeaders (some (.oauth2 tok cb')) bearer hAuthorization _
      (by simp [firstErr]) (by simp [authWrites, contrib, lastWriterCI, ciEq_refl])
    ⟨res, h1, h2⟩
  exact ⟨h (some cb), h none, by simp [pluginAfter, effToken]⟩

/-- Non-vacuity: refreshed, refused because empty, refused because equal; second request after a refresh. -/
example :
    let cb : Str → Str := fun t => if t = "a".toList then "b".toList else if t = "b".toList then [] else t
    prepareHeaders none none (some (.oauth2 "a".toList (some cb))) none
        = .ok [("Authorization".toList, "Bearer b".toList)]
    ∧ prepareHeaders none none (some (.oauth2 "b".toList (some cb))) none
        = .ok [("Authorization".toList, "Bearer b".toList)]
    ∧ prepareHeaders none none (some (.oauth2 "c".toList (some cb))) none
        = .ok [("Authorization".toList, "Bearer c".toList)]
    ∧ prepareHeaders none none (some (pluginAfter (.oauth2 "a".toList (some cb)))) none
        = .ok [("Authorization".toList, "Bearer b".toList)] := by
  decide +kernel

end Pog.C17
