import Pog.Lemmas.ConvGen
import Pog.Props.C16
import Pog.Lemmas.ConvTolerated
/-
  C03 (converter part) — generated models round-trip conforming JSON on the wire names of the spec.

  FULL STATEMENT: for every generated model and every JSON document that conforms to its schema, structuring
  then unstructuring yields JSON equal to the input, where the only tolerated difference is that an absent
  optional property may reappear as null or, if array/map valued, as an empty container.  Keys on the wire
  are the spec's original property names whatever Python field names were derived; formatted values
  (date-time, date, uuid, byte/binary, enums) survive unchanged.

  The theorems are about the models `Pog.Model.Conv` and `Pog.Model.ConvGen` (tied to the code by vf/corr/conv.py): the
  `Meta` maps the generator emits are mutually inverse and keep the spec's property names on the wire; C16's
  `decode_encode` holds for every class of that shape, up to the tolerance the statement allows; every python type the
  resolver chooses for a string `format` has a codec in both directions.  One total defect remains: a property whose
  type has no structure hook (an unresolved forward reference, F42) makes its whole class undecodable
  (`unsupported_field_poisons_class`).
-/
namespace Pog.C03
open Pog

/-- For an object schema whose property names are pairwise distinct (they are the keys of a mapping), the class
    the generator emits exists (the name de-duplication loop terminates, C20) and
      * its field identifiers are pairwise distinct, one per property;
      * `key_transform_with_load` is `{property ↦ identifier}` and `key_transform_with_dump` is its converse
        (`(p, n) ∈ load ↔ (n, p) ∈ dump`), both injective;
      * the key the converter READS a field from and the key it WRITES it to are both the field's original
        property name — for every property name whatsoever (keywords, case-fold collisions, punctuation, …);
      * the set of wire keys is exactly the set of property names. -/
theorem meta_maps_inverse (props : List PropSpec) (hnd : (props.map PropSpec.name).Nodup) :
    ∃ cd names load dump, generatedClass props = some cd
      ∧ cd.loadMap = some load ∧ cd.dumpMap = some dump
      ∧ (∀ p n, (p, n) ∈ load ↔ (n, p) ∈ dump)
      ∧ (load.map Prod.fst).Nodup ∧ (load.map Prod.snd).Nodup
      ∧ cd.fields.map Field.pyName = names ∧ names.Nodup ∧ names.length = props.length
      ∧ cd.fields.map (loadKey cd) = cd.fields.map (dumpKey cd)
      ∧ (cd.fields.map (loadKey cd)).Perm (props.map PropSpec.name)
      ∧ classOk cd = true := by
  obtain ⟨cd, names, hg, _, hl, hd, hnn, hlen, hpn, hlk, hdk⟩ := generatedClass_spec props
  have hperm := (sortProps_perm props).map PropSpec.name
  have hps : ((sortProps props).map PropSpec.name).Nodup := hperm.nodup_iff.mpr hnd
  have hlen2 : ((sortProps props).map PropSpec.name).length = names.length := by simp [hlen]
  refine ⟨cd, names, _, _, hg, hl, hd, ?_, ?_, ?_, hpn, hnn, ?_, by rw [hlk, hdk], hlk ▸ hperm,
    generatedClass_ok props hnd cd hg⟩
  · intro p n
    exact ⟨mem_zip_swap _ _ p n, mem_zip_swap _ _ n p⟩
  · rw [List.map_fst_zip (by omega)]; exact hps
  · rw [List.map_snd_zip (by omega)]; exact hnn
  · rw [hlen, (sortProps_perm props).length_eq]

/-- The derived identifiers are the ones C20 talks about (`Pog.fieldNames` over the sorted property names). -/
theorem meta_maps_names (props : List PropSpec) :
    ∃ cd names, generatedClass props = some cd
      ∧ fieldNames ((sortProps props).map PropSpec.name) = some names
      ∧ cd.fields.map Field.pyName = names := by
  obtain ⟨cd, names, hg, hfn, _, _, _, _, hpn, _, _⟩ := generatedClass_spec props
  exact ⟨cd, names, hg, hfn, hpn⟩

/-- Keyword-like, case-fold-colliding and punctuation-only-different property names: the identifiers collide
    before de-duplication (`user_id`, `user_id_2`, …), the wire keys are the original names. -/
example :
    (generatedClass [⟨"userId".toList, .leaf .str, .required⟩, ⟨"user_id".toList, .leaf .int, .required⟩,
                     ⟨"class".toList, .optional (.leaf .str), .none⟩, ⟨"user-id".toList, .leaf .int, .required⟩]).map
      (fun cd => cd.fields.map (fun f => (f.pyName, loadKey cd f, dumpKey cd f)))
    = some [("user_id".toList, "user-id".toList, "user-id".toList),
            ("user_id_2".toList, "userId".toList, "userId".toList),
            ("user_id_3".toList, "user_id".toList, "user_id".toList),
            ("class_".toList, "class".toList, "class".toList)] := by decide +kernel

/-- Every class of the declaration table is one the generator emits (from distinct property names). -/
def Generated (decls : Decls) : Prop :=
  ∀ d ∈ decls, ∃ props : List PropSpec, (props.map PropSpec.name).Nodup ∧ generatedClass props = some d.2

theorem generated_declsOk (decls : Decls) (h : Generated decls) : declsOk decls = true := by
  simp only [declsOk, List.all_eq_true]
  intro d hd
  obtain ⟨props, hnd, hg⟩ := h d hd
  exact generatedClass_ok props hnd d.2 hg

/-- C16 `decode_encode` for generated models: whatever the property names are and whatever identifiers were
    derived from them, a conforming document comes back as `normaliseF … j` — the same keys (the spec's names),
    the same values, absent defaulted properties filled in with `null` / `[]` / `{}`. -/
theorem roundtrip_generated (c : Codecs) (n : Nat) (reg : List Str) (decls : Decls) (t : Ty) (j : JsonV)
    (hgen : Generated decls) (hreg : allRegistered reg decls = true)
    (hconf : conformsF c n decls t j = true) :
    ∃ v, structF c n decls t j = .ok v ∧ unstrF c n reg decls (some t) v = .ok (normaliseF n decls t j) :=
  Pog.C16.decode_encode c n reg decls t j (generated_declsOk decls hgen) hreg hconf

/-- The hypothesis is satisfiable: a table holding the class emitted for `{petId: int, class: str, pet-name?: str}`. -/
example : ∃ cd, generatedClass [⟨"petId".toList, .leaf .int, .required⟩, ⟨"pet-name".toList, .optional (.leaf .str), .none⟩,
      ⟨"class".toList, .leaf .str, .required⟩] = some cd ∧ Generated [("Pet".toList, cd)] := by
  obtain ⟨cd, _, _, _, hg, _⟩ := meta_maps_inverse
    [⟨"petId".toList, .leaf .int, .required⟩, ⟨"pet-name".toList, .optional (.leaf .str), .none⟩,
     ⟨"class".toList, .leaf .str, .required⟩] (by decide +kernel)
  refine ⟨cd, hg, ?_⟩
  intro d hd
  simp only [List.mem_singleton] at hd
  subst hd
  exact ⟨_, by decide +kernel, hg⟩

/-- C03 as stated: the re-encoded document `out` equals the input up to the order of object keys, except that `out`
    may carry additional keys whose value is `null`, `[]` or `{}` (`tolerated`): nothing is lost, nothing is changed,
    no key is renamed. -/
theorem roundtrip_tolerated (c : Codecs) (n : Nat) (reg : List Str) (decls : Decls) (t : Ty) (j : JsonV)
    (hgen : Generated decls) (hreg : allRegistered reg decls = true)
    (hconf : conformsF c n decls t j = true) :
    ∃ v out, structF c n decls t j = .ok v ∧ unstrF c n reg decls (some t) v = .ok out ∧ tolerated j out = true := by
  obtain ⟨v, h1, h2⟩ := roundtrip_generated c n reg decls t j hgen hreg hconf
  exact ⟨v, _, h1, h2, tolerated_normalise c decls (generated_declsOk decls hgen) n t j hconf⟩

/-- The tolerance is a genuine restriction: a dropped key, a changed value or a renamed key is not tolerated. -/
example : tolerated (.obj [("a".toList, .int 1), ("b".toList, .int 2)]) (.obj [("a".toList, .int 1)]) = false
    ∧ tolerated (.int 5) (.str "5".toList) = false
    ∧ tolerated (.obj [("userId".toList, .int 1)]) (.obj [("user_id".toList, .int 1)]) = false
    ∧ tolerated (.obj [("a".toList, .int 1)]) (.obj [("x".toList, .null), ("a".toList, .int 1), ("l".toList, .arr [])]) = true := by
  decide +kernel

/-- FULL STATEMENT: every python type `_resolve_string` chooses for a string `format` can be structured by the bundled
    converter and is unstructured by a hook of the module (or is JSON as it stands).  Table-level: re-checked by
    `decide` against `formatMapping` × `leafSupported`. -/
theorem chosen_leaves_supported : ∀ e ∈ formatMapping, leafRoundTrips e.2 = true := by
  decide +kernel

/-- The statement is not vacuous: the table has entries, `uuid` and `time` among them. -/
example : ("uuid".toList, Leaf.uuid) ∈ formatMapping ∧ ("time".toList, Leaf.time) ∈ formatMapping
    ∧ formatMapping.length = 10 := by decide +kernel

/-- The default of `format_mapping.get` (`str`, e.g. for `byte`, `password`) is supported. -/
theorem default_leaf_supported : leafRoundTrips .str = true := by decide +kernel

/-- The former witnesses of F10 (repaired): `format: uuid` resolves to `UUID`, `format: time` to `datetime.time`; the
    converter used to register no hook for either.  Now both are in `leafSupported`, a UUID / time string is structured
    to a `UUID` / `time` object, and that object is unstructured to the same string. -/
theorem chosen_leaves_supported_former_witness :
    leafOfFormat "uuid".toList = .uuid ∧ leafRoundTrips .uuid = true
    ∧ leafOfFormat "time".toList = .time ∧ leafRoundTrips .time = true
    ∧ structureFromDict Codecs.exec 3 [] (.leaf .uuid) (.str "123e4567-e89b-12d3-a456-426614174000".toList)
        = .ok (.uuid "123e4567-e89b-12d3-a456-426614174000".toList)
    ∧ (unstructureToDict Codecs.exec 3 [] [] (.uuid "123e4567-e89b-12d3-a456-426614174000".toList)).1
        = .ok (.str "123e4567-e89b-12d3-a456-426614174000".toList)
    ∧ roundtrip Codecs.exec 3 [] [] (.leaf .time) (.str "12:30:00+05:30".toList)
        = .ok (.ok (.str "12:30:00+05:30".toList))
    ∧ structureFromDict Codecs.exec 3 [] (.leaf .uuid) (.str "not-a-uuid".toList) = .error ⟨false, [([], .uuidForm)]⟩ := by
  -- the long literals as character lists first: evaluating `"…".toList` costs far more than the rest of the check
  repeat rw [String.toList_ofList]
  decide +kernel

/-- What `chosen_leaves_supported` buys: for EVERY entry of `format_mapping` (and for the default `str`), every codec and
    every canonically spelled wire value of that leaf type, structuring succeeds and unstructuring the result gives the
    wire value back. -/
theorem chosen_leaves_roundtrip (c : Codecs) (n : Nat) (reg : List Str) (decls : Decls) (fmt : Str) (j : JsonV)
    (hconf : leafConforms c (leafOfFormat fmt) j = true) :
    ∃ v, structF c (n + 1) decls (.leaf (leafOfFormat fmt)) j = .ok v
      ∧ unstrF c (n + 1) reg decls (some (.leaf (leafOfFormat fmt))) v = .ok j := by
  have hrt : leafRoundTrips (leafOfFormat fmt) = true := by
    unfold leafOfFormat
    cases hg : aget formatMapping fmt with
    | none => exact default_leaf_supported
    | some l => exact chosen_leaves_supported (fmt, l) (aget_mem _ _ _ hg)
  simp only [leafRoundTrips, Bool.and_eq_true] at hrt
  have hc : conformsF c (n + 1) decls (.leaf (leafOfFormat fmt)) j = true := by
    simp only [conformsF, resolvable, hrt.1, hrt.2, hconf, Bool.and_self]
  obtain ⟨v, h1, h2, _⟩ := roundtrip_leaf c reg decls n _ j hc
  refine ⟨v, h1, ?_⟩
  rw [h2]; simp [normaliseF]

/-- The hypothesis is satisfiable for the formerly unsupported formats (and fails for a non-canonical spelling). -/
example : leafConforms Codecs.exec (leafOfFormat "uuid".toList) (.str "123e4567-e89b-12d3-a456-426614174000".toList) = true
    ∧ leafConforms Codecs.exec (leafOfFormat "time".toList) (.str "23:59:59".toList) = true
    ∧ leafConforms Codecs.exec (leafOfFormat "time".toList) (.str "23:59:59Z".toList) = false
    ∧ leafConforms Codecs.exec (leafOfFormat "date-time".toList) (.str "2020-01-01T00:00:00".toList) = true := by
  repeat rw [String.toList_ofList]
  decide +kernel

/-- A dataclass with one field whose type has no structure hook (an unresolved forward reference `"Node"`, a list of
    them — F42) cannot be structured from ANY non-null payload — even one that omits the field: cattrs looks the hooks
    up when it generates the class's structure function. -/
theorem unsupported_field_poisons_class (c : Codecs) (n : Nat) (decls : Decls) (name : Str) (cd : ClassDecl)
    (j : JsonV) (hcd : aget decls name = some cd) (hj : j ≠ .null)
    (hbad : ∃ f ∈ cd.fields, resolvable f.ty = false) :
    structF c (n + 1) decls (.dc name) j = .error (.leaf .unsupported) := by
  obtain ⟨f, hf, hr⟩ := hbad
  have hall : cd.fields.all (fun f => resolvable f.ty) = false := by
    rw [List.all_eq_false]; exact ⟨f, hf, by simp [hr]⟩
  rw [structF_dc]
  cases j with
  | null => exact absurd rfl hj
  | _ => simp only [structClass, hcd, hall, Bool.not_false, if_true]

/-- `Optional["N"]` IS resolvable (it goes through the union hook and fails only when a non-null value arrives);
    a bare forward reference, or a `List["N"]`, is not.  A `UUID` / `time` field (bare or in a list) is. -/
example : resolvable (.optional (.fwd "N".toList)) = true ∧ resolvable (.fwd "N".toList) = false
    ∧ resolvable (.list (.fwd "N".toList)) = false
    ∧ resolvable (.leaf .uuid) = true ∧ resolvable (.list (.leaf .time)) = true := by decide +kernel

example : structureFromDict Codecs.exec 4
    [("N".toList, { fields := [⟨"id".toList, .leaf .int, .required⟩, ⟨"kids".toList, .list (.fwd "N".toList), .list⟩],
                    loadMap := none, dumpMap := none })]
    (.dc "N".toList) (.obj [("id".toList, .int 1)]) = .error ⟨false, [([], .unsupported)]⟩ := by decide +kernel

/-- The former poisoned class of F10 now decodes and re-encodes: `class U: id: int; uid: Optional[UUID] = None`. -/
example : roundtrip Codecs.exec 4 []
    [("U".toList, { fields := [⟨"id".toList, .leaf .int, .required⟩, ⟨"uid".toList, .optional (.leaf .uuid), .none⟩],
                    loadMap := none, dumpMap := none })]
    (.dc "U".toList) (.obj [("id".toList, .int 1), ("uid".toList, .str "00000000-0000-0000-0000-000000000005".toList)])
    = .ok (.ok (.obj [("id".toList, .int 1), ("uid".toList, .str "00000000-0000-0000-0000-000000000005".toList)])) := by
  repeat rw [String.toList_ofList]
  decide +kernel

end Pog.C03
