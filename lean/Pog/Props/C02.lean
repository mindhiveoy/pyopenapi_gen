import Pog.Props.Dc
import Pog.Props.Extract
import Pog.Props.Resolve
import Pog.Lemmas.ParserFaithful
/-
  C02 — every named schema is represented by exactly one model whose fields are exactly the declared
  properties (own or inherited through allOf), bound to the original JSON key, required exactly when
  the spec says so, typed with the structural kind the spec gives — regardless of cycles, names and
  declaration order.

  The full statement `∀ maxDepth decls n, n ∈ names decls → Faithful decls (buildSchemas maxDepth fuel decls) n`
  is false of the current code (four counterexamples below).  `Faithful` compares the model registered for `n`
  with the independent denotation `specFields decls n` (Pog/Model/ParserSpec.lean; own properties ∪ allOf parts
  transitively, `$ref`s followed through a visited set).  Here: the denotation does not depend on the declaration
  order, `_parse_properties` yields one entry per declared key whatever the callback does, the counterexamples, and
  the theorem on the DAG fragment `Simple` (Pog/Lemmas/ParserFragments.lean).  Pog/Props/C02b.lean and C02c.lean
  state it for the larger fragments `Simple2` and `Simple3`, C02d.lean reads `Faithful` field by field, C02e.lean
  evaluates documents with own `properties` next to `allOf`.  In no fragment: own `properties` next to `allOf`,
  nested inline objects / arrays, oneOf / anyOf.  No side condition on prefixes or on `Item` / `Property` in names is
  needed without cycles (the heuristics only fire on a detected cycle); class-cased names are needed (the registry
  is keyed by the sanitised name, the tracker by the name as written).

  The annotation level (Pog/Props/Resolve.lean), the two post-parse extraction passes and the model-kind decision
  (Pog/Props/Extract.lean) and the dataclass level (Pog/Props/Dc.lean) of C02 are proved there and claimed by the
  INDEX lines below.
-/
-- MODULE Pog.Props.C02b
-- MODULE Pog.Props.C02c
-- MODULE Pog.Props.C02d
-- MODULE Pog.Props.C02e
-- INDEX Pog.C02e: own_prims_faithful, own_override_faithful, own_chain_faithful, own_siblings_faithful, parse_faithful_own_prim_depth_counterexample, own_dup_key_model_vs_denotation
-- INDEX Pog.C02d: spec_keys_unique, every_declared_name_registered3, model_keys_are_spec_keys3, model_required_iff_spec3, model_kind_is_spec_kind3, model_invariant_under_permutation3, petDog_spec
-- INDEX Pog.C02c: simple2_imp_simple3, inFragment2_imp_inFragment3, parse_faithful_partial3, inFragment3_sound, petDecls_simple3, simple3_strict, parse_faithful_enum_ctx_shared_counterexample, parse_faithful_enum_ctx_dup_counterexample, parse_faithful_enum_ctx_declared_counterexample, parse_faithful_enum_depth_counterexample
-- INDEX Pog.C02b: simple_imp_simple2, parse_faithful_partial2, inFragment2_sound, invDecls_simple2, simple2_strict, parse_faithful_map_ctx_counterexample, parse_faithful_map_depth_counterexample
-- INDEX Pog.ResolveProps: resolve_optional_iff_not_required, union_members_nodup_and_cover, dispatch_union
-- INDEX Pog.ExtractProps: extract_preserves_wire_keys, extract_preserves_array_nature_counterexample, extract_preserves_array_nature_partial, extracted_enum_has_the_values, enum_pointer, enum_entry_fields, extracted_item_is_a_copy, enum_pass_keeps_items, array_pass_keeps_fields, extract_postconditions_never_fire, reuse_branch_dead, kind_total_and_exclusive, kind_decision, properties_imply_dataclass, properties_never_alias, anonymous_is_skipped, data_wrapper_is_named_dataclass, extracted_number_enum_is_alias, extracted_string_enum_is_enum, extract_idempotent_counterexample, extract_idempotent_partial, extract_enum_pass_idempotent
-- INDEX Pog.DcProps: one_field_per_property, one_field_per_property_generated, mappings_are_the_wire_keys, required_iff_no_default, required_iff_no_default_generated, default_array, default_plain_object, default_absent, default_nonscalar
namespace Pog.C02
open Pog Pog.Prs Pog.Trk

/-- Declaration order does not matter to the denotation (keys distinct, as in any JSON object). -/
theorem specFields_decl_perm_invariant (d d' : Decls) (hp : d.Perm d') (hn : (d.map (·.1)).Nodup)
    (n : Str) : specFields d n = specFields d' n :=
  specFields_perm hp hn n

def cObj (ps : List (String × Node)) : Node := .obj (some (ps.map (fun kv => (kv.1.toList, kv.2)))) [] none
def cRef (s : String) : Node := .ref s.toList

example : let d : Decls := [("A".toList, cObj [("b", cRef "B")]), ("B".toList, cObj [])]
    d.Perm d.reverse ∧ (d.map (·.1)).Nodup := by
  refine ⟨(List.reverse_perm _).symm, by decide⟩

/-- "Exactly one field per declared property, bound to the property's original JSON key":
    whatever the callback `P` does (cycles, placeholders, out of fuel …), whatever the state, the
    property map `_parse_properties` returns has the keys already merged from `allOf` followed by the
    declared keys — non-empty, first occurrence, document order, unchanged. -/
theorem own_properties_one_field_each (decls : Decls) (P : PFn) (parent : Option Str) (allow : Bool)
    (ps : List (Str × Node)) (acc : List (Str × Nat)) (s : Prs.PSt) :
    (parseProps decls P parent allow ps acc s).1.map (·.1) = declaredKeys ps (acc.map (·.1)) :=
  parseProps_keys decls P parent allow ps acc s

example : declaredKeys [("id".toList, .prim .integer false), ("".toList, .prim .string false),
    ("name".toList, .prim .string false), ("id".toList, .prim .string false)] []
    = ["id".toList, "name".toList] := by decide

def userDecls : Decls :=
  [("User".toList, cObj [("group", cRef "UserGroup")]),
   ("UserGroup".toList, cObj [("members", .arr (cRef "User"))])]

/-- ✗ `User` declared first: parsing `User.group` enters `UserGroup`, whose
    `members: array of User` re-enters `User`; the cycle path is `User -> UserGroup -> User` and
    `"UserGroup".startswith("User")` trips `is_nested_property_self_ref`, so a circular placeholder is
    STORED under `User`; when the outer `User` is finished, `schema_parser.py:846-850` returns that
    placeholder instead of the schema that was just built.  `User` ends as a cycle placeholder with
    zero fields although the document declares `group: UserGroup`. -/
theorem parse_faithful_prefix_counterexample :
    let s := buildSchemas 150 30 userDecls
    s.oom = false ∧ missing userDecls s = [] ∧
    modelFields userDecls s "User".toList = some [] ∧
    (s.lookup "User".toList).map (fun i => (s.get i).kind) = some .cyclePlaceholder ∧
    specFields userDecls "User".toList = [⟨"group".toList, false, .ref "UserGroup".toList⟩] ∧
    ¬ Faithful userDecls s "User".toList ∧ Faithful userDecls s "UserGroup".toList := by
  decide +kernel

def parentDecls : Decls :=
  [("Parent".toList, cObj [("kids", .arr (cRef "Child"))]),
   ("Child".toList, .allOf [cRef "Parent", cObj [("extra", .prim .string false)]] [] [])]

/-- ✗ `Child = allOf[Parent, {extra}]` is first reached from inside `Parent`
    (`kids: array of Child`); its `allOf` part `$ref Parent` is a cycle and yields an empty
    placeholder, so `Child` is registered with `extra` only: the inherited `kids` is lost for good. -/
theorem parse_faithful_allof_counterexample :
    let s := buildSchemas 150 30 parentDecls
    s.oom = false ∧ missing parentDecls s = [] ∧
    modelFields parentDecls s "Child".toList = some [⟨"extra".toList, false, .prim .string⟩] ∧
    specFields parentDecls "Child".toList =
      [⟨"kids".toList, false, .arr (.ref "Child".toList)⟩, ⟨"extra".toList, false, .prim .string⟩] ∧
    ¬ Faithful parentDecls s "Child".toList ∧ Faithful parentDecls s "Parent".toList := by
  decide +kernel

/-- ✗ (a) `Owner.owner: {type: object}` is parsed under the context name `Owner`
    (`"Owner".lower().startswith("owner")` ⇒ no prefixing), i.e. as the schema `Owner` itself: the
    property becomes a reference to `Owner`.  (b) `Event.owner: {type: object}` is parsed under the
    name `EventOwner` and registered under it; the DECLARED schema `EventOwner` is then skipped by
    `build_schemas` ("already registered") and ends with zero fields. -/
theorem parse_faithful_inline_named_like_schema_counterexample :
    let d1 : Decls := [("Owner".toList, cObj [("owner", .obj none [] none)])]
    let d2 : Decls := [("Event".toList, cObj [("owner", .obj none [] none)]),
                       ("EventOwner".toList, cObj [("name", .prim .string false)])]
    modelFields d1 (buildSchemas 150 30 d1) "Owner".toList
      = some [⟨"owner".toList, false, .ref "Owner".toList⟩] ∧
    specFields d1 "Owner".toList = [⟨"owner".toList, false, .obj⟩] ∧
    modelFields d2 (buildSchemas 150 30 d2) "EventOwner".toList = some [] ∧
    specFields d2 "EventOwner".toList = [⟨"name".toList, false, .prim .string⟩] ∧
    (buildSchemas 150 30 d2).trace.length = 4 := by
  decide +kernel

def chainDecls : Decls :=
  [("A".toList, cObj [("b", cRef "B")]), ("B".toList, cObj [("c", cRef "C")]),
   ("C".toList, cObj [("x", .prim .string false)])]

/-- ✗ `PYOPENAPI_MAX_DEPTH = 2`.  `C` is first reached through `A → B → C` at depth 3 and
    becomes a depth placeholder, which is written to `parsed_schemas["C"]`; `build_schemas` then skips
    the top-level `C` ("already registered"), although parsing it from the top would need depth 1.
    Declared in the opposite order every schema is faithful. -/
theorem parse_faithful_depth_counterexample :
    let s := buildSchemas 2 30 chainDecls
    s.oom = false ∧ missing chainDecls s = [] ∧
    (s.lookup "C".toList).map (fun i => (s.get i).kind) = some .depthPlaceholder ∧
    modelFields chainDecls s "C".toList = some [] ∧ ¬ Faithful chainDecls s "C".toList ∧
    (∀ n ∈ chainDecls.map (·.1), Faithful chainDecls.reverse (buildSchemas 2 30 chainDecls.reverse) n) := by
  decide +kernel

/-- On the fragment `Simple decls rank`
    * every declared schema is `{type: object, properties: {…}, required: […]}` whose property nodes are
      plain primitives (`{type: string|integer|number|boolean}`) or `$ref`s to declared schemas,
    * schema names are non-empty, pairwise different and already class-cased
      (`sanitize_class_name n = n`), property keys are non-empty and pairwise different,
    * the reference graph is acyclic: `rank` strictly decreases along every `$ref`,
    and with the longest reference chain below the depth limit (`rank n + 1 ≤ maxDepth`) and the fuel,
    loading succeeds (no out-of-fuel, no RuntimeError) and EVERY declared name is `Faithful`: it has
    a model, a full schema, whose fields are, as a set, the declared properties: bound to the
    original key, required exactly when the spec requires it, typed with the `Kind` the spec gives —
    whatever the declaration order. -/
theorem parse_faithful_partial (decls : Decls) (rank : Str → Nat) (hS : Simple decls rank) (maxDepth F : Nat)
    (hF : ∀ d ∈ decls, rank d.1 < F) (hD : ∀ d ∈ decls, rank d.1 + 1 ≤ maxDepth) :
    (buildSchemas maxDepth (F + 1) decls).oom = false ∧
    missing decls (buildSchemas maxDepth (F + 1) decls) = [] ∧
    ∀ d ∈ decls, Faithful decls (buildSchemas maxDepth (F + 1) decls) d.1 :=
  buildSchemas_faithful3 hS.toSimple2.toSimple3 maxDepth F hF hD

def orderDecls : Decls :=
  [("Order".toList, .obj (some [("id".toList, .prim .integer false), ("customer".toList, cRef "Customer"),
                                 ("address".toList, cRef "Address")]) ["id".toList] none),
   ("Customer".toList, .obj (some [("name".toList, .prim .string false), ("address".toList, cRef "Address")])
                         ["name".toList] none),
   ("Address".toList, cObj [("city", .prim .string false)])]

def orderRank (n : Str) : Nat :=
  if n = "Order".toList then 2 else if n = "Customer".toList then 1 else 0

example : Simple orderDecls orderRank ∧ (∀ d ∈ orderDecls, orderRank d.1 < 3) ∧
    (∀ d ∈ orderDecls, orderRank d.1 + 1 ≤ 150) :=
  ⟨⟨by decide +kernel, by decide +kernel, by decide +kernel, by
      intro d hd ps req ap he kv hkv t ht
      simp only [orderDecls, List.mem_cons, List.mem_nil_iff, or_false] at hd
      rcases hd with rfl | rfl | rfl <;> cases he <;>
        (simp only [cRef, List.map_cons, List.map_nil, List.mem_cons, List.mem_nil_iff, or_false] at hkv
         rcases hkv with rfl | rfl | rfl <;> cases ht <;> decide)⟩,
   by decide, by decide⟩

end Pog.C02
