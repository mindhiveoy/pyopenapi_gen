import Pog.Lemmas.GenCode
import Pog.Props.Loader
/-
  C05 — what an emitted endpoint method returns for a declared 2xx response.

  FULL STATEMENT: for every operation and every 2xx response it declares, when the server answers with that
  status and a body conforming to the declared schema, the call returns a value of the annotated return type
  whose re-serialisation equals the body; a declared response without content returns None; text and binary
  responses return the text or bytes sent.  Streaming responses yield, in order, exactly the chunks or events
  the server sent.

  This file is about WHICH ARM of the emitted `match response.status_code` fires and WHAT KIND of return it is
  (`Pog.GenCode.handle`, Pog/Model/GenCode.lean, tied to the emitted code by `vf/corr/gencode.py`); decoding the
  body (cattrs) and the stream framing are C03 / C18.

  Proved for every operation: the two copies of `_get_primary_response` agree; a declared 2xx status selects a
  `return` arm and the call returns.  Proved for distinct response keys: which return a response without content, another
  2xx response, a `text/*` response and an NDJSON stream get, also next to a streamed primary response.  Former
  witnesses of repaired defects are kept as positive statements; `✗` marks a statement that is FALSE of the current code
  (a binary response that is not the primary one; the arm of another 2xx response ignores the Content-Type, F59).
  The loader's part (content keys, the `stream` flag) is in Pog/Props/Loader.lean.
-/
-- INDEX Pog.LoaderProps: response_content_keys_preserved, stream_flag_iff, stream_flag_perm_invariant, stream_format_perm_counterexample, stream_format_perm_partial
namespace Pog.C05
open Pog Pog.GenCode

/-- `ResponseStrategyResolver._get_primary_response` (types/strategies/response_strategy.py) and
    `_get_primary_response` (helpers/endpoint_utils.py) — modelled independently from their sources as
    `primaryA` / `primaryB` — select the same response for EVERY list of responses: the return type (chosen with
    the first copy) and the first `case` of the `match` (chosen with the second) always belong together. -/
theorem primary_selection_agree (rs : List Resp) : primaryA rs = primaryB rs := primaryA_eq_primaryB rs

/-- The priority rule both copies implement: 200, 201, 202, 204, then the lowest other key starting with `2`, then
    `default`, then the lowest key. -/
example :
    (primaryA [⟨.num 404, []⟩, ⟨.num 204, []⟩, ⟨.num 201, []⟩]).map (·.key) = some (.num 201) ∧
    (primaryA [⟨.default, []⟩, ⟨.num 206, []⟩, ⟨.other "2XX".toList, []⟩]).map (·.key) = some (.num 206) ∧
    (primaryA [⟨.num 404, []⟩, ⟨.default, []⟩]).map (·.key) = some .default ∧
    (primaryA [⟨.num 404, []⟩, ⟨.num 500, []⟩]).map (·.key) = some (.num 404) ∧
    primaryA [] = none := by decide +kernel

/-- A declared 2xx status always selects a `return` arm of the emitted `match`; consequently, with either
    transport, the call never raises one of the package's `HTTPError` classes for it. -/
theorem declared_2xx_never_raises_passthrough (t : TransportKind) (op : Op) (r : Reply)
    (h2 : 200 ≤ r.status ∧ r.status < 300) (hd : ∃ x ∈ op.responses, x.key = .num r.status) :
    (selectAction op.responses r.status).isReturn = true ∧
    ∀ cls st w why, handle t op r ≠ .raised cls st w why := by
  have hret := select_declared_2xx_isReturn op.responses r.status h2 hd
  refine ⟨hret, fun cls st w why => ?_⟩
  by_cases hm : moduleOk op = true
  · rw [handle_2xx t hm h2]
    exact runAction_isReturn_not_raised hret cls st w why
  · rw [handle_not_importable t r hm]
    nofun

/-- C05 "the call returns a value": whenever the emitted module imports, a declared 2xx status makes the call
    RETURN (never `NameError`, never an `HTTPError`) — for every operation, both transports, `Union` return types over
    several response media types included (the missing `structure_from_dict` import of the Content-Type dispatch,
    F58, is repaired). -/
theorem declared_2xx_returns (t : TransportKind) (op : Op) (r : Reply) (hm : moduleOk op = true)
    (h2 : 200 ≤ r.status ∧ r.status < 300) (hd : ∃ x ∈ op.responses, x.key = .num r.status) :
    ∃ k, handle t op r = .returned k := by
  rw [handle_2xx t hm h2]
  exact runAction_returns (select_declared_2xx_isReturn op.responses r.status h2 hd)

/-- `GET /report`: 200 is a `Report` as JSON or plain text. -/
def exUnion : Op :=
  ⟨"GET".toList, [.lit "/report".toList], [], none,
   [⟨.num 200, [⟨mtJson, .model "Report".toList⟩, ⟨"text/plain".toList, .string⟩]⟩]⟩

example : moduleOk exUnion = true ∧ (resolveStrategy exUnion.responses).isUnion = true := by
  unfold exUnion mtJson
  repeat rw [String.toList_ofList]
  decide +kernel

/-- The shape that used to end in `NameError` (F58): the JSON branch of a Content-Type dispatch structures the body,
    the `text/plain` branch returns the text. -/
theorem declared_2xx_union_dispatch_returns :
    handle .bundled exUnion ⟨200, some "application/json".toList⟩ = .returned (.structure (.model "Report".toList)) ∧
    handle .bundled exUnion ⟨200, some "text/plain; charset=utf-8".toList⟩ = .returned .text := by
  unfold exUnion mtJson
  repeat rw [String.toList_ofList]
  decide +kernel

/-- A declared 2xx response WITHOUT content returns `None` (keys of a responses object are distinct) — unless the
    method is an async generator (`isAsyncGen`: its primary response is streamed), which cannot return a value: there
    the arm is a bare `return` and the iterator the caller holds ends without an item (F35 repaired; the arm used to be
    `return None`, a SyntaxError next to the `yield`). -/
theorem no_content_returns_none (t : TransportKind) (op : Op) (r : Reply) (hm : moduleOk op = true)
    (hnd : (op.responses.map (·.key)).Nodup) (h2 : 200 ≤ r.status ∧ r.status < 300)
    (x : Resp) (hx : x ∈ op.responses) (hk : x.key = .num r.status) (hc : x.content = []) :
    handle t op r = .returned (if isAsyncGen op.responses then .streamEnd else .none) := by
  rw [handle_2xx t hm h2, select_declared_2xx op.responses r.status h2 hnd x hx hk]
  by_cases hp : isPrimaryArm op.responses x = true
  · obtain ⟨n, hn⟩ := isPrimaryArm_iff.mp hp
    have hres := resolveStrategy_no_content (processedPrimary_spec hn).2.2.2.2 hc
    simp [hp, hres, Strategy.isNone, runAction, isAsyncGen, Strategy.isStreaming]
  · cases hst : (resolveStrategy op.responses).isStreaming <;>
      simp [hp, hst, secondaryAction, hc, runAction, isAsyncGen]

example : handle .bundled
    ⟨"DELETE".toList, [.lit "/a".toList], [], none, [⟨.num 200, [⟨mtJson, .int⟩]⟩, ⟨.num 204, []⟩]⟩ ⟨204, none⟩
      = .returned .none := by decide +kernel

/-- `GET /events`: 200 is an event stream of `Event`s, 201 a `Created` document, 204 nothing. -/
def exStreamTwo : Op :=
  ⟨"GET".toList, [.lit "/events".toList], [], none,
   [⟨.num 200, [⟨"text/event-stream".toList, .model "Event".toList⟩]⟩, ⟨.num 201, [⟨mtJson, .model "Created".toList⟩]⟩,
    ⟨.num 204, []⟩]⟩

/-- F35 repaired, the response without content of a streaming method: the stream ends without an item
    (`no_content_returns_none` read for an async generator). -/
theorem no_content_ends_stream (t : TransportKind) (op : Op) (r : Reply) (hm : moduleOk op = true)
    (hnd : (op.responses.map (·.key)).Nodup) (h2 : 200 ≤ r.status ∧ r.status < 300)
    (x : Resp) (hx : x ∈ op.responses) (hk : x.key = .num r.status) (hc : x.content = [])
    (hag : isAsyncGen op.responses = true) :
    handle t op r = .returned .streamEnd := by
  rw [no_content_returns_none t op r hm hnd h2 x hx hk hc, hag]
  rfl

example : moduleOk exStreamTwo = true ∧ (exStreamTwo.responses.map (·.key)).Nodup ∧ isAsyncGen exStreamTwo.responses = true ∧
    handle .passthrough exStreamTwo ⟨204, none⟩ = .returned .streamEnd := by decide +kernel

/-- Every declared 2xx response that is not the primary one has an arm of its own, whose return is chosen from
    ITS schema (`return None` without content) and written by `_write_secondary_return` (`secondaryAction`: `return <value>`,
    or — in a streaming method, F35 repaired — `yield <value>` and a bare `return`). -/
theorem secondary_2xx_arm_exists (op : Op) (r : Reply)
    (hnd : (op.responses.map (·.key)).Nodup) (h2 : 200 ≤ r.status ∧ r.status < 300)
    (x : Resp) (hx : x ∈ op.responses) (hk : x.key = .num r.status) (hnp : isPrimaryArm op.responses x = false) :
    selectAction op.responses r.status = secondaryAction (resolveStrategy op.responses).isStreaming x ∧
    secondaryAction false x = (if x.content.isEmpty then Action.retNone else Action.retSecondary (secondaryRet x)) ∧
    secondaryAction true x = (if x.content.isEmpty then Action.retStreamEnd else Action.yieldSecondary (secondaryRet x)) := by
  refine ⟨?_, rfl, rfl⟩
  rw [select_declared_2xx op.responses r.status h2 hnd x hx hk, hnp]
  rfl

/-- C05 for a 2xx response WITH content next to a streamed primary response (F35 repaired): the method is an async
    generator, the arm `yield`s the value a non-streaming method would have returned (chosen from ITS schema:
    `secondaryRet`) as the only item and returns — the call never fails with `NameError`, and the module imports
    (`hm` does not exclude this shape, `stream_with_second_2xx_module_ok`). -/
theorem secondary_2xx_of_stream_yields_once (t : TransportKind) (op : Op) (r : Reply) (hm : moduleOk op = true)
    (hnd : (op.responses.map (·.key)).Nodup) (h2 : 200 ≤ r.status ∧ r.status < 300)
    (x : Resp) (hx : x ∈ op.responses) (hk : x.key = .num r.status) (hne : x.content ≠ [])
    (hnp : isPrimaryArm op.responses x = false) (hst : (resolveStrategy op.responses).isStreaming = true) :
    handle t op r = .returned (.yieldOnce (secondaryRet x)) := by
  have hemp : x.content.isEmpty = false := List.isEmpty_eq_false_iff.mpr hne
  have hact : selectAction op.responses r.status = .yieldSecondary (secondaryRet x) := by
    rw [select_declared_2xx op.responses r.status h2 hnd x hx hk, hnp, hst]
    simp [secondaryAction, hemp]
  rw [handle_2xx t hm h2, hact]
  exact returnOf_of_imports fun hk => importsStructure_of_secondary hact (.inr rfl) hk

example :
    let x : Resp := ⟨.num 201, [⟨mtJson, .model "Created".toList⟩]⟩
    moduleOk exStreamTwo = true ∧ (exStreamTwo.responses.map (·.key)).Nodup ∧ x ∈ exStreamTwo.responses ∧
    isPrimaryArm exStreamTwo.responses x = false ∧ (resolveStrategy exStreamTwo.responses).isStreaming = true ∧
    handle .bundled exStreamTwo ⟨201, none⟩ = .returned (.yieldOnce (.structure (.model "Created".toList))) := by
  decide +kernel

/-- `POST /jobs`: 200 returns a `Job`, 202 an `Accepted`. -/
def exTwo : Op :=
  ⟨"POST".toList, [.lit "/jobs".toList], [], none,
   [⟨.num 200, [⟨mtJson, .model "Job".toList⟩]⟩, ⟨.num 202, [⟨mtJson, .model "Accepted".toList⟩]⟩]⟩

example : isPrimaryArm exTwo.responses ⟨.num 202, [⟨mtJson, .model "Accepted".toList⟩]⟩ = false ∧
    handle .bundled exTwo ⟨202, none⟩ = .returned (.structure (.model "Accepted".toList)) ∧
    handle .bundled exTwo ⟨200, none⟩ = .returned (.structure (.model "Job".toList)) := by decide +kernel

/-- C05 "text responses return the text sent" (F32b repaired): a declared 2xx response whose media types are all
    `text/*`, each with a plain string schema, is returned as `response.text` — whether it is the primary response
    (one media type or several) or has an arm of its own.  A primary response that is STREAMED (`text/event-stream`)
    is an async iterator instead, hence `hns`; next to a streamed primary response the arm of another 2xx response yields
    the text once instead (`secondary_2xx_of_stream_yields_once`), hence `hst`.  Before the repair both arms were
    `cast(str, response.json())`. -/
theorem text_response_returns_text (t : TransportKind) (op : Op) (r : Reply) (hm : moduleOk op = true)
    (hnd : (op.responses.map (·.key)).Nodup) (h2 : 200 ≤ r.status ∧ r.status < 300)
    (x : Resp) (hx : x ∈ op.responses) (hk : x.key = .num r.status) (hne : x.content ≠ [])
    (htx : x.content.all (fun m => isTextCt m.mt) = true) (hsh : ∀ m ∈ x.content, m.shape = .string)
    (hns : isPrimaryArm op.responses x = true → respStream x = false)
    (hst : isPrimaryArm op.responses x = false → (resolveStrategy op.responses).isStreaming = false) :
    handle t op r = .returned .text := by
  rw [handle_2xx t hm h2, select_declared_2xx op.responses r.status h2 hnd x hx hk]
  by_cases hp : isPrimaryArm op.responses x = true
  · obtain ⟨n, hn⟩ := isPrimaryArm_iff.mp hp
    have hres := resolveStrategy_text (processedPrimary_spec hn).2.2.2.2 hne (hns hp) htx hsh
    simp [hp, hres, Strategy.isNone, runAction, returnOf, strategyRet, RetKind.needsStructure]
  · have hemp : x.content.isEmpty = false := List.isEmpty_eq_false_iff.mpr hne
    simp [hp, hst (by simpa using hp), secondaryAction, hemp, secondaryRet_text hne htx hsh, runAction, returnOf,
      RetKind.needsStructure]

/-- `GET /motd`: 200 is JSON, 203 the same message as `text/plain` or `text/html`. -/
def exText : Op :=
  ⟨"GET".toList, [.lit "/motd".toList], [], none,
   [⟨.num 200, [⟨mtJson, .model "Motd".toList⟩]⟩,
    ⟨.num 203, [⟨"text/plain".toList, .string⟩, ⟨"text/html".toList, .string⟩]⟩]⟩

/-- The hypotheses of `text_response_returns_text` are satisfiable by an arm that is not the primary one and by a primary one. -/
example : moduleOk exText = true ∧ (exText.responses.map (·.key)).Nodup ∧
    isPrimaryArm exText.responses ⟨.num 203, [⟨"text/plain".toList, .string⟩, ⟨"text/html".toList, .string⟩]⟩ = false ∧
    (resolveStrategy exText.responses).isStreaming = false ∧
    handle .passthrough exText ⟨203, some "text/html".toList⟩ = .returned .text := by decide +kernel

example :
    let x : Resp := ⟨.num 200, [⟨"text/plain".toList, .string⟩, ⟨"text/csv".toList, .string⟩]⟩
    isPrimaryArm [x, ⟨.num 404, []⟩] x = true ∧ respStream x = false ∧
    x.content.all (fun m => isTextCt m.mt) = true := by
  repeat rw [String.toList_ofList]
  decide +kernel

/-- The former witness of F32b — a `text/plain` string response, then emitted as `cast(str, response.json())` (a
    plain-text body raised in `response.json()`) — returns the text; the same schema served as JSON is still decoded. -/
theorem text_response_former_witness :
    handle .bundled ⟨"GET".toList, [.lit "/motd".toList], [], none,
      [⟨.num 200, [⟨"text/plain".toList, .string⟩]⟩]⟩ ⟨200, some "text/plain".toList⟩ = .returned .text ∧
    handle .bundled ⟨"GET".toList, [.lit "/motd".toList], [], none,
      [⟨.num 200, [⟨mtJson, .string⟩]⟩]⟩ ⟨200, some "application/json".toList⟩ = .returned (.cast .str) := by
  decide +kernel

/-- The Content-Type dispatch of a response with several media types (F69 repaired): the arm of a media type whose name
    contains `json` decodes a string body (`cast(str, response.json())`); only a string under another media type is the
    raw `response.text`.  Before the repair every `str` arm returned `response.text`, so the JSON string `"a\"b"` came
    back with its quotes and escapes. -/
theorem dispatch_str_arm (k : Str) :
    tyDispatchRet k .str = (if GenCode.isInfix "json".toList (lowerAscii k) then .cast .str else .text) := by
  unfold tyDispatchRet
  cases h : GenCode.isInfix "json".toList (lowerAscii k)
  · simp
  · simp [tyRet, useCattrs]

/-- The former witness of F69: `{application/vnd.acme.v2+json: Widget, application/json: string}` answered with
    `application/json` (the fallback arm) decodes the string; a `text/plain` string arm still returns the text. -/
theorem dispatch_json_string_former_witness :
    handle .bundled ⟨"GET".toList, [.lit "/w".toList], [], none,
      [⟨.num 200, [⟨"application/vnd.acme.v2+json".toList, .model "Widget".toList⟩, ⟨mtJson, .string⟩]⟩]⟩
      ⟨200, some "application/json".toList⟩ = .returned (.cast .str) ∧
    handle .bundled ⟨"GET".toList, [.lit "/w".toList], [], none,
      [⟨.num 200, [⟨mtJson, .model "Widget".toList⟩, ⟨"text/plain".toList, .string⟩]⟩]⟩
      ⟨200, some "text/plain".toList⟩ = .returned .text := by
  unfold mtJson
  repeat rw [String.toList_ofList]
  decide +kernel

/-- C05 "streaming responses yield the events the server sent", which parser (F43 repaired): a primary response that
    declares `application/x-ndjson` (any case), no event stream, no binary media type and whose schema is not binary
    is iterated with `iter_ndjson` — before the repair it went through the SSE parser, which yields nothing for
    newline-delimited JSON. -/
theorem ndjson_stream_uses_iter_ndjson (t : TransportKind) (op : Op) (r : Reply) (hm : moduleOk op = true)
    (hnd : (op.responses.map (·.key)).Nodup) (h2 : 200 ≤ r.status ∧ r.status < 300)
    (x : Resp) (hx : x ∈ op.responses) (hk : x.key = .num r.status) (hp : isPrimaryArm op.responses x = true)
    (hnj : x.content.any (fun m => lowerAscii m.mt = mtNdjson) = true)
    (hev : x.content.any (fun m => GenCode.isInfix "event-stream".toList m.mt) = false)
    (hbin : x.content.any (fun m => isBinaryCt m.mt) = false)
    (hsh : ∀ m, strategyMedia x.content = some m → m.shape ≠ .binary) :
    handle t op r = .returned .streamNdjson := by
  obtain ⟨n, hn⟩ := isPrimaryArm_iff.mp hp
  have hres := resolveStrategy_ndjson (processedPrimary_spec hn).2.2.2.2 hnj hev hbin hsh
  rw [handle_2xx t hm h2, select_declared_2xx op.responses r.status h2 hnd x hx hk]
  simp [hp, hres, Strategy.isNone, runAction, returnOf, strategyRet, RetKind.needsStructure]

/-- `GET /nd`: a stream of `Item`s as NDJSON; 404 declared. -/
def exNd : Op :=
  ⟨"GET".toList, [.lit "/nd".toList], [], none,
   [⟨.num 404, []⟩, ⟨.num 200, [⟨"Application/X-NDJSON".toList, .model "Item".toList⟩]⟩]⟩

example :
    let x : Resp := ⟨.num 200, [⟨"Application/X-NDJSON".toList, .model "Item".toList⟩]⟩
    moduleOk exNd = true ∧ (exNd.responses.map (·.key)).Nodup ∧ isPrimaryArm exNd.responses x = true ∧
    x.content.any (fun m => lowerAscii m.mt = mtNdjson) = true ∧
    x.content.any (fun m => GenCode.isInfix "event-stream".toList m.mt) = false ∧
    x.content.any (fun m => isBinaryCt m.mt) = false ∧
    (strategyMedia x.content).map (·.shape) = some (.model "Item".toList) := by
  unfold exNd
  repeat rw [String.toList_ofList]
  decide +kernel

/-- The former witness of F43 (`application/x-ndjson` with an object schema) is iterated with `iter_ndjson`; an event
    stream keeps the SSE parser, also when NDJSON is declared beside it; NDJSON without a usable schema streams bytes. -/
theorem ndjson_stream_former_witness :
    handle .bundled ⟨"GET".toList, [.lit "/nd".toList], [], none,
      [⟨.num 200, [⟨"application/x-ndjson".toList, .model "GetNd200Response".toList⟩]⟩]⟩
      ⟨200, some "application/x-ndjson".toList⟩ = .returned .streamNdjson ∧
    handle .bundled ⟨"GET".toList, [.lit "/nd".toList], [], none,
      [⟨.num 200, [⟨"application/x-ndjson".toList, .model "E".toList⟩, ⟨"text/event-stream".toList, .model "E".toList⟩]⟩]⟩
      ⟨200, some "text/event-stream".toList⟩ = .returned .streamSse ∧
    handle .bundled ⟨"GET".toList, [.lit "/nd".toList], [], none,
      [⟨.num 200, [⟨"application/x-ndjson".toList, .binary⟩]⟩]⟩
      ⟨200, some "application/x-ndjson".toList⟩ = .returned .streamBytes := by
  decide +kernel

/-- ✗ C05 (binary responses return the bytes sent): a binary response that is not the primary one is
    `cast(bytes, response.json())`. -/
theorem secondary_binary_parsed_as_json_counterexample :
    handle .bundled ⟨"GET".toList, [.lit "/file".toList], [], none,
      [⟨.num 200, [⟨mtJson, .int⟩]⟩, ⟨.num 206, [⟨"application/octet-stream".toList, .binary⟩]⟩]⟩
      ⟨206, some "application/octet-stream".toList⟩ = .returned (.cast .bytes) := by
  decide +kernel

/-- ✗ C05 (F59): a 2xx response that is NOT the primary one gets one `return` chosen from `application/json` (else the
    first media type) — the arm never looks at the Content-Type header.  A `201` declared as
    `application/problem+json: Problem | application/json: Created` answers a conforming `Problem` body by
    structuring it as `Created`. -/
theorem secondary_2xx_ignores_content_type_counterexample :
    let op : Op := ⟨"POST".toList, [.lit "/jobs".toList], [], none,
      [⟨.num 200, [⟨mtJson, .model "Job".toList⟩]⟩,
       ⟨.num 201, [⟨"application/problem+json".toList, .model "Problem".toList⟩, ⟨mtJson, .model "Created".toList⟩]⟩]⟩
    handle .passthrough op ⟨201, some "application/problem+json".toList⟩ = .returned (.structure (.model "Created".toList)) ∧
    handle .passthrough op ⟨201, some "application/json".toList⟩ = .returned (.structure (.model "Created".toList)) := by
  unfold mtJson
  repeat rw [String.toList_ofList]
  decide +kernel

/-- F35 repaired: whether the emitted module imports no longer depends on the responses at all (before the repair a
    streaming primary response next to another numeric 2xx response put `yield` and `return <value>` into one function —
    `SyntaxError: 'return' with value in async generator`, the whole endpoints package failed to import). -/
theorem stream_with_second_2xx_module_ok (op : Op) (rs : List Resp) :
    moduleOk { op with responses := rs } = moduleOk op := rfl

/-- The former witness of F35 — an event stream next to a 204 — imports: 200 is still iterated with the SSE parser, 204
    ends the stream without an item; a 201 with a JSON body beside them (`exStreamTwo`) yields the decoded `Created` once. -/
theorem stream_with_second_2xx_former_witness :
    let op : Op := ⟨"GET".toList, [.lit "/events".toList], [], none,
      [⟨.num 200, [⟨"text/event-stream".toList, .model "Event".toList⟩]⟩, ⟨.num 204, []⟩]⟩
    moduleOk op = true ∧ handle .bundled op ⟨200, none⟩ = .returned .streamSse ∧
    handle .bundled op ⟨204, none⟩ = .returned .streamEnd ∧
    handle .bundled exStreamTwo ⟨200, none⟩ = .returned .streamSse ∧
    handle .bundled exStreamTwo ⟨201, none⟩ = .returned (.yieldOnce (.structure (.model "Created".toList))) ∧
    handle .bundled exStreamTwo ⟨204, none⟩ = .returned .streamEnd := by
  decide +kernel

end Pog.C05
