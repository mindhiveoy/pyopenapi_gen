import Pog.Model.Basic
import Pog.Model.Names
import Pog.Model.Fresh
/-
  M-extract: the two post-parsing passes of `core/loader/schemas/extractor.py`

    * `extract_inline_array_items`  (lines 54-150)   →  `extractArrayItems`
    * `extract_inline_enums`        (lines 153-324)  →  `extractEnums` (calls the former first, like the code)

  and the construct decision of `visit/model/model_visitor.py` `ModelVisitor.visit_IRSchema`
  (lines 81-166) → `modelKind`.

  The models are what the code DOES, branch for branch:
    * the registry is a python `dict` = association list (insertion order, `in` = key membership,
      `schemas[k]` = first entry with key `k`, `schemas.update(new)` = `dictUpdate`);
    * `for … in list(schemas.items())` is a snapshot: both passes walk the registry they were given
      and collect the promoted schemas in a side dictionary (`new_item_schemas` / `new_enums`) that is
      merged at the end, so promoted schemas are not re-visited by the pass that made them — but the enum
      pass DOES visit the item schemas the array pass promoted;
    * the property schemas are mutated in place (`name`, `type`, `generation_name`,
      `final_module_stem`, `enum = None`, `items.name`);
    * `IRSchema(name=…)` runs `__post_init__`, which class-cases `name`; `copy.deepcopy` and attribute
      assignment do not;
    * python truthiness: `None` and `""` / `[]` are both falsy (`truthy`), but `items.name is None` in the
      visitor is an identity test (`Option.isNone`);
    * the "reuse an enum made during parsing" branch (lines 268-277) is kept although it is dead
      (`Pog.ExtractProps.reuse_branch_dead`).

  Value semantics: a `Schema` is a tree.  Python objects can be shared (the same `IRSchema` reachable
  from two places); the passes only mutate property schemas and `items` of property schemas, so the
  model is exact for registries in which those objects are not shared — the registries the
  correspondence builds.  (TRUSTED: absence of sharing; `copy.deepcopy` copies every modelled field.)

  The `while name in schemas or name in new: name = f"{base}{i}"` loops are `Pog.inlineName`
  (fuel `|taken| + 1`); `inlineName_total` proves the fuel suffices, `freshT` is the name found.
-/
namespace Pog.Extract
open Pog

/-! ### Schemas and registries -/

/-- The fields of `IRSchema` the two passes and the visitor's decision read or write. -/
structure Schema where
  name : Option Str := none
  ty : Option Str := none
  genName : Option Str := none            -- `generation_name`
  stem : Option Str := none               -- `final_module_stem`
  enumVals : Option (List Str) := none    -- `enum` (each value rendered as text)
  props : List (Str × Schema) := []       -- `properties` (dict order)
  items : Option Schema := none
  anyOf : Bool := false                   -- truthiness of `any_of`
  oneOf : Bool := false
  allOf : Bool := false

abbrev Reg := List (Str × Schema)

/-- python truthiness of `str | None` / `list | None`. -/
def truthy {α : Type} : Option (List α) → Bool
  | some (_ :: _) => true
  | _ => false

def regKeys (r : Reg) : List Str := r.map (·.1)

/-- `d[k] = v` on a python dict. -/
def dictSet (r : Reg) (k : Str) (v : Schema) : Reg :=
  match r with
  | [] => [(k, v)]
  | (k', v') :: rest => if k' == k then (k', v) :: rest else (k', v') :: dictSet rest k v

/-- `d.update(new)`. -/
def dictUpdate (r new : Reg) : Reg := new.foldl (fun acc kv => dictSet acc kv.1 kv.2) r

/-! ### String constants (explicit character lists so that they reduce everywhere) -/

abbrev sArray : Str := ['a','r','r','a','y']
abbrev sObject : Str := ['o','b','j','e','c','t']
abbrev sNull : Str := ['n','u','l','l']
abbrev sString : Str := ['s','t','r','i','n','g']
abbrev sInteger : Str := ['i','n','t','e','g','e','r']
abbrev sNumber : Str := ['n','u','m','b','e','r']
abbrev sResponse : Str := ['R','e','s','p','o','n','s','e']
abbrev sList : Str := ['L','i','s','t']
abbrev sItem : Str := ['I','t','e','m']
abbrev sEnum : Str := ['E','n','u','m']
abbrev sData : Str := ['d','a','t','a']
abbrev sItems : Str := ['i','t','e','m','s']
abbrev sResults : Str := ['r','e','s','u','l','t','s']
abbrev sContent : Str := ['c','o','n','t','e','n','t']

/-- `s.replace(pat, "")` for a non-empty literal `pat`, one character at a time: `skip` is the number of
    characters of the match at hand that are still to be dropped. -/
def dropSub (pat : Str) : Nat → Str → Str
  | _, [] => []
  | skip + 1, _ :: cs => dropSub pat skip cs
  | 0, c :: cs =>
    if pat.isPrefixOf (c :: cs) then dropSub pat (pat.length - 1) cs else c :: dropSub pat 0 cs

/-! ### `extract_inline_array_items` -/

/-- lines 84-90 -/
def isEmptyObject (it : Schema) : Bool :=
  it.ty == some sObject && it.props.isEmpty && !it.anyOf && !it.oneOf && !it.allOf

/-- lines 82-102 -/
def isComplexItem (it : Schema) : Bool :=
  !(it.ty == some sNull) && !isEmptyObject it &&
    (it.ty == some sObject || it.ty == some sArray || !it.props.isEmpty || it.anyOf || it.oneOf || it.allOf)

def wrapperProps : List Str := [sData, sItems, sResults, sContent]

/-- lines 108-125: the base name of a promoted item schema. -/
def itemBaseName (u : UInfo) (sname pname : Str) (it : Schema) : Str :=
  if wrapperProps.contains (u.lowerS pname) then
    if it.ty == some sObject && endsWith sname sResponse then
      dropSub sList 0 (dropSub sResponse 0 sname) ++ sItem
    else sanClass sname ++ sanClass pname ++ sItem
  else sanClass sname ++ sanClass pname ++ sItem

/-- The name the suffix loop ends with (`inlineName_total`: the `getD` default is never used). -/
def freshT (taken : List Str) (base : Str) : Str := (inlineName taken base).getD base

/-- line 78: does this property get its items promoted? -/
def wantsItem (ps : Schema) : Option Schema :=
  match ps.items with
  | some it =>
    if ps.ty == some sArray && !truthy it.name && isComplexItem it then some it else none
  | none => none

/-- One property (lines 78-139). `keys` = the keys of `schemas`, `new` = `new_item_schemas` so far. -/
def arrayProp (u : UInfo) (keys : List Str) (sname : Str) (new : Reg) (pn : Str) (ps : Schema) :
    Reg × Schema :=
  match wantsItem ps with
  | some it =>
    let nm := freshT (keys ++ regKeys new) (itemBaseName u sname pn it)
    (new ++ [(nm, { it with name := some nm })], { ps with items := some { it with name := some nm } })
  | none => (new, ps)

def arrayProps (u : UInfo) (keys : List Str) (sname : Str) :
    Reg → List (Str × Schema) → Reg × List (Str × Schema)
  | new, [] => (new, [])
  | new, (pn, ps) :: rest =>
    let r1 := arrayProp u keys sname new pn ps
    let r2 := arrayProps u keys sname r1.1 rest
    (r2.1, (pn, r1.2) :: r2.2)

def arraySchemas (u : UInfo) (keys : List Str) : Reg → Reg → Reg × Reg
  | new, [] => (new, [])
  | new, (k, s) :: rest =>
    let r1 := arrayProps u keys k new s.props
    let r2 := arraySchemas u keys r1.1 rest
    (r2.1, (k, { s with props := r1.2 }) :: r2.2)

/-- `(new_item_schemas, schemas after the in-place mutations)`. -/
def arrayPass (u : UInfo) (reg : Reg) : Reg × Reg := arraySchemas u (regKeys reg) [] reg

def extractArrayItems (u : UInfo) (reg : Reg) : Reg :=
  let r := arrayPass u reg
  dictUpdate r.2 r.1

/-! ### `extract_inline_enums` -/

def primEnumTypes : List Str := [sString, sInteger, sNumber]

/-- `s.enum and s.type in ["string", "integer", "number"]` (lines 195, 231). -/
def hasInlineEnum (ps : Schema) : Bool :=
  truthy ps.enumVals &&
    (match ps.ty with
     | some t => primEnumTypes.contains t
     | none => false)

/-- `x and x in schemas` → the entry `schemas[x]`. -/
def lookupRef (r : Reg) (x : Option Str) : Option (Str × Schema) :=
  match x with
  | some (c :: cs) => (r.lookup (c :: cs)).map (fun s => (c :: cs, s))
  | _ => none

/-- `x and x in schemas and schemas[x].enum` -/
def refsEnum (r : Reg) (x : Option Str) : Bool :=
  match lookupRef r x with
  | some (_, s) => truthy s.enumVals
  | none => false

/-- `c.isupper()` for one character. -/
def pyIsUpperChar (u : UInfo) (c : Char) : Bool := if isAscii c then isUpperA c else u.isupper c

/-- lines 252-255: `name and name[0].isupper() and "_" not in name and name != prop_name` -/
def classLike (u : UInfo) (name : Option Str) (pname : Str) : Bool :=
  match name with
  | some (c :: cs) => pyIsUpperChar u c && !(c :: cs).contains '_' && (c :: cs) != pname
  | _ => false

/-- lines 237-263 -/
def alreadyExtracted (u : UInfo) (view : Reg) (pn : Str) (ps : Schema) : Bool :=
  refsEnum view ps.genName || refsEnum view ps.name || classLike u ps.name pn || refsEnum view ps.ty

/-- `IRSchema.__post_init__` on `name`. -/
def postInitName (n : Option Str) : Option Str := if truthy n then n.map sanClass else n

/-- lines 297-304: the schema registered for an extracted enum. -/
def enumEntry (u : UInfo) (en : Str) (ty : Option Str) (vals : Option (List Str)) : Schema :=
  { name := postInitName (some en), ty := ty, genName := some en, stem := some (sanModule u en),
    enumVals := vals }

/-- lines 281-287 -/
def enumBaseName (sname pn : Str) (ps : Schema) : Str :=
  match ps.genName with
  | some (c :: cs) => c :: cs
  | _ => sanClass sname ++ sanClass pn ++ sEnum

/-- lines 308-313 -/
def pointAt (u : UInfo) (ps : Schema) (en : Str) : Schema :=
  { ps with name := some en, ty := some en, genName := some en, stem := some (sanModule u en),
            enumVals := none }

/-- lines 270-276 -/
def reusePoint (ps : Schema) (t : Str) (e : Schema) : Schema :=
  { ps with name := some t, genName := if truthy e.genName then e.genName else some t, stem := e.stem,
            enumVals := none }

/-- One property (lines 209-313).  `view` = `schemas` as it is when the property is looked at,
    `newE` = `new_enums` so far. -/
def enumProp (u : UInfo) (view : Reg) (disc : List (Str × Str)) (sname : Str) (newE : Reg) (pn : Str)
    (ps : Schema) : Reg × Schema :=
  if disc.contains (sname, pn) then (newE, ps)
  else if hasInlineEnum ps && !alreadyExtracted u view pn ps then
    match lookupRef view ps.ty with
    | some (t, e) =>
      if truthy e.enumVals then (newE, reusePoint ps t e)
      else
        let en := freshT (regKeys view ++ regKeys newE) (enumBaseName sname pn ps)
        (newE ++ [(en, enumEntry u en ps.ty ps.enumVals)], pointAt u ps en)
    | none =>
      let en := freshT (regKeys view ++ regKeys newE) (enumBaseName sname pn ps)
      (newE ++ [(en, enumEntry u en ps.ty ps.enumVals)], pointAt u ps en)
  else (newE, ps)

def enumProps (u : UInfo) (view : Reg) (disc : List (Str × Str)) (sname : Str) :
    Reg → List (Str × Schema) → Reg × List (Str × Schema)
  | newE, [] => (newE, [])
  | newE, (pn, ps) :: rest =>
    let r1 := enumProp u view disc sname newE pn ps
    let r2 := enumProps u view disc sname r1.1 rest
    (r2.1, (pn, r1.2) :: r2.2)

/-- lines 195-206: a top-level enum schema gets `generation_name = name` when it has none. -/
def fixTop (s : Schema) : Schema :=
  if hasInlineEnum s && !truthy s.genName then { s with genName := s.name } else s

/-- The outer loop.  `pre` = the entries already visited (as they are now), so that
    `pre ++ (k, fixTop s) :: rest` is the dictionary the body sees. -/
def enumSchemas (u : UInfo) (disc : List (Str × Str)) : Reg → Reg → Reg → Reg × Reg
  | _, newE, [] => (newE, [])
  | pre, newE, (k, s) :: rest =>
    let s1 := fixTop s
    let r1 := enumProps u (pre ++ (k, s1) :: rest) disc k newE s1.props
    let s2 : Schema := { s1 with props := r1.2 }
    let r2 := enumSchemas u disc (pre ++ [(k, s2)]) r1.1 rest
    (r2.1, (k, s2) :: r2.2)

/-- `(new_enums, schemas after the in-place mutations)` for a registry that already went through the
    array pass. -/
def enumPass (u : UInfo) (disc : List (Str × Str)) (reg1 : Reg) : Reg × Reg :=
  enumSchemas u disc [] [] reg1

def extractEnums (u : UInfo) (reg : Reg) (disc : List (Str × Str)) : Reg :=
  let r := enumPass u disc (extractArrayItems u reg)
  dictUpdate r.2 r.1

/-- The two post-condition tests at the end of both functions (lines 145-148, 319-322):
    `false` = a `RuntimeError` is raised. -/
def postOk (orig out : Reg) : Bool :=
  decide (orig.length ≤ out.length) && (regKeys orig).all (fun k => (regKeys out).contains k)

/-- The functions with their post-condition checks: `none` = `RuntimeError`. -/
def extractArrayItemsChecked (u : UInfo) (reg : Reg) : Option Reg :=
  let out := extractArrayItems u reg
  if postOk reg out then some out else none

def extractEnumsChecked (u : UInfo) (reg : Reg) (disc : List (Str × Str)) : Option Reg :=
  match extractArrayItemsChecked u reg with
  | none => none
  | some _ =>
    let out := extractEnums u reg disc
    if postOk reg out then some out else none

/-! ### `ModelVisitor.visit_IRSchema`: which construct a schema becomes -/

inductive Kind
  | enum | alias | dataclass | dataWrapperDataclass | skipped
  deriving DecidableEq, Repr

/-- The detection flags of lines 82-109, as they are when line 112 is reached. -/
structure KindFlags where
  isEnum : Bool
  isAlias : Bool
  isDataclass : Bool
  wrapper : Bool          -- `schema.is_data_wrapper = True` was executed
  deriving DecidableEq, Repr

/-- line 100: `type == "array" and items and items.type == "object" and items.name is None` -/
def anonObjectItems (s : Schema) : Bool :=
  s.ty == some sArray &&
    (match s.items with
     | some it => it.ty == some sObject && it.name.isNone
     | none => false)

def kindFlags (s : Schema) : KindFlags :=
  let named := truthy s.name
  let isEnum := named && truthy s.enumVals && (s.ty == some sString || s.ty == some sInteger)
  let isUnion := named && (s.oneOf || s.anyOf)
  let isAlias0 := named && s.props.isEmpty && !isEnum && (s.ty != some sObject || isUnion)
  let override := anonObjectItems s && isAlias0
  let isAlias := if override then false else isAlias0
  { isEnum := isEnum, isAlias := isAlias, isDataclass := !isEnum && !isAlias, wrapper := override }

/-- line 85: `schema.name in self.discriminator_skip_list` -/
def nameInSkip (s : Schema) (skip : List Str) : Bool :=
  match s.name with
  | some n => skip.contains n
  | none => false

/-- `none` = the `RuntimeError` of line 134 ("Schema must have a name or generation_name"). -/
def modelKindE (s : Schema) (skip : List Str) : Option Kind :=
  let f := kindFlags s
  if f.isEnum && nameInSkip s skip then some .skipped
  else if !truthy s.name && (f.isAlias || f.isEnum || f.isDataclass) then some .skipped
  else if !truthy s.genName && !truthy s.name then none
  else if f.isAlias then some .alias
  else if f.isEnum then some .enum
  else if f.isDataclass then some (if f.wrapper then .dataWrapperDataclass else .dataclass)
  else some .skipped

/-- The construct (`modelKindE_isSome`: the error branch is unreachable, the default is never used). -/
def modelKind (s : Schema) (skip : List Str) : Kind := (modelKindE s skip).getD .skipped

end Pog.Extract
