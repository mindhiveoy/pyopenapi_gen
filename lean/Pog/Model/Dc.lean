import Pog.Model.Fresh
import Pog.Model.Sinks
import Pog.Model.Diff
/-
  M-dc — `DataclassGenerator.generate` (visit/model/dataclass_generator.py:392-553), `_is_arbitrary_json_object`
  (40-57), `_get_field_default` (334-390), the value-type decision of `_generate_json_wrapper_class` (91-102), and the
  part of `PythonConstructRenderer.render_dataclass` (core/writers/python_construct_renderer.py:228-340) that orders
  the fields and writes one line per field.

  Mirrored as the code IS:
    * three shapes + the empty class (`shape`): arbitrary-JSON wrapper / array wrapper with the single field `items` /
      object with properties / `pass`;
    * `sorted_props = sorted(schema.properties.items(), key=lambda item: (item[0] not in schema.required, item[0]))`
      (`sortProps`: stable insertion sort on the key `(bool, str)`; `str` compared by code point, `Pog.Diff.strLt`);
    * field identifier = `sanitize_method_name(prop)` (`field` ↦ `field_`: F5 repaired, `Pog.dcFieldBase`) + the `_2, _3, …` loop
      — REUSED: `Pog.fieldNames` (M-fresh);
    * `field_mappings[prop] = field`, `default_expr` only for non-required properties, the `(maps from '…')` doc suffix;
    * `_get_field_default` branch for branch, the enum-member rule `str(default).upper().replace("-","_").replace(" ","_")`
      (`enumDefaultMember`, which is literally the first line of `EnumGenerator._generate_member_name_for_string_enum`,
      `Pog.enumMemberStr`, WITHOUT the filter / `MEMBER_` prefix / keyword suffix / de-duplication that follow it there);
    * `str` defaults through `json.dumps` — REUSED: `Pog.renderDefaultStr` (M-sinks);
    * the renderer: `[f for f in fields if f[2] is None] + [f for f in fields if f[2] is not None]`, one line
      `name: type` / `name: type = default` (+ `  # comment`) per field — REUSED: `Pog.renderFieldLine` (M-sinks);
    * the ValueError pre-conditions (schema.name is None, empty base_name) and the post-condition
      `if "default_factory" in rendered_code: if "field" not in imports: raise RuntimeError` (lines 549-551), on a FRESH
      import collector (`RenderContext.set_current_file` resets it for every model file).

  Parameters (opaque text supplied by the harness / quantified over in the theorems):
    * `DcProp.pyType`  — what `type_service.resolve_schema_type(prop_schema, context, required=is_required)` returned;
    * `DcSchema.itemsFieldType`, `itemPyType` — the finalised `List[…]` annotation of an array wrapper and the item type;
    * `AddProps.schema pyType` — the resolved type of a schema-valued `additionalProperties`;
    * `DefaultVal.float text`, `DefaultVal.other text` — `str(default)` of a float / list / dict default (CPython's `repr`);
    * `DcProp.enumVals` — `some vals` iff `self.all_schemas` is non-empty, `ps.name` is truthy and
      `self.all_schemas.get(ps.name)` is a schema; `vals` = `[str(v) for v in (that schema).enum or []]`;
    * `DcSchema.docMentionsFactory` — whether the class DOCSTRING (built by `DocumentationWriter`, text wrapping, not
      modelled here) contains the text `default_factory`;
    * `UInfo` — CPython's `str.upper` on non-ASCII characters (M-names).
  The other post-conditions of `generate` (non-empty code, `@dataclass` present, `dataclass` imported) cannot fail:
  `render_dataclass` always writes the decorator and adds the import.
-/
namespace Pog.Dc
open Pog

/-! ## inputs -/

/-- `ps.default` by the `isinstance` tests of `_get_field_default` (`bool` before `int`). -/
inductive DefaultVal
  | str (s : Str)
  | bool (b : Bool)
  | int (i : Int)
  | float (text : Str)     -- `str(x)` of the float
  | other (text : Str)     -- list / dict …: `str(x)`
  deriving DecidableEq, Repr, Inhabited

/-- Python `str(i)` for an `int`. -/
def intStr : Int → Str
  | .ofNat n => natStr n
  | .negSucc n => '-' :: natStr (n + 1)

def sTrue : Str := "True".toList
def sFalse : Str := "False".toList
def sNone : Str := "None".toList

/-- `str(ps.default)`. -/
def DefaultVal.pyStr : DefaultVal → Str
  | .str s => s
  | .bool b => if b then sTrue else sFalse
  | .int i => intStr i
  | .float t => t
  | .other t => t

/-- One entry of `schema.properties` — exactly what `generate` and `_get_field_default` read of it. -/
structure DcProp where
  key : Str                          -- the property name (dict key)
  ty : Option Str := none            -- `ps.type`
  name : Option Str := none          -- `ps.name`
  anyOf : Bool := false              -- truthiness of `ps.any_of`
  oneOf : Bool := false
  allOf : Bool := false
  default : Option DefaultVal := none  -- `ps.default` (`None` = absent / JSON null)
  pyType : Str := []                 -- the type service's answer (opaque)
  enumVals : Option (List Str) := none -- see the header
  desc : Option Str := none          -- `ps.description`
  deriving Repr, Inhabited

/-- `schema.additional_properties`. -/
inductive AddProps
  | absent
  | bool (b : Bool)
  | schema (pyType : Str)
  deriving DecidableEq, Repr, Inhabited

structure DcSchema where
  name : Option Str := some []
  ty : Option Str := none
  props : List DcProp := []          -- dict order
  required : List Str := []
  hasItems : Bool := false           -- truthiness of `schema.items`
  itemsFieldType : Str := []         -- `TypeFinalizer(...).finalize("List[…]", schema, required=False)`
  itemPyType : Str := []             -- `list_item_py_type`
  desc : Option Str := none          -- `schema.description`
  addProps : AddProps := .absent
  docMentionsFactory : Bool := false
  deriving Repr, Inhabited

/-! ## outputs -/

/-- One tuple of `fields_data`: `(name, type_hint, default_expr, description)`.  `wire` is a GHOST component (not
    part of the python tuple): the property key the tuple was built from, `none` for the synthetic `items` field. -/
structure DcField where
  pyName : Str
  pyType : Str
  default : Option Str
  doc : Option Str
  wire : Option Str
  deriving DecidableEq, Repr, Inhabited

inductive Shape | wrapperJson | arrayWrapper | object | empty
  deriving DecidableEq, Repr, Inhabited

inductive DcErr
  | valueError            -- `schema.name is None` / `not base_name`
  | fieldImportMissing    -- RuntimeError "'field' import from dataclasses missing when default_factory is used."
  | loopDiverges          -- the `while field_name in seen_field_names` loop does not end (never: `Pog.DcProps.generate_never_diverges`)
  deriving DecidableEq, Repr, Inhabited

structure DcOut where
  shape : Shape
  fields : List DcField            -- `fields_data` as handed to `render_dataclass`
  mappings : List (Str × Str)      -- `field_mappings` in dict order (`[]` = `None` is passed)
  body : List DcField              -- the fields in the order the renderer writes them
  lines : List Str                 -- the statements of the class body after the docstring, before `class Meta`
  valueType : Option Str           -- JSON wrapper only: `some t` = typed wrapper (`dict[str, t]`), `none` = `Any`
  deriving Repr, Inhabited

/-! ## small helpers -/

def sArray : Str := "array".toList
def sObject : Str := "object".toList
def sItems : Str := "items".toList
def sAny : Str := "Any".toList
def factoryList : Str := "field(default_factory=list)".toList
def factoryDict : Str := "field(default_factory=dict)".toList
def factoryPat : Str := "default_factory".toList

/-- Python `sub in s`. -/
def hasSubstr (sub : Str) : Str → Bool
  | [] => sub.isEmpty
  | c :: cs => sub.isPrefixOf (c :: cs) || hasSubstr sub cs

/-- Truthiness of an optional `str`. -/
def truthyStr : Option Str → Bool
  | some (_ :: _) => true
  | _ => false

/-! ## the shape decision -/

/-- `_is_arbitrary_json_object`. -/
def isArbitraryJson (s : DcSchema) : Bool :=
  s.ty == some sObject && s.props.isEmpty &&
    (match s.addProps with
     | .bool true => true
     | .schema _ => true
     | _ => false)

def shape (s : DcSchema) : Shape :=
  if isArbitraryJson s then .wrapperJson
  else if s.ty == some sArray && s.hasItems then .arrayWrapper
  else if !s.props.isEmpty then .object
  else .empty

/-- `_generate_json_wrapper_class`: the value type of the wrapper (`none` = untyped `Any` wrapper). -/
def wrapperValueType (s : DcSchema) : Option Str :=
  match s.addProps with
  | .schema t => if !t.isEmpty && t != sAny && !hasSubstr sAny t then some t else none
  | _ => none

/-! ## `sorted_props` -/

/-- `a_key <= b_key` for the keys `(name not in required, name)` (tuple comparison: `False < True`, then `str`). -/
def keyLe (req : List Str) (a b : Str) : Bool :=
  let ka := !req.contains a
  let kb := !req.contains b
  if ka == kb then !(Diff.strLt b a) else (!ka && kb)

/-- Stable insertion: in front of the first element whose key is not smaller. -/
def insertProp (req : List Str) (p : DcProp) : List DcProp → List DcProp
  | [] => [p]
  | q :: qs => if keyLe req p.key q.key then p :: q :: qs else q :: insertProp req p qs

/-- `sorted(schema.properties.items(), key=lambda item: (item[0] not in schema.required, item[0]))`. -/
def sortProps (req : List Str) : List DcProp → List DcProp
  | [] => []
  | p :: ps => insertProp req p (sortProps req ps)

/-! ## `_get_field_default` -/

/-- `str(ps.default).upper().replace("-", "_").replace(" ", "_")`. -/
def enumDefaultMember (u : UInfo) (v : Str) : Str :=
  replaceChar ' ' ['_'] (replaceChar '-' ['_'] (u.upperS v))

/-- `ps.name and self.all_schemas` … `enum_schema and enum_schema.enum`. -/
def refersToEnum (p : DcProp) : Bool :=
  truthyStr p.name &&
    (match p.enumVals with
     | some (_ :: _) => true
     | _ => false)

/-- F53 repaired: the member is looked up BY VALUE - `f'{ps.name}("…")'` for a `str` default (the literal of the plain string
    branch), `f"{ps.name}({ps.default})"` otherwise.  (`enumDefaultMember` above is the rule the code used before; the theorems about
    it say why a name cannot be derived that way.) -/
def enumDefaultExpr (_u : UInfo) (p : DcProp) (d : DefaultVal) : Str :=
  match d with
  | .str s => p.name.getD [] ++ '(' :: renderDefaultStr s ++ [')']
  | d => p.name.getD [] ++ '(' :: d.pyStr ++ [')']

/-- The scalar branch (`isinstance` chain); a complex default logs a warning and falls through to `"None"`. -/
def scalarDefault : DefaultVal → Str
  | .str s => renderDefaultStr s
  | .bool b => if b then sTrue else sFalse
  | .int i => intStr i
  | .float t => t
  | .other _ => sNone

def fieldDefault (u : UInfo) (p : DcProp) : Str :=
  if p.ty == some sArray then factoryList
  else if p.ty == some sObject && p.name.isNone && !p.anyOf && !p.oneOf && !p.allOf then factoryDict
  else
    match p.default with
    | none => sNone
    | some d => if refersToEnum p then enumDefaultExpr u p d else scalarDefault d

/-! ## `fields_data` -/

/-- `field_doc`: the description, with the mapping note when the identifier differs from the property name. -/
def fieldDoc (p : DcProp) (fieldName : Str) : Option Str :=
  if p.key != fieldName then
    (if truthyStr p.desc then some (p.desc.getD [] ++ " (maps from '".toList ++ p.key ++ "')".toList)
     else some ("Maps from '".toList ++ p.key ++ "'".toList))
  else p.desc

def mkField (u : UInfo) (req : List Str) (p : DcProp) (fieldName : Str) : DcField :=
  { pyName := fieldName
    pyType := p.pyType
    default := if req.contains p.key then none else some (fieldDefault u p)
    doc := fieldDoc p fieldName
    wire := some p.key }

def zipFields (u : UInfo) (req : List Str) : List DcProp → List Str → List DcField
  | p :: ps, n :: ns => mkField u req p n :: zipFields u req ps ns
  | _, _ => []

/-- The `elif schema.properties:` branch: `none` = the collision loop does not terminate (never happens). -/
def objectFields (u : UInfo) (s : DcSchema) : Option (List DcField) :=
  let sorted := sortProps s.required s.props
  (fieldNames (sorted.map DcProp.key)).map (zipFields u s.required sorted)

/-- The `if schema.type == "array" and schema.items:` branch: the synthetic property is an `array`, so its default is
    always the list factory. -/
def arrayWrapperField (s : DcSchema) : DcField :=
  { pyName := sItems
    pyType := s.itemsFieldType
    default := some factoryList
    doc := if truthyStr s.desc then s.desc
           else if s.itemPyType != sAny then some ("A list of ".toList ++ s.itemPyType ++ " items.".toList)
           else some "A list of items.".toList
    wire := none }

/-- `fields_data` at the call of `render_dataclass`. -/
def fieldsData (u : UInfo) (s : DcSchema) : Option (List DcField) :=
  match shape s with
  | .wrapperJson => some []
  | .arrayWrapper => some [arrayWrapperField s]
  | .object => objectFields u s
  | .empty => some []

/-- `field_mappings` (dict order = emission order; keys are distinct property names). -/
def mappingsOf (fs : List DcField) : List (Str × Str) :=
  fs.filterMap (fun f => f.wire.map (fun k => (k, f.pyName)))

/-! ## the renderer -/

def hasDefault (f : DcField) : Bool := f.default.isSome

/-- `required_fields + optional_fields` of `render_dataclass`. -/
def renderOrder (fs : List DcField) : List DcField :=
  fs.filter (fun f => !hasDefault f) ++ fs.filter hasDefault

def fieldLine (f : DcField) : Str := renderFieldLine f.pyName f.pyType f.default (f.doc.getD [])

/-- The statements of the class body. -/
def bodyLines (fs : List DcField) : List Str :=
  if fs.isEmpty then ["# No properties defined in schema".toList, "pass".toList]
  else (renderOrder fs).map fieldLine

/-- The class body is a valid dataclass body: scanning top to bottom, once a field has a default every later one
    has one too (`seen` = a default has been seen). -/
def defaultsLast : Bool → List DcField → Bool
  | _, [] => true
  | seen, f :: fs => if hasDefault f then defaultsLast true fs else (!seen && defaultsLast false fs)

/-! ## the `default_factory` post-condition -/

def mentionsFactory (t : Str) : Bool := hasSubstr factoryPat t

/-- `"default_factory" in rendered_code`, over the text this model knows verbatim (class name twice, the field lines,
    the `Meta` entries) plus the docstring flag. -/
def textMentionsFactory (s : DcSchema) (baseName : Str) (fs : List DcField) : Bool :=
  s.docMentionsFactory || mentionsFactory baseName
    || fs.any (fun f => mentionsFactory (fieldLine f))
    || (mappingsOf fs).any (fun (k, n) => mentionsFactory k || mentionsFactory n)

/-- `"field" in context.import_collector.imports.get("dataclasses", set())` on a fresh collector: added by
    `_get_field_default` (array / plain object) and by the renderer (`"default_factory" in default_expr`);
    the first implies the second. -/
def fieldImported (fs : List DcField) : Bool :=
  fs.any (fun f => match f.default with
    | some d => mentionsFactory d
    | none => false)

/-! ## `generate` -/

def generate (u : UInfo) (s : DcSchema) (baseName : Str) : Except DcErr DcOut :=
  if s.name.isNone then .error .valueError
  else if baseName.isEmpty then .error .valueError
  else
    match shape s with
    | .wrapperJson =>
      .ok { shape := .wrapperJson, fields := [], mappings := [], body := [], lines := [],
            valueType := wrapperValueType s }
    | sh =>
      match fieldsData u s with
      | none => .error .loopDiverges
      | some fs =>
        if textMentionsFactory s baseName fs && !fieldImported fs then .error .fieldImportMissing
        else .ok { shape := sh, fields := fs, mappings := mappingsOf fs, body := renderOrder fs,
                   lines := bodyLines fs, valueType := none }

/-- The exception `generate` raised, if any. -/
def raised (r : Except DcErr DcOut) : Option DcErr :=
  match r with
  | .error e => some e
  | .ok _ => none

end Pog.Dc
