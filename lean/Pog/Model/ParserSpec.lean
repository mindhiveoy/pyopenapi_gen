import Pog.Model.Parser
/-
  Independent denotation for C02: what the DOCUMENT says the fields of a named schema are
  (`specFields`), and how the result of the parser model is read back (`modelFields`).

  The denotation does not look at the parser at all: own properties, plus the properties of every
  `allOf` part, transitively, `$ref`s followed through a visited set.  Where the document itself is
  ambiguous (the same key in several `allOf` parts) the first part wins and own properties override,
  which is also what `_process_all_of` does.
-/
namespace Pog.Prs
open Pog Pog.Trk

/-- the structural kind of a property, as far as C02 cares -/
inductive Kind
  | prim (ty : PrimTy)
  | ref (name : Str)
  | arr (item : Kind)
  | obj
  | union
  | unknown
  deriving DecidableEq, Repr, Inhabited

structure Field where
  key : Str
  required : Bool
  kind : Kind
  deriving DecidableEq, Repr

/-- the kind the document gives to a property node; schema names are compared class-cased
    (`sanitize_class_name`), the only form in which the IR carries them -/
def nodeKind : Node → Kind
  | .ref t => .ref (sanClass (lastSeg t))
  | .prim ty _ => .prim ty
  | .obj _ _ _ => .obj
  | .arr i => .arr (nodeKind i)
  | .allOf _ _ _ => .obj
  | .oneOf _ => .union
  | .anyOf _ => .union
  | .nullable n => nodeKind n

/-- first-wins merge of keyed lists -/
def mergeKeyed {β : Type} (a b : List (Str × β)) : List (Str × β) :=
  b.foldl (fun acc kv => if dHas kv.1 acc then acc else acc ++ [kv]) a

/-- declared properties (key ↦ kind) and required names of a node, `allOf` and `$ref` followed;
    `vis` = names already being expanded (cycles through `allOf` contribute nothing) -/
def shape (decls : Decls) : Nat → List Str → Node → List (Str × Kind) × List Str
  | 0, _, _ => ([], [])
  | f + 1, vis, node =>
    match node.core with
    | .ref t =>
      let n := lastSeg t
      if vis.contains n then ([], []) else
      match dGet n decls with
      | some nd => shape decls f (n :: vis) nd
      | none => ([], [])
    | .obj (some ps) req _ => (mergeKeyed [] (ps.map (fun kv => (kv.1, nodeKind kv.2))), req)
    | .obj none req _ => ([], req)
    | .allOf parts ps req =>
      let sub := parts.map (shape decls f vis)
      let inherited := sub.foldl (fun acc r => mergeKeyed acc r.1) []
      let own := mergeKeyed [] (ps.map (fun kv => (kv.1, nodeKind kv.2)))
      -- own properties override inherited ones (in place), new ones are appended
      let props := own.foldl (fun acc kv => dSet kv.1 kv.2 acc) inherited
      (props, sub.foldl (fun acc r => unionInto acc r.2) (dedup req))
    | _ => ([], [])

def Node.size : Node → Nat
  | .ref _ => 1
  | .prim _ _ => 1
  | .obj _ _ _ => 1
  | .arr _ => 1
  | .allOf parts _ _ => 1 + (parts.map Node.size).sum
  | .oneOf _ => 1
  | .anyOf _ => 1
  | .nullable n => 1 + n.size

/-- enough fuel for `shape`: every hop either enters an `allOf` part or follows a `$ref` to a name not
    yet visited -/
def specFuel (decls : Decls) : Nat := (decls.map (fun d => d.2.size + 1)).sum + 2

/-- `specFields`: the fields the document declares for the named schema `n`. -/
def specFields (decls : Decls) (n : Str) : List Field :=
  match dGet n decls with
  | none => []
  | some nd =>
    let r := shape decls (specFuel decls) [n] nd
    r.1.map (fun kv => ⟨kv.1, r.2.contains kv.1, kv.2⟩)

/-! ### reading the parser's result -/

/-- the declared name whose registered model IS this object (identity) -/
def declNameOf (decls : Decls) (s : PSt) (id : Nat) : Option Str :=
  (decls.map (·.1)).find? (fun n => s.lookup n == some id)

/-- the kind a property object stands for: placeholders stand for the schema they name, the model
    object of a declared schema is a reference to it, reference holders are looked through, anything
    else is read structurally -/
def irKind (decls : Decls) (s : PSt) : Nat → Nat → Kind
  | 0, _ => .unknown
  | f + 1, id =>
    let o := s.get id
    if o.kind != .full then (match o.name with | some nm => .ref nm | none => .unknown) else
    match declNameOf decls s id with
    | some n => .ref (sanClass n)
    | none =>
      match o.refersTo with
      | some t => irKind decls s f t
      | none =>
        match o.type with
        | none => if o.anyOf.isSome || o.oneOf.isSome then .union else .unknown
        | some t =>
          if t == sArray then .arr (match o.items with | some i => irKind decls s f i | none => .unknown)
          else if t == sObject then .obj
          else if t == PrimTy.string.str then .prim .string
          else if t == PrimTy.integer.str then .prim .integer
          else if t == PrimTy.number.str then .prim .number
          else if t == PrimTy.boolean.str then .prim .boolean
          else .ref t

/-- `none`: the name has no model at all; otherwise one field per property of the model -/
def modelFields (decls : Decls) (s : PSt) (n : Str) : Option (List Field) :=
  match s.lookup n with
  | none => none
  | some id =>
    let o := s.get id
    some (o.props.map (fun kv => ⟨kv.1, o.required.contains kv.1, irKind decls s 6 kv.2⟩))

/-- C02 for one declared name: a model exists, is a full schema, and has exactly the declared fields
    (as a set: same keys, each with the same required flag and kind). -/
def Faithful (decls : Decls) (s : PSt) (n : Str) : Prop :=
  ∃ fs, modelFields decls s n = some fs ∧
    (∀ id, s.lookup n = some id → (s.get id).kind = .full) ∧
    (∀ f, f ∈ fs ↔ f ∈ specFields decls n)

instance (decls : Decls) (s : PSt) (n : Str) : Decidable (Faithful decls s n) :=
  match h : modelFields decls s n with
  | none => isFalse (by rintro ⟨fs, h1, _⟩; rw [h] at h1; cases h1)
  | some fs =>
    if h2 : (∀ id, s.lookup n = some id → (s.get id).kind = .full) ∧
        (∀ f ∈ fs, f ∈ specFields decls n) ∧ (∀ f ∈ specFields decls n, f ∈ fs) then
      isTrue ⟨fs, h, h2.1, fun f => ⟨h2.2.1 f, h2.2.2 f⟩⟩
    else
      isFalse (by
        rintro ⟨fs', h1, h3, h4⟩
        rw [h] at h1
        cases h1
        exact h2 ⟨h3, fun f hf => (h4 f).mp hf, fun f hf => (h4 f).mpr hf⟩)

end Pog.Prs
