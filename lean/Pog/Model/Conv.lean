import Pog.Model.Json
/-
  M-conv — the bundled (de)serialiser: `core/cattrs_converter.py` (`structure_from_dict`,
  `unstructure_to_dict`, `_structure_union`, the dataclass hook factories with the `Meta` rename maps,
  the recursive hook registration, `_extract_errors`) and `DataclassSerializer` (`core/utils.py:358-520`).

  Python                                         model
  ---------------------------------------------  ------------------------------------------------------
  a type annotation                              `Ty`  (`Optional[T]` = `Union[T, None]` = `.optional T`;
                                                 `Annotated[Union[…], disc]` = `.union args (some disc)`;
                                                 a quoted forward reference inside a generic, which cattrs
                                                 does NOT resolve, = `.fwd name`)
  the dataclasses that exist                     `Decls` (class name ↦ fields + the two `Meta` maps)
  a Python value                                 `Val`
  `converter.structure(data, T)`                 `structF fuel decls T data`   (`fuel` bounds the nesting depth;
                                                 `.error (.leaf .fuel)` is not a Python outcome)
  the exception raised                           `SErr` (tree: leaf | ClassValidationError | IterableValidationError)
  `_extract_errors`                              `extractErrors`
  `structure_from_dict`                          `structureFromDict`  (every failure is a `ValueError`: `TopErr`)
  `converter.unstructure(v, unstructure_as=T)`   `unstrF fuel reg decls (some T) v`
  `converter.unstructure(v)` (runtime class)     `unstrF fuel reg decls none v`
  the global converter's registered dataclass
  unstructure hooks                              `reg : List Str`
  `unstructure_to_dict`                          `unstructureToDict`
  `_register_*_hooks_recursively`                `regTy`

  Leaf codecs (base64, ISO-8601 date-time / date / time, UUID) are a parameter `Codecs`; theorems quantify over every lawful one, the
  driver uses `Codecs.exec`, which accepts only canonical spellings (see there).

  TRUSTED — behaviour of cattrs 26.2 described here as executable code and validated by vf/corr/conv.py:
    * `str`/`int`/`float`/`bool` are structured by CALLING the type (`str(5) == "5"`, `int("7") == 7`, `bool("false")`);
      `Any` is the identity; enums are structured by `E(value)`;
    * `list[T]` iterates whatever it is given (a `str` yields its characters, a `dict` its keys); `dict[str, T]` needs
      `.items()`; element errors are collected into an `IterableValidationError`;
    * a dataclass is structured field by field in declaration order by generated code (`o['k']` inside `try`, the
      presence test `'k' in o` of defaulted fields OUTSIDE it), unknown keys are ignored, the errors are collected into a
      `ClassValidationError`; a field type without a structure hook makes the generation itself fail;
    * unstructuring is driven by the DECLARED field type, except `Any` and unions (other than `Optional`) which use
      the runtime class; a type without unstructure hook is passed through unchanged (identity fallback);
    * hooks registered later win; the union predicate of this module therefore also captures `Optional[T]`.
-/
namespace Pog

/-! ## types, declarations, values -/

inductive Leaf
  | str | int | float | bool | bytes | datetime | date | uuid | time
  deriving DecidableEq, Repr, Inhabited

/-- Discriminator metadata of `Annotated[Union[…], M]`: `M.property_name`, `M.get_mapping()`
    (`none` = returns `None`; the mapping sends a discriminator value to a dataclass). -/
structure Disc where
  prop : Str
  mapping : Option (List (Str × Str))
  deriving Repr, Inhabited

inductive Ty where
  | leaf (l : Leaf)
  | any
  | none                                   -- `type(None)`, only meaningful as a union member
  | list (t : Ty)
  | dict (t : Ty)                          -- `dict[str, T]`
  | optional (t : Ty)                      -- `Union[T, None]`
  | dc (name : Str)
  | fwd (name : Str)                       -- `ForwardRef(name)` left unresolved by cattrs
  | enum (name : Str) (members : List JsonV)
  | union (args : List Ty) (disc : Option Disc)
  deriving Repr, Inhabited

inductive Dflt
  | required | none | list | dict
  deriving DecidableEq, Repr, Inhabited

structure Field where
  pyName : Str
  ty : Ty
  dflt : Dflt
  deriving Repr, Inhabited

/-- One dataclass: its fields in declaration order and `Meta.key_transform_with_load/dump`
    (`none` = the attribute does not exist). -/
structure ClassDecl where
  fields : List Field
  loadMap : Option (List (Str × Str))      -- json key ↦ python field
  dumpMap : Option (List (Str × Str))      -- python field ↦ json key
  deriving Repr, Inhabited

abbrev Decls := List (Str × ClassDecl)

/-- `_make_dataclass_structure_fn`: the first json key of the load map whose value is the field, else the
    field name itself. -/
def loadKeyIn : List (Str × Str) → Str → Option Str
  | [], _ => none
  | (jk, pf) :: rest, py => if pf = py then some jk else loadKeyIn rest py

def loadKey (cd : ClassDecl) (f : Field) : Str :=
  match cd.loadMap with
  | some m => (loadKeyIn m f.pyName).getD f.pyName
  | none => f.pyName

/-- `_make_dataclass_unstructure_fn`: `mappings.get(python_name, python_name)`. -/
def dumpKey (cd : ClassDecl) (f : Field) : Str :=
  match cd.dumpMap with
  | some m => (aget m f.pyName).getD f.pyName
  | none => f.pyName

inductive Val where
  | none
  | bool (b : Bool)
  | int (n : Int)
  | str (s : Str)
  | bytes (v : Str)
  | datetime (v : Str)
  | date (v : Str)
  | time (v : Str)                          -- `datetime.time`
  | uuid (v : Str)                          -- `uuid.UUID`
  | enum (cls : Str) (v : JsonV)            -- a member of a `str`/`int`-mixin enum
  | opaque (kind : Str) (v : Str)          -- any other object json cannot serialise (a non-integral float, …)
  | list (xs : List Val)
  | dict (kvs : List (Str × Val))
  | inst (cls : Str) (fields : List (Str × Val))
  deriving Repr, Inhabited

mutual
/-- JSON-shaped data seen as a Python value. -/
def Val.ofJson : JsonV → Val
  | .null => .none
  | .bool b => .bool b
  | .int n => .int n
  | .str s => .str s
  | .arr xs => .list (Val.ofJsons xs)
  | .obj kvs => .dict (Val.ofJsonKvs kvs)
def Val.ofJsons : List JsonV → List Val
  | [] => []
  | x :: xs => Val.ofJson x :: Val.ofJsons xs
def Val.ofJsonKvs : List (Str × JsonV) → List (Str × Val)
  | [] => []
  | (k, v) :: rest => (k, Val.ofJson v) :: Val.ofJsonKvs rest
end

mutual
/-- The JSON a value IS when handed to `json.dumps` unchanged; `none` = not serialisable. -/
def Val.toJson? : Val → Option JsonV
  | .none => some .null
  | .bool b => some (.bool b)
  | .int n => some (.int n)
  | .str s => some (.str s)
  | .enum _ v => some v
  | .list xs => (Val.toJsons? xs).map JsonV.arr
  | .dict kvs => (Val.toJsonKvs? kvs).map JsonV.obj
  | _ => Option.none
def Val.toJsons? : List Val → Option (List JsonV)
  | [] => some []
  | x :: xs =>
    match Val.toJson? x, Val.toJsons? xs with
    | some j, some js => some (j :: js)
    | _, _ => Option.none
def Val.toJsonKvs? : List (Str × Val) → Option (List (Str × JsonV))
  | [] => some []
  | (k, v) :: rest =>
    match Val.toJson? v, Val.toJsonKvs? rest with
    | some j, some js => some ((k, j) :: js)
    | _, _ => Option.none
end

/-! ## leaf codecs -/

/-- A wire codec for one leaf type: `decode` = the structure hook on a `str` (`none` = it raises),
    `encode` = the unstructure hook.  Values are kept in an abstract normal form `Str`. -/
structure LeafCodec where
  decode : Str → Option Str
  encode : Str → Str

structure Codecs where
  bytes : LeafCodec
  datetime : LeafCodec
  date : LeafCodec
  time : LeafCodec
  uuid : LeafCodec

/-- Every value that can be decoded at all is recovered from its own encoding. -/
def LeafCodec.Lawful (c : LeafCodec) : Prop :=
  ∀ s v, c.decode s = some v → c.decode (c.encode v) = some v

def Codecs.Lawful (c : Codecs) : Prop :=
  c.bytes.Lawful ∧ c.datetime.Lawful ∧ c.date.Lawful ∧ c.time.Lawful ∧ c.uuid.Lawful

/-- The values of a leaf type. -/
def LeafCodec.Valid (c : LeafCodec) (v : Str) : Prop := ∃ s, c.decode s = some v

/-! ### the executable instance used by the driver

  Values are kept as their canonical wire spelling, `encode` is the identity and `decode` accepts
    * bytes    : ASCII text whose alphabet characters form canonical base64 (length ≡ 0 mod 4, zero trailing bits,
                 padding only at the end; other characters are skipped as `b64decode` does) — `b64decode` is laxer;
    * datetime : `YYYY-MM-DDTHH:MM:SS` with an optional `Z` or `±HH:MM` (not `-00:00`), `Z` ↦ `+00:00`; a bare
                 `YYYY-MM-DD` is midnight;
    * date     : `YYYY-MM-DD`;
    * time     : `HH:MM:SS` with an optional `Z` or `±HH:MM` (not `-00:00`), `Z` ↦ `+00:00` (`time.fromisoformat` of
                 Python ≥ 3.11 reads a trailing `Z` as UTC; `isoformat()` writes `+00:00`);
    * uuid     : the canonical spelling `str(UUID)` writes: 8-4-4-4-12 lower-case hexadecimal digits — `UUID(s)` is laxer
                 (upper case, braces, `urn:uuid:`, no hyphens).
  vf/corr/conv.py draws leaf strings from these languages and from strings CPython rejects as well. -/

def b64Index (c : Char) : Option Nat :=
  if isUpperA c then some (c.toNat - 65)
  else if isLowerA c then some (c.toNat - 97 + 26)
  else if isDigitA c then some (c.toNat - 48 + 52)
  else if c == '+' then some 62
  else if c == '/' then some 63
  else none

def b64LastQuad (a b c d : Char) : Bool :=
  match b64Index a, b64Index b with
  | some _, some ib =>
    if c == '=' then d == '=' && ib % 16 == 0
    else match b64Index c with
      | some ic => if d == '=' then ic % 4 == 0 else (b64Index d).isSome
      | none => false
  | _, _ => false

def b64Canonical : Str → Bool
  | [] => true
  | [a, b, c, d] => b64LastQuad a b c d
  | a :: b :: c :: d :: rest =>
    (b64Index a).isSome && (b64Index b).isSome && (b64Index c).isSome && (b64Index d).isSome && b64Canonical rest
  | _ => false

/-- `binascii.a2b_base64` (non-strict) skips every character outside the alphabet. -/
def b64Filter (s : Str) : Str := s.filter (fun c => (b64Index c).isSome || c == '=')

def twoDigits (a b : Char) : Option Nat :=
  if isDigitA a && isDigitA b then some ((a.toNat - 48) * 10 + (b.toNat - 48)) else none

def daysInMonth (y m : Nat) : Nat :=
  if m == 2 then (if (y % 4 == 0 && y % 100 != 0) || y % 400 == 0 then 29 else 28)
  else if m == 4 || m == 6 || m == 9 || m == 11 then 30 else 31

def isoDateValid : Str → Bool
  | [y1, y2, y3, y4, '-', m1, m2, '-', d1, d2] =>
    match twoDigits y1 y2, twoDigits y3 y4, twoDigits m1 m2, twoDigits d1 d2 with
    | some yh, some yl, some m, some d =>
      let y := yh * 100 + yl
      1 ≤ y && 1 ≤ m && m ≤ 12 && 1 ≤ d && d ≤ daysInMonth y m
    | _, _, _, _ => false
  | _ => false

def isoClockValid : Str → Bool
  | [h1, h2, ':', m1, m2, ':', s1, s2] =>
    match twoDigits h1 h2, twoDigits m1 m2, twoDigits s1 s2 with
    | some h, some m, some s => h ≤ 23 && m ≤ 59 && s ≤ 59
    | _, _, _ => false
  | _ => false

def isoOffsetValid : Str → Bool
  | [] => true
  | [sg, h1, h2, ':', m1, m2] =>
    match twoDigits h1 h2, twoDigits m1 m2 with
    | some h, some m => (sg == '+' || (sg == '-' && (h != 0 || m != 0))) && h ≤ 23 && m ≤ 59
    | _, _ => false
  | _ => false

def isoDateTimeValid (s : Str) : Bool :=
  isoDateValid (s.take 10) && ((s.drop 10).head? == some 'T') &&
    isoClockValid ((s.drop 11).take 8) && isoOffsetValid (s.drop 19)

def isoTimeValid (s : Str) : Bool := isoClockValid (s.take 8) && isoOffsetValid (s.drop 8)

def isLowerHex (c : Char) : Bool := isDigitA c || (97 ≤ c.toNat && c.toNat ≤ 102)

/-- `n` lower-case hexadecimal digits, then `rest`. -/
def hexRun : Nat → Str → Option Str
  | 0, s => some s
  | _ + 1, [] => none
  | n + 1, c :: cs => if isLowerHex c then hexRun n cs else none

/-- `n` lower-case hexadecimal digits, a hyphen, then `rest`. -/
def hexGroup (n : Nat) (s : Str) : Option Str :=
  match hexRun n s with
  | some ('-' :: rest) => some rest
  | _ => none

def uuidCanonical (s : Str) : Bool :=
  match hexGroup 8 s with
  | none => false
  | some s1 =>
    match hexGroup 4 s1 with
    | none => false
    | some s2 =>
      match hexGroup 4 s2 with
      | none => false
      | some s3 =>
        match hexGroup 4 s3 with
        | none => false
        | some s4 => hexRun 12 s4 == some []

/-- `data.replace("Z", "+00:00")` -/
def replaceZ (s : Str) : Str := s.flatMap (fun c => if c == 'Z' then "+00:00".toList else [c])

def Codecs.exec : Codecs :=
  { bytes := { decode := fun s => if s.all isAscii && b64Canonical (b64Filter s) then some (b64Filter s) else none,
               encode := id }
    datetime := { decode := fun s =>
                    if isoDateValid (replaceZ s) then some (replaceZ s ++ "T00:00:00".toList)
                    else if isoDateTimeValid (replaceZ s) then some (replaceZ s) else none,
                  encode := id }
    date := { decode := fun s => if isoDateValid s then some s else none, encode := id }
    time := { decode := fun s => if isoTimeValid (replaceZ s) then some (replaceZ s) else none, encode := id }
    uuid := { decode := fun s => if uuidCanonical s then some s else none, encode := id } }

/-! ## which leaves have hooks

  FACT ABOUT THE SOURCE (`converter.register_structure_hook(T, …)` / `register_unstructure_hook(T, …)` calls in
  core/cattrs_converter.py): (leaf, has structure hook, has unstructure hook). -/
def leafSupported : List (Leaf × Bool × Bool) :=
  [(.bytes, true, true), (.datetime, true, true), (.date, true, true), (.time, true, true), (.uuid, true, true)]

/-- Leaves cattrs itself structures (by calling the type) and unstructures (identity).  TRUSTED. -/
def cattrsBuiltinLeaves : List Leaf := [.str, .int, .float, .bool]

def leafCanStructure (l : Leaf) : Bool :=
  cattrsBuiltinLeaves.contains l || leafSupported.any (fun e => e.1 == l && e.2.1)

def leafHasUnstructureHook (l : Leaf) : Bool :=
  leafSupported.any (fun e => e.1 == l && e.2.2)

/-! ## structuring -/

inductive EKind
  | keyError (k : Str)          -- `o['k']` on a dict without the key; the message is `repr(k)`
  | badIndex                    -- `o['k']` on a non-dict: TypeError
  | notContainer                -- `'k' in o` on None/bool/int: TypeError
  | noneForClass (cls : Str)    -- the dataclass hook's own TypeError for `None`
  | numLiteral                  -- `int('x')`: ValueError
  | numArg                      -- `int(None)`, `int([])`: TypeError
  | notIterable                 -- list from None/bool/int
  | noItems                     -- dict[str, T] from a non-dict: AttributeError
  | b64                         -- binascii.Error
  | isoformat                   -- ValueError of `fromisoformat`
  | notTemporal                 -- `Cannot convert <type> to datetime/date/time/UUID`
  | uuidForm                    -- ValueError of `UUID(s)`: badly formed hexadecimal UUID string
  | enumInvalid                 -- `x is not a valid E`
  | unsupported                 -- StructureHandlerNotFoundError
  | unionNone                   -- `None is not valid for …`
  | unionNoVariant              -- `Could not structure dict into any variant of …`
  | unionCannot                 -- `Cannot structure … into …`
  | discUnknown                 -- `Unknown discriminator value …`
  | discFailed (variant : Str)  -- `Failed to deserialize as V (discriminator …)`
  | unhashable                  -- `discriminator_value in mapping` on a list/dict
  | unknownClass                -- model only: a class name without declaration
  | fuel                        -- model only
  deriving DecidableEq, Repr, Inhabited

inductive SErr where
  | leaf (k : EKind)
  | cls (name : Str) (subs : List (Str × SErr))    -- ClassValidationError: (attribute, sub-exception)
  | iter (subs : List SErr)                          -- IterableValidationError
  deriving Repr, Inhabited

mutual
/-- `_extract_errors(e, path)`: one `(path, leaf)` per leaf exception, depth first. -/
def extractErrors : SErr → Str → List (Str × EKind)
  | .leaf k, p => [(p, k)]
  | .cls _ subs, p => extractCls subs p
  | .iter subs, p => extractIter subs (p ++ "[]".toList)
def extractCls : List (Str × SErr) → Str → List (Str × EKind)
  | [], _ => []
  | (f, e) :: rest, p =>
    extractErrors e (if p.isEmpty then f else p ++ '.' :: f) ++ extractCls rest p
def extractIter : List SErr → Str → List (Str × EKind)
  | [], _ => []
  | e :: rest, p => extractErrors e p ++ extractIter rest p
end

/-- Does `converter.get_structure_hook(T)` succeed (it is evaluated when the enclosing dataclass /
    list / dict structure function is GENERATED, before any data is looked at). -/
def resolvable : Ty → Bool
  | .leaf l => leafCanStructure l
  | .any => true
  | .none => false
  | .list t => resolvable t
  | .dict t => resolvable t
  | .optional _ => true
  | .dc _ => true
  | .fwd _ => false
  | .enum _ _ => true
  | .union _ _ => true

def pyInt (j : JsonV) : Except SErr Val :=
  match j with
  | .bool b => .ok (.int (if b then 1 else 0))
  | .int n => .ok (.int n)
  | .str s =>
    match pyIntOfStr s with
    | some n => .ok (.int n)
    | none => .error (.leaf .numLiteral)
  | _ => .error (.leaf .numArg)

def structLeaf (c : Codecs) (l : Leaf) (j : JsonV) : Except SErr Val :=
  match l with
  | .str => .ok (.str (pyStr j))
  | .int => pyInt j
  | .float => pyInt j
  | .bool => .ok (.bool (pyTruthy j))
  | .bytes =>
    match j with
    | .str s =>
      match c.bytes.decode s with
      | some v => .ok (.bytes v)
      | none => .error (.leaf .b64)
    | _ => .ok (Val.ofJson j)                    -- `return data`
  | .datetime =>
    match j with
    | .str s =>
      match c.datetime.decode s with
      | some v => .ok (.datetime v)
      | none => .error (.leaf .isoformat)
    | _ => .error (.leaf .notTemporal)
  | .date =>
    match j with
    | .str s =>
      match c.date.decode s with
      | some v => .ok (.date v)
      | none => .error (.leaf .isoformat)
    | _ => .error (.leaf .notTemporal)
  | .time =>
    match j with
    | .str s =>
      match c.time.decode s with
      | some v => .ok (.time v)
      | none => .error (.leaf .isoformat)
    | _ => .error (.leaf .notTemporal)
  | .uuid =>
    match j with
    | .str s =>
      match c.uuid.decode s with
      | some v => .ok (.uuid v)
      | none => .error (.leaf .uuidForm)
    | _ => .error (.leaf .notTemporal)

/-- Structure the items one after the other, collecting values and errors (detailed validation). -/
def structItems (rec : JsonV → Except SErr Val) : List JsonV → List Val × List SErr
  | [] => ([], [])
  | x :: xs =>
    let r := structItems rec xs
    match rec x with
    | .ok v => (v :: r.1, r.2)
    | .error e => (r.1, e :: r.2)

def structList (rec : JsonV → Except SErr Val) (j : JsonV) : Except SErr Val :=
  let items : Option (List JsonV) :=
    match j with
    | .arr xs => some xs
    | .str s => some (s.map (fun ch => JsonV.str [ch]))
    | .obj kvs => some (kvs.map (fun kv => JsonV.str kv.1))
    | _ => none
  match items with
  | none => .error (.leaf .notIterable)
  | some xs =>
    let r := structItems rec xs
    if r.2.isEmpty then .ok (.list r.1) else .error (.iter r.2)

def structDictItems (rec : JsonV → Except SErr Val) : List (Str × JsonV) → List (Str × Val) × List SErr
  | [] => ([], [])
  | (k, x) :: xs =>
    let r := structDictItems rec xs
    match rec x with
    | .ok v => ((k, v) :: r.1, r.2)
    | .error e => (r.1, e :: r.2)

def structDict (rec : JsonV → Except SErr Val) (j : JsonV) : Except SErr Val :=
  match j with
  | .obj kvs =>
    let r := structDictItems rec kvs
    if r.2.isEmpty then .ok (.dict (aofPairs r.1)) else .error (.iter r.2)
  | _ => .error (.leaf .noItems)

def fieldDefault : Dflt → Val
  | .required => .none     -- never used
  | .none => .none
  | .list => .list []
  | .dict => .dict []

/-- The generated `structure_<Class>` body: fields in order; `none` = the presence test of a defaulted
    field raised `TypeError` (the whole call aborts with that plain exception). -/
def structFields (rec : Ty → JsonV → Except SErr Val) (cd : ClassDecl) (o : JsonV) :
    List Field → Option (List (Str × Val) × List (Str × SErr))
  | [] => some ([], [])
  | f :: fs =>
    let key := loadKey cd f
    let present : Option Bool :=
      match f.dflt with
      | .required => some true
      | _ => pyContains o key
    match present with
    | none => none
    | some false =>
      match structFields rec cd o fs with
      | none => none
      | some r => some ((f.pyName, fieldDefault f.dflt) :: r.1, r.2)
    | some true =>
      let res : Except SErr Val :=
        match pyGetItem o key with
        | none => .error (.leaf .badIndex)
        | some none => .error (.leaf (.keyError key))
        | some (some x) => rec f.ty x
      match structFields rec cd o fs with
      | none => none
      | some r =>
        match res with
        | .ok v => some ((f.pyName, v) :: r.1, r.2)
        | .error e => some (r.1, (f.pyName, e) :: r.2)

/-- The registered dataclass hook: `None` check, then generate (`get_structure_hook` of every field type),
    then run the generated function. -/
def structClass (rec : Ty → JsonV → Except SErr Val) (decls : Decls) (name : Str) (j : JsonV) : Except SErr Val :=
  match aget decls name with
  | none => .error (.leaf .unknownClass)
  | some cd =>
    match j with
    | .null => .error (.leaf (.noneForClass name))
    | _ =>
      if !(cd.fields.all (fun f => resolvable f.ty)) then .error (.leaf .unsupported) else
      match structFields rec cd j cd.fields with
      | none => .error (.leaf .notContainer)
      | some (vals, errs) =>
        if errs.isEmpty then .ok (.inst name vals) else .error (.cls name errs)

/-- First success over the variants, in order. -/
def firstOk (rec : Ty → JsonV → Except SErr Val) (j : JsonV) : List Ty → Option Val
  | [] => none
  | t :: ts =>
    match rec t j with
    | .ok v => some v
    | .error _ => firstOk rec j ts

def isDcTy : Ty → Bool
  | .dc _ => true
  | _ => false

def isDictAny : Ty → Bool
  | .dict .any => true
  | _ => false

def isNoneTy : Ty → Bool
  | .none => true
  | _ => false

/-- `other_variants`: everything that is neither `NoneType`, a dataclass, nor `dict[str, Any]`. -/
def isOtherVariant (t : Ty) : Bool := !(isNoneTy t || isDcTy t || isDictAny t)

def isObj : JsonV → Bool
  | .obj _ => true
  | _ => false

/-- `_structure_union(data, union_type)` — branch for branch. -/
def structUnion (rec : Ty → JsonV → Except SErr Val) (args : List Ty) (disc : Option Disc) (j : JsonV) :
    Except SErr Val :=
  -- `if data is None`
  match j with
  | .null => if args.any isNoneTy then .ok .none else .error (.leaf .unionNone)
  | _ =>
  -- discriminator metadata
  let viaDisc : Option (Except SErr Val) :=
    match disc, j with
    | some d, .obj kvs =>
      match aget kvs d.prop with
      | none => none                                      -- property absent: fall through
      | some dv =>
        match d.mapping with
        | none => none                                    -- `get_mapping()` is None: fall through
        | some [] => none                                 -- empty mapping is falsy: fall through
        | some m =>
          match dv with
          | .arr _ => some (.error (.leaf .unhashable))   -- `dv in mapping` hashes `dv`
          | .obj _ => some (.error (.leaf .unhashable))
          | .str s =>
            match aget m s with
            | some variant =>
              match rec (.dc variant) j with
              | .ok v => some (.ok v)
              | .error _ => some (.error (.leaf (.discFailed variant)))
            | none => some (.error (.leaf .discUnknown))
          | _ => some (.error (.leaf .discUnknown))       -- None / bool / int are never keys of a str-keyed mapping
    | _, _ => none
  match viaDisc with
  | some r => r
  | none =>
  let dcs := args.filter isDcTy
  let fallback := args.any isDictAny
  let others := args.filter isOtherVariant
  -- `if isinstance(data, dict)`
  let viaDict : Option (Except SErr Val) :=
    if isObj j then
      match firstOk rec j dcs with
      | some v => some (.ok v)
      | none =>
        if fallback then some (.ok (Val.ofJson j))
        else if !dcs.isEmpty then some (.error (.leaf .unionNoVariant))
        else none
    else none
  match viaDict with
  | some r => r
  | none =>
  match firstOk rec j others with
  | some v => .ok v
  | none =>
    if fallback && isObj j then .ok (Val.ofJson j) else .error (.leaf .unionCannot)

def enumLookup (members : List JsonV) (j : JsonV) : Option JsonV :=
  members.find? (fun m => pyEqScalar m j)

/-- `converter.structure(data, T)` after all hooks are registered. -/
def structF (c : Codecs) : Nat → Decls → Ty → JsonV → Except SErr Val
  | 0, _, _, _ => .error (.leaf .fuel)
  | n + 1, decls, t, j =>
    if !resolvable t then .error (.leaf .unsupported) else
    match t with
    | .leaf l => structLeaf c l j
    | .any => .ok (Val.ofJson j)
    | .none => .error (.leaf .unsupported)
    | .fwd _ => .error (.leaf .unsupported)
    | .list t' => structList (structF c n decls t') j
    | .dict t' => structDict (structF c n decls t') j
    | .optional t' => structUnion (structF c n decls) [t', .none] none j
    | .union args disc => structUnion (structF c n decls) args disc j
    | .dc name => structClass (structF c n decls) decls name j
    | .enum name members =>
      match enumLookup members j with
      | some m => .ok (.enum name m)
      | none => .error (.leaf .enumInvalid)

/-- What the caller of `structure_from_dict` sees: always a `ValueError`; `grouped` = the message is the
    bulleted list of `_extract_errors` (`path: message` per leaf), otherwise the single leaf message. -/
structure TopErr where
  grouped : Bool
  msgs : List (Str × EKind)
  deriving Repr, Inhabited, DecidableEq

def topErr : SErr → TopErr
  | .leaf k => ⟨false, [([], k)]⟩
  | e => ⟨true, extractErrors e []⟩

def structureFromDict (c : Codecs) (fuel : Nat) (decls : Decls) (t : Ty) (j : JsonV) : Except TopErr Val :=
  match structF c fuel decls t j with
  | .ok v => .ok v
  | .error e => .error (topErr e)

/-! ## unstructuring -/

inductive UErr
  | typeError      -- `base64.b64encode` on a non-bytes object
  | attrError      -- `.isoformat()` / attribute access on a wrong object (e.g. `None` where a dataclass is declared)
  | notJson        -- no exception: the RESULT contains an object `json.dumps` rejects (an arbitrary object, a live instance);
                   -- reported as soon as such an object enters the result (a later entry under a DUPLICATED wire key
                   -- overwriting it is not modelled)
  | illTyped       -- model only: value/type combination `structure` never produces
  | fuel           -- model only
  deriving DecidableEq, Repr, Inhabited

def identityJson (v : Val) : Except UErr JsonV :=
  match v.toJson? with
  | some j => .ok j
  | none => .error .notJson

/-- `data.isoformat()` — the body of the `datetime`, `date` and `time` unstructure hooks: any of the three kinds of
    object has the method, everything else raises `AttributeError`. -/
def unstrIso (c : Codecs) (v : Val) : Except UErr JsonV :=
  match v with
  | .datetime d => .ok (.str (c.datetime.encode d))
  | .date d => .ok (.str (c.date.encode d))
  | .time t => .ok (.str (c.time.encode t))
  | _ => .error .attrError

/-- The registered unstructure hook of a leaf type (`str(data)` for `UUID`); no hook = identity. -/
def unstrLeaf (c : Codecs) (l : Leaf) (v : Val) : Except UErr JsonV :=
  if !leafHasUnstructureHook l then identityJson v else
  match l with
  | .bytes =>
    match v with
    | .bytes b => .ok (.str (c.bytes.encode b))
    | _ => .error .typeError
  | .datetime => unstrIso c v
  | .date => unstrIso c v
  | .time => unstrIso c v
  | .uuid =>
    match v with
    | .uuid u => .ok (.str (c.uuid.encode u))
    | .none => .ok (.str (pyStr .null))
    | .bool b => .ok (.str (pyStr (.bool b)))
    | .int i => .ok (.str (pyStr (.int i)))
    | .str s => .ok (.str s)
    | _ => .error .illTyped                       -- `str(x)` of other objects is not modelled
  | _ => identityJson v

def mapE {α β ε : Type} (f : α → Except ε β) : List α → Except ε (List β)
  | [] => .ok []
  | x :: xs =>
    match f x with
    | .error e => .error e
    | .ok y =>
      match mapE f xs with
      | .error e => .error e
      | .ok ys => .ok (y :: ys)

def mapValsE {α β ε : Type} (f : α → Except ε β) : List (Str × α) → Except ε (List (Str × β))
  | [] => .ok []
  | (k, x) :: xs =>
    match f x with
    | .error e => .error e
    | .ok y =>
      match mapValsE f xs with
      | .error e => .error e
      | .ok ys => .ok ((k, y) :: ys)

/-- The generated `unstructure_<Class>` body: a dict display over the fields in order
    (`useDump` = the hook of this module is registered, otherwise cattrs' own: python names). -/
def unstrFields (rec : Ty → Val → Except UErr JsonV) (cd : ClassDecl) (useDump : Bool)
    (attrs : List (Str × Val)) : List Field → Except UErr (List (Str × JsonV))
  | [] => .ok []
  | f :: fs =>
    match aget attrs f.pyName with
    | none => .error .attrError
    | some v =>
      match rec f.ty v with
      | .error e => .error e
      | .ok j =>
        match unstrFields rec cd useDump attrs fs with
        | .error e => .error e
        | .ok rest => .ok ((if useDump then dumpKey cd f else f.pyName, j) :: rest)

def Val.attrs : Val → List (Str × Val)
  | .inst _ fs => fs
  | _ => []

/-- `converter.unstructure(v, unstructure_as=T)` (`some T`) / `converter.unstructure(v)` (`none`: runtime class). -/
def unstrF (c : Codecs) : Nat → List Str → Decls → Option Ty → Val → Except UErr JsonV
  | 0, _, _, _, _ => .error .fuel
  | n + 1, reg, decls, some t, v =>
    match t with
    | .leaf l => unstrLeaf c l v
    | .any => unstrF c n reg decls none v
    | .none => identityJson v
    | .fwd _ => identityJson v
    | .list t' =>
      match v with
      | .list xs => (mapE (unstrF c n reg decls (some t')) xs).map JsonV.arr
      | _ => .error .illTyped
    | .dict t' =>
      match v with
      | .dict kvs => (mapValsE (unstrF c n reg decls (some t')) kvs).map JsonV.obj
      | _ => .error .illTyped
    | .optional t' =>
      match v with
      | .none => .ok .null
      | _ => unstrF c n reg decls (some t') v
    | .union _ _ => unstrF c n reg decls none v
    | .enum _ members =>
      -- a `str`-mixin enum is a `str` for singledispatch (identity); otherwise `lambda v: v.value`
      if members.all JsonV.isStr then identityJson v else
      match v with
      | .enum _ m => .ok m
      | _ => .error .attrError
    | .dc name =>
      match aget decls name with
      | none => .error .illTyped
      | some cd =>
        (unstrFields (fun ft fv => unstrF c n reg decls (some ft) fv) cd (reg.contains name) v.attrs cd.fields).map
          (fun kvs => JsonV.obj (aofPairs kvs))
  | n + 1, reg, decls, none, v =>
    match v with
    | .none => .ok .null
    | .bool b => .ok (.bool b)
    | .int i => .ok (.int i)
    | .str s => .ok (.str s)
    | .bytes b => .ok (.str (c.bytes.encode b))
    | .datetime d => .ok (.str (c.datetime.encode d))
    | .date d => .ok (.str (c.date.encode d))
    | .time t => .ok (.str (c.time.encode t))
    | .uuid u => .ok (.str (c.uuid.encode u))
    | .enum _ m => .ok m
    | .opaque _ _ => .error .notJson
    | .list xs => (mapE (unstrF c n reg decls none) xs).map JsonV.arr
    | .dict kvs => (mapValsE (unstrF c n reg decls none) kvs).map JsonV.obj
    | .inst cls _ => unstrF c n reg decls (some (.dc cls)) v

/-! ## hook registration -/

def insertName (visited : List Str) (name : Str) : List Str :=
  if visited.contains name then visited else visited ++ [name]

/-- `_register_hooks_for_nested_types` / `_register_*_hooks_recursively`: the classes visited (and
    registered) starting from a type hint; `get_type_hints` resolves forward references, so `.fwd` counts. -/
def regTy : Nat → Decls → List Str → Ty → List Str
  | 0, _, visited, _ => visited
  | n + 1, decls, visited, t =>
    match t with
    | .dc name | .fwd name =>
      if visited.contains name then visited else
      match aget decls name with
      | none => visited ++ [name]
      | some cd => cd.fields.foldl (fun vis f => regTy n decls vis f.ty) (visited ++ [name])
    | .list t' | .dict t' | .optional t' => regTy n decls visited t'
    | .union args _ => args.foldl (fun vis a => regTy n decls vis a) visited
    | _ => visited

/-- `unstructure_to_dict(instance)`: register the hooks reachable from the instance's class (only if it is a
    dataclass), then unstructure by runtime class.  Returns the result and the new registry. -/
def unstructureToDict (c : Codecs) (fuel : Nat) (reg : List Str) (decls : Decls) (v : Val) :
    Except UErr JsonV × List Str :=
  let reg' :=
    match v with
    | .inst cls _ => (regTy fuel decls [] (.dc cls)).foldl insertName reg
    | _ => reg
  -- the runtime-class dispatch of the top-level call is not charged to the depth budget
  (unstrF c (fuel + 1) reg' decls none v, reg')

/-- structure, then unstructure the result (what a client does with a response it echoes back). -/
def roundtrip (c : Codecs) (fuel : Nat) (reg : List Str) (decls : Decls) (t : Ty) (j : JsonV) :
    Except TopErr (Except UErr JsonV) :=
  match structureFromDict c fuel decls t j with
  | .error e => .error e
  | .ok v => .ok (unstructureToDict c fuel reg decls v).1

end Pog
