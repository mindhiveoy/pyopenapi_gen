import Pog.Model.Basic
/-
  M-json — JSON values (type `JsonV`: the name keeps clear of `Lean.Json`, which the driver files open) as the
  Python `json` module hands them to the converter, and the handful of
  CPython built-ins the converter applies to them (`str(x)`, `int(x)`, `bool(x)`, `k in x`, `x[k]`).

  Python                                   model
  ---------------------------------------  -------------------------------------------
  None / bool / int / str / list / dict    `JsonV.null / bool / int / str / arr / obj`
  dict (insertion ordered, str keys)       association list; `aget` = lookup of the FIRST entry, `aset` = `d[k] = v`
  float                                    NOT MODELLED — every number is an `Int` (`5.0` and `5` are the same JSON number
                                           for Python's `==`; non-integral numbers are outside the model)

  TRUSTED (description of CPython 3.12 built-ins, validated by vf/corr/conv.py on ASCII input):
  `pyStr`/`pyRepr` (`str()`/`repr()` of JSON-shaped data; non-ASCII characters are assumed printable),
  `pyIntOfStr` (`int(s)`, ASCII digits/whitespace only), `pyTruthy`, `pyContains`, `pyGetItem`.
-/
namespace Pog

inductive JsonV where
  | null
  | bool (b : Bool)
  | int (n : Int)
  | str (s : Str)
  | arr (xs : List JsonV)
  | obj (kvs : List (Str × JsonV))
  deriving Repr, Inhabited

/-! ### decidable equality (the `deriving` handler does not cover nested inductives) -/

mutual
def JsonV.beq : JsonV → JsonV → Bool
  | .null, .null => true
  | .bool a, .bool b => a == b
  | .int a, .int b => a == b
  | .str a, .str b => a == b
  | .arr a, .arr b => JsonV.beqList a b
  | .obj a, .obj b => JsonV.beqKvs a b
  | _, _ => false
def JsonV.beqList : List JsonV → List JsonV → Bool
  | [], [] => true
  | x :: xs, y :: ys => JsonV.beq x y && JsonV.beqList xs ys
  | _, _ => false
def JsonV.beqKvs : List (Str × JsonV) → List (Str × JsonV) → Bool
  | [], [] => true
  | (k, x) :: xs, (l, y) :: ys => k == l && JsonV.beq x y && JsonV.beqKvs xs ys
  | _, _ => false
end

mutual
theorem JsonV.eq_of_beq : ∀ a b : JsonV, JsonV.beq a b = true → a = b
  | .null, b => by cases b <;> simp [JsonV.beq]
  | .bool _, b => by cases b <;> simp [JsonV.beq]
  | .int _, b => by cases b <;> simp [JsonV.beq]
  | .str _, b => by cases b <;> simp [JsonV.beq]
  | .arr xs, b => by
    cases b <;> simp [JsonV.beq]
    exact JsonV.eq_of_beqList xs _
  | .obj xs, b => by
    cases b <;> simp [JsonV.beq]
    exact JsonV.eq_of_beqKvs xs _
theorem JsonV.eq_of_beqList : ∀ a b : List JsonV, JsonV.beqList a b = true → a = b
  | [], b => by cases b <;> simp [JsonV.beqList]
  | x :: xs, b => by
    cases b with
    | nil => simp [JsonV.beqList]
    | cons y ys =>
      simp only [JsonV.beqList, Bool.and_eq_true, List.cons.injEq]
      exact fun ⟨h1, h2⟩ => ⟨JsonV.eq_of_beq x y h1, JsonV.eq_of_beqList xs ys h2⟩
theorem JsonV.eq_of_beqKvs : ∀ a b : List (Str × JsonV), JsonV.beqKvs a b = true → a = b
  | [], b => by cases b <;> simp [JsonV.beqKvs]
  | (k, x) :: xs, b => by
    cases b with
    | nil => simp [JsonV.beqKvs]
    | cons y ys =>
      obtain ⟨l, y⟩ := y
      simp only [JsonV.beqKvs, Bool.and_eq_true, List.cons.injEq, Prod.mk.injEq, beq_iff_eq]
      exact fun ⟨⟨h0, h1⟩, h2⟩ => ⟨⟨h0, JsonV.eq_of_beq x y h1⟩, JsonV.eq_of_beqKvs xs ys h2⟩
end

mutual
theorem JsonV.beq_refl : ∀ a : JsonV, JsonV.beq a a = true
  | .null => by simp [JsonV.beq]
  | .bool _ => by simp [JsonV.beq]
  | .int _ => by simp [JsonV.beq]
  | .str _ => by simp [JsonV.beq]
  | .arr xs => by simp [JsonV.beq, JsonV.beqList_refl xs]
  | .obj xs => by simp [JsonV.beq, JsonV.beqKvs_refl xs]
theorem JsonV.beqList_refl : ∀ a : List JsonV, JsonV.beqList a a = true
  | [] => by simp [JsonV.beqList]
  | x :: xs => by simp [JsonV.beqList, JsonV.beq_refl x, JsonV.beqList_refl xs]
theorem JsonV.beqKvs_refl : ∀ a : List (Str × JsonV), JsonV.beqKvs a a = true
  | [] => by simp [JsonV.beqKvs]
  | (k, x) :: xs => by simp [JsonV.beqKvs, JsonV.beq_refl x, JsonV.beqKvs_refl xs]
end

instance : DecidableEq JsonV := fun a b =>
  if h : JsonV.beq a b = true then isTrue (JsonV.eq_of_beq a b h)
  else isFalse (fun e => h (e ▸ JsonV.beq_refl a))

def JsonV.isStr : JsonV → Bool
  | .str _ => true
  | _ => false

/-! ### association lists (Python `dict` with `str` keys) -/

/-- `d.get(k)`: the first entry under `k`. -/
def aget {α : Type} : List (Str × α) → Str → Option α
  | [], _ => none
  | (k', v) :: d, k => if k' = k then some v else aget d k

theorem aget_mem {α : Type} (d : List (Str × α)) (k : Str) (v : α) (h : aget d k = some v) : (k, v) ∈ d := by
  induction d with
  | nil => cases h
  | cons kv rest ih =>
    obtain ⟨k', v'⟩ := kv
    simp only [aget] at h
    by_cases e : k' = k
    · simp only [e, if_true, Option.some.injEq] at h; subst e; subst h; simp
    · simp only [e, if_false] at h; exact List.mem_cons_of_mem _ (ih h)

/-- `d[k] = v`: an existing key keeps its position, a new key is appended. -/
def aset {α : Type} : List (Str × α) → Str → α → List (Str × α)
  | [], k, v => [(k, v)]
  | (k', v') :: d, k, v => if k' = k then (k', v) :: d else (k', v') :: aset d k v

def akeys {α : Type} (d : List (Str × α)) : List Str := d.map Prod.fst

/-- `dict(pairs)` / a dict display `{k1: v1, k2: v2, …}` evaluated left to right. -/
def aofPairs {α : Type} (kvs : List (Str × α)) : List (Str × α) :=
  kvs.foldl (fun acc kv => aset acc kv.1 kv.2) []

/-! Lookup and update on lists with distinct keys. -/

theorem aget_nil_none {α : Type} (k : Str) : aget ([] : List (Str × α)) k = none := rfl

theorem aset_of_not_mem {α : Type} (d : List (Str × α)) (k : Str) (v : α) (h : k ∉ akeys d) :
    aset d k v = d ++ [(k, v)] := by
  induction d with
  | nil => rfl
  | cons kv rest ih =>
    obtain ⟨k', v'⟩ := kv
    simp only [akeys, List.map_cons, List.mem_cons, not_or] at h
    have hne : ¬ k' = k := fun e => h.1 e.symm
    simp only [aset, hne, if_false, List.cons_append]
    rw [ih (by simpa [akeys] using h.2)]

theorem foldl_aset_of_nodup {α : Type} (kvs acc : List (Str × α)) (hnd : (akeys (acc ++ kvs)).Nodup) :
    kvs.foldl (fun a kv => aset a kv.1 kv.2) acc = acc ++ kvs := by
  induction kvs generalizing acc with
  | nil => simp
  | cons kv rest ih =>
    have hk : kv.1 ∉ akeys acc := fun hm =>
      (List.nodup_append.mp (by simpa [akeys] using hnd)).2.2 _ hm _ (by simp) rfl
    rw [List.foldl_cons, aset_of_not_mem acc kv.1 kv.2 hk, ih _ (by simpa using hnd)]
    simp

theorem aofPairs_of_nodup {α : Type} (kvs : List (Str × α)) (hnd : (akeys kvs).Nodup) : aofPairs kvs = kvs := by
  simpa [aofPairs] using foldl_aset_of_nodup kvs [] (by simpa using hnd)

theorem aget_map_of_nodup {β γ : Type} (l : List β) (key : β → Str) (val : β → γ) (hnd : (l.map key).Nodup)
    (b : β) (hb : b ∈ l) : aget (l.map (fun g => (key g, val g))) (key b) = some (val b) := by
  induction l with
  | nil => cases hb
  | cons g gs ih =>
    simp only [List.map_cons, List.nodup_cons] at hnd
    simp only [List.map_cons, aget]
    rcases List.mem_cons.mp hb with e | hmem
    · subst e; simp
    · have hne : ¬ key g = key b := fun e => hnd.1 (e ▸ List.mem_map_of_mem hmem)
      simp only [hne, if_false]
      exact ih hnd.2 hmem

theorem aget_of_all {α : Type} (d : List (Str × α)) (p : Str × α → Bool) (h : d.all p = true) (k : Str) (v : α)
    (hk : aget d k = some v) : p (k, v) = true :=
  List.all_eq_true.mp h _ (aget_mem d k v hk)

theorem aget_of_mem_nodup {α : Type} (d : List (Str × α)) (k : Str) (v : α) (hnd : (akeys d).Nodup)
    (h : (k, v) ∈ d) : aget d k = some v := by
  obtain ⟨kv, hkv, rfl, rfl⟩ : ∃ kv ∈ d, kv.1 = k ∧ kv.2 = v := ⟨_, h, rfl, rfl⟩
  simpa using aget_map_of_nodup d Prod.fst Prod.snd hnd kv hkv

/-! ### CPython built-ins on JSON-shaped data (trusted) -/

/-- `bool(x)`. -/
def pyTruthy : JsonV → Bool
  | .null => false
  | .bool b => b
  | .int n => n != 0
  | .str s => !s.isEmpty
  | .arr xs => !xs.isEmpty
  | .obj kvs => !kvs.isEmpty

/-- Decimal rendering of an integer (`str(n)`). -/
def intStr (n : Int) : Str :=
  match n with
  | .ofNat k => natStr k
  | .negSucc k => '-' :: natStr (k + 1)

def hexDigit (n : Nat) : Char :=
  if n < 10 then Char.ofNat (48 + n) else Char.ofNat (87 + n)

/-- One character inside `repr(s)` with quote character `q`. -/
def reprChar (q : Char) (c : Char) : Str :=
  if c == '\\' then ['\\', '\\']
  else if c == q then ['\\', q]
  else if c == '\n' then ['\\', 'n']
  else if c == '\r' then ['\\', 'r']
  else if c == '\t' then ['\\', 't']
  else if c.toNat < 32 || c.toNat == 127 then
    ['\\', 'x', hexDigit (c.toNat / 16), hexDigit (c.toNat % 16)]
  else [c]

/-- `repr(s)` for a `str`: single quotes unless the text has a `'` and no `"`. -/
def pyReprStr (s : Str) : Str :=
  let q : Char := if s.contains '\'' && !s.contains '"' then '"' else '\''
  q :: (s.flatMap (reprChar q)) ++ [q]

mutual
/-- `repr(x)` of JSON-shaped data. -/
def pyRepr : JsonV → Str
  | .null => "None".toList
  | .bool true => "True".toList
  | .bool false => "False".toList
  | .int n => intStr n
  | .str s => pyReprStr s
  | .arr xs => '[' :: pyReprList xs ++ [']']
  | .obj kvs => '{' :: pyReprKvs kvs ++ ['}']
def pyReprList : List JsonV → Str
  | [] => []
  | [x] => pyRepr x
  | x :: y :: rest => pyRepr x ++ ", ".toList ++ pyReprList (y :: rest)
def pyReprKvs : List (Str × JsonV) → Str
  | [] => []
  | [(k, v)] => pyReprStr k ++ ": ".toList ++ pyRepr v
  | (k, v) :: kv2 :: rest => pyReprStr k ++ ": ".toList ++ pyRepr v ++ ", ".toList ++ pyReprKvs (kv2 :: rest)
end

/-- `str(x)`. -/
def pyStr : JsonV → Str
  | .str s => s
  | j => pyRepr j

/-- The characters `int()` strips: `Py_UNICODE_ISSPACE` restricted to ASCII. -/
def isPySpace (c : Char) : Bool :=
  c == ' ' || (9 ≤ c.toNat && c.toNat ≤ 13) || (28 ≤ c.toNat && c.toNat ≤ 31)

def pyStripSpace (s : Str) : Str :=
  ((s.dropWhile isPySpace).reverse.dropWhile isPySpace).reverse

/-- Digits with single underscores between them; `acc` is the value so far, `prevDigit` says whether
    the previous character was a digit (an underscore must sit between two digits). -/
def digitsVal : Str → Nat → Bool → Option Nat
  | [], acc, prevDigit => if prevDigit then some acc else none
  | c :: cs, acc, prevDigit =>
    if isDigitA c then digitsVal cs (acc * 10 + (c.toNat - 48)) true
    else if c == '_' && prevDigit then
      match cs with
      | d :: _ => if isDigitA d then digitsVal cs acc false else none
      | [] => none
    else none

/-- `int(s)` for a `str` (base 10): `none` = `ValueError`. -/
def pyIntOfStr (s : Str) : Option Int :=
  match pyStripSpace s with
  | '-' :: ds => (digitsVal ds 0 false).map (fun n => - (Int.ofNat n))
  | '+' :: ds => (digitsVal ds 0 false).map Int.ofNat
  | ds => (digitsVal ds 0 false).map Int.ofNat

/-- Is `k` a substring of `s` (`k in s` for two `str`s). -/
def isInfix (k : Str) : Str → Bool
  | [] => k.isEmpty
  | c :: cs => k.isPrefixOf (c :: cs) || isInfix k cs

/-- `k in o` for a `str` `k`: `none` = `TypeError` (argument of type … is not iterable). -/
def pyContains (o : JsonV) (k : Str) : Option Bool :=
  match o with
  | .obj kvs => some ((aget kvs k).isSome)
  | .str s => some (isInfix k s)
  | .arr xs => some (xs.any (fun x => x == JsonV.str k))
  | _ => none

/-- `o[k]` for a `str` `k`: `none` in the outer option = `TypeError` (not subscriptable / bad index type),
    `some none` = `KeyError`. -/
def pyGetItem (o : JsonV) (k : Str) : Option (Option JsonV) :=
  match o with
  | .obj kvs => some (aget kvs k)
  | _ => none

/-- Python `==` between a JSON scalar and an enum member value (`True == 1`). -/
def pyEqScalar : JsonV → JsonV → Bool
  | .null, .null => true
  | .bool a, .bool b => a == b
  | .bool a, .int n => n == (if a then 1 else 0)
  | .int n, .bool a => n == (if a then 1 else 0)
  | .int a, .int b => a == b
  | .str a, .str b => a == b
  | _, _ => false

end Pog
