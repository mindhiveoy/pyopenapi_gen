import Pog.Model.Basic
/-
  Model of annotation-text assembly:

    * `formatText`      = `UnifiedTypeService._format_resolved_type` on the TEXT of `ResolvedType.python_type`
                          (branch for branch: `startswith("Optional[")` raises, quoting of forward references,
                          the optional marker: ` | None` INSIDE the quotes of a text that is one string literal
                          (`isQuotedLit`), the ` | None` suffix otherwise)
    * `Ann`, `render`   : annotation syntax trees and their text
    * `formatResolved`  : the same function on trees (`Pog.C01.format_text_agrees` ties it to `formatText`)
    * `listOf`/`unionOf`: `OpenAPISchemaResolver._resolve_array` / `_resolve_any_of` / `_resolve_one_of`
                          (how the item / member types are spliced into `List[…]` / `Union[…]`)
    * `resolveTree`     : `resolve_schema` on the fragment {primitive, named model (other file / same file),
                          array, anyOf/oneOf} used by the correspondence
    * `evalKind`/`evalOK`: what CPython 3.12 does when it evaluates the annotation eagerly (class-body time)
                          with every name bound                                            [TRUSTED: CPython]
-/
namespace Pog

/-! ## text level: `_format_resolved_type` -/

def optionalPrefix : Str := "Optional[".toList
def orNoneSuffix : Str := "| None".toList
def orNoneTail : Str := " | None".toList

/-- `t.startswith('"') and t.endswith('"') and t.count('"') == 2`: the text is ONE string literal. -/
def isQuotedLit (t : Str) : Bool := startsWith t ['"'] && endsWith t ['"'] && (t.count '"' == 2)

/-- `t[1:-1]` -/
def unquote (t : Str) : Str := (t.drop 1).dropLast

/-- `_format_resolved_type(ResolvedType(python_type, is_optional, is_forward_ref))`;
    `none` = the `ValueError` for a legacy `Optional[`. -/
def formatText (pythonType : Str) (isOptional isForwardRef : Bool) : Option Str :=
  if startsWith pythonType optionalPrefix then none else
  let t1 := if isForwardRef && !startsWith pythonType ['"'] then ['"'] ++ pythonType ++ ['"'] else pythonType
  let t2 := if isOptional && !endsWith t1 orNoneSuffix then
      (if isQuotedLit t1 then ['"'] ++ unquote t1 ++ orNoneTail ++ ['"'] else t1 ++ orNoneTail)
    else t1
  some t2

/-! ## annotation trees -/

inductive Ann where
  /-- a bare (possibly dotted) name -/
  | name (s : Str)
  /-- a string literal `"s"` (forward reference); it is a literal only when `s` holds no `"` itself -/
  | quoted (s : Str)
  /-- `head[a1, a2, …]` -/
  | sub (head : Ann) (args : List Ann)
  /-- `l | r` -/
  | bor (l r : Ann)
  /-- `None` -/
  | none_
  deriving Repr, Inhabited

mutual
  def render : Ann → Str
    | .name s => s
    | .quoted s => ['"'] ++ s ++ ['"']
    | .sub h args => render h ++ ['['] ++ renderArgs args ++ [']']
    | .bor l r => render l ++ " | ".toList ++ render r
    | .none_ => "None".toList
  /-- `", ".join(args)` -/
  def renderArgs : List Ann → Str
    | [] => []
    | [a] => render a
    | a :: b :: rest => render a ++ ", ".toList ++ renderArgs (b :: rest)
end

/-- `ResolvedType` with `python_type` as a tree. -/
structure Resolved where
  ty : Ann
  isOptional : Bool
  isForwardRef : Bool
  deriving Repr

/-- `f'"{python_type}"'` unless it already starts with a quote. -/
def quoteIfFwd (ty : Ann) (fwd : Bool) : Ann :=
  if fwd && !startsWith (render ty) ['"'] then .quoted (render ty) else ty

/-- `_format_resolved_type` on trees; `none` = ValueError. -/
def formatResolved (r : Resolved) : Option Ann :=
  if startsWith (render r.ty) optionalPrefix then none else
  let a := quoteIfFwd r.ty r.isForwardRef
  some (if r.isOptional && !endsWith (render a) orNoneSuffix then
          (if isQuotedLit (render a) then .quoted (unquote (render a) ++ orNoneTail) else .bor a .none_)
        else a)

/-! ## resolver assembly -/

/-- `_resolve_array` (items present): `List[<item>]`, the item quoted when it is a forward reference;
    the item is resolved with `required=True`, its own optional flag is dropped. -/
def listOf (item : Resolved) (required : Bool) : Resolved :=
  ⟨.sub (.name "List".toList) [quoteIfFwd item.ty item.isForwardRef], !required, false⟩

/-- `list(dict.fromkeys(texts))` on trees compared by their text. -/
def dedupByText : List Ann → List Str → List Ann
  | [], _ => []
  | a :: rest, seen =>
    if seen.contains (render a) then dedupByText rest seen else a :: dedupByText rest (render a :: seen)

/-- `_resolve_any_of` / `_resolve_one_of` for a non-empty member list (members resolved with `required=True`). -/
def unionOf (members : List Resolved) (required : Bool) : Resolved :=
  let ms := members.map (fun m => quoteIfFwd m.ty m.isForwardRef)
  match ms with
  | [single] => ⟨single, !required, false⟩
  | _ => ⟨.sub (.name "Union".toList) (dedupByText ms []), !required, false⟩

/-- The schema fragment driven through the real resolver by the correspondence. -/
inductive STree where
  /-- `type: integer|string|…` resolved to the given builtin name -/
  | prim (py : Str)
  /-- a named schema with `generation_name = cls`; `self = true` when it lives in the file being rendered -/
  | model (cls : Str) (self : Bool)
  | arr (item : STree)
  /-- `anyOf` / `oneOf` (non-empty) -/
  | union (members : List STree)
  deriving Repr, Inhabited

mutual
  /-- `OpenAPISchemaResolver.resolve_schema(schema, ctx, required)` on the fragment. -/
  def resolveTree : STree → Bool → Resolved
    | .prim py, req => ⟨.name py, !req, false⟩
    | .model cls self, req => ⟨.name cls, !req, self⟩
    | .arr item, req => listOf (resolveTree item true) req
    | .union ms, req => unionOf (resolveTrees ms) req
  def resolveTrees : List STree → List Resolved
    | [] => []
    | t :: ts => resolveTree t true :: resolveTrees ts
end

/-! ## CPython: eager evaluation of an annotation -/

/-- What an annotation expression evaluates to, as far as `|` and `[...]` care. -/
inductive Kind where
  /-- a class, a `types.GenericAlias` (`dict[str, X]`), a `types.UnionType`: the operands of the C-level `|` -/
  | ty
  /-- a `typing` object (`List[X]`, `Union[…]`, `Optional[…]`, `Literal[…]`, a `ForwardRef`): `|`/`r|` build a `typing.Union` -/
  | alias
  | noneV
  | strV
  deriving DecidableEq, Repr

/-- `typing` generics and their arity (`none` = any positive number of parameters). -/
def typingHeads : List (Str × Option Nat) :=
  [("List", some 1), ("Set", some 1), ("FrozenSet", some 1), ("Sequence", some 1), ("Iterator", some 1),
   ("AsyncIterator", some 1), ("Type", some 1), ("Dict", some 2), ("Mapping", some 2),
   ("Tuple", none), ("Literal", none), ("Union", none), ("Optional", some 1)].map
    (fun p => (p.1.toList, p.2))

/-- builtin generics: `types.GenericAlias`, no parameter checks. -/
def builtinHeads : List Str := ["dict", "list", "tuple", "set", "frozenset", "type"].map String.toList

/-- `a | b` -/
def orKind : Kind → Kind → Option Kind
  | .alias, _ => some .alias
  | _, .alias => some .alias
  | .ty, .ty => some .ty
  | .ty, .noneV => some .ty
  | .noneV, .ty => some .ty
  | _, _ => none

/-- The value of `Union[...]` after typing's flattening of equal members: one distinct member is returned itself. -/
def unionKind (distinct : List Kind) : Kind :=
  match distinct with
  | [.ty] => .ty
  | [.noneV] => .ty
  | _ => .alias

def dedupStr : List Str → List Str → List Str
  | [], _ => []
  | a :: rest, seen => if seen.contains a then dedupStr rest seen else a :: dedupStr rest (a :: seen)

/-- kinds of the members that are distinct by their text -/
def distinctKinds : List (Str × Kind) → List Str → List Kind
  | [], _ => []
  | (t, k) :: rest, seen => if seen.contains t then distinctKinds rest seen else k :: distinctKinds rest (t :: seen)

/-- `k1 | k2 | … | kn`, evaluated left to right (`|` is left-associative and `render` writes no parentheses). -/
def foldOr : List Kind → Option Kind
  | [] => none
  | k :: ks => ks.foldl (fun acc x => acc.bind (fun a => orKind a x)) (some k)

/-- `head[args]` given the kinds of the evaluated arguments (`none` = some argument raised). -/
def subKind (head : Ann) (args : List Ann) (kinds : Option (List Kind)) : Option Kind :=
  match head with
  | .name h =>
    (match kinds with
     | none => none
     | some [] => none
     | some ks =>
       if builtinHeads.contains h then some .ty
       else match typingHeads.lookup h with
         | none => none
         | some arity =>
           if (match arity with | some n => decide (ks.length = n) | none => true) then
             (if h = "Union".toList then some (unionKind (distinctKinds ((args.map render).zip ks) []))
              else if h = "Optional".toList then some (if ks = [.noneV] then .ty else .alias)
              else some .alias)
           else none)
  | _ => none

mutual
  /-- `none` = evaluating the expression raises (TypeError / SyntaxError). -/
  def evalKind : Ann → Option Kind
    | .name _ => some .ty
    | .quoted s => if s.contains '"' then none else some .strV
    | .none_ => some .noneV
    | .bor l r =>
      match evalOperands l, evalOperands r with
      | some a, some b => foldOr (a ++ b)
      | _, _ => none
    | .sub h args => subKind h args (evalKinds args)
  /-- the kinds of the operands of a (rendered, hence flat) chain `a | b | c` -/
  def evalOperands : Ann → Option (List Kind)
    | .name _ => some [.ty]
    | .quoted s => if s.contains '"' then none else some [.strV]
    | .none_ => some [.noneV]
    | .bor l r =>
      match evalOperands l, evalOperands r with
      | some a, some b => some (a ++ b)
      | _, _ => none
    | .sub h args => (subKind h args (evalKinds args)).map (fun k => [k])
  def evalKinds : List Ann → Option (List Kind)
    | [] => some []
    | a :: rest =>
      match evalKind a, evalKinds rest with
      | some k, some ks => some (k :: ks)
      | _, _ => none
end

/-- The annotation can be evaluated eagerly. -/
def evalOK (a : Ann) : Bool := (evalKind a).isSome

end Pog
