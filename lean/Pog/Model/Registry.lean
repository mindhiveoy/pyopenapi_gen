import Pog.Model.Basic
import Pog.Gen.Status
/-
  Model of the status-code → exception-class table (`core/http_status_codes.py`) and of the
  exception-alias registry of a (possibly shared) core package
  (`emitters/exceptions_emitter.py`, `visit/exception_visitor.py`).

  What is modelled, branch for branch:
    * `is_error_code` / `is_client_error` / `is_server_error`  (bounds come from `Pog.Gen`)
    * the `if is_client_error … elif is_server_error … else: continue` base-class choice
    * `get_exception_class_name` (table lookup, rename, `Error<code>` fallback)
    * `ExceptionVisitor.visit`  : which codes a spec contributes
    * `ExceptionsEmitter._is_shared_core`, `_update_registry`, `_generate_for_codes`, `emit`
      (as far as the SET of alias classes and the registry file are concerned)

  Abstracted: a spec is the list `declared` of the numeric response status
  codes of all its operations (`int(resp.status_code)` for the `str.isdigit()` ones); paths are
  already `Path.resolve()`d and split into components; the text of the emitted classes is not
  modelled, only which codes get a class (the class name is `aliasName code`, its base
  `aliasBase code`).
-/
namespace Pog

/-! ## `core/http_status_codes.py` -/

/-- `is_error_code` -/
def isErrorCode (n : Nat) : Bool := decide (Gen.isErrorCodeLo ≤ n) && decide (n < Gen.isErrorCodeHi)
/-- `is_client_error` -/
def isClientError (n : Nat) : Bool := decide (Gen.isClientErrorLo ≤ n) && decide (n < Gen.isClientErrorHi)
/-- `is_server_error` -/
def isServerError (n : Nat) : Bool := decide (Gen.isServerErrorLo ≤ n) && decide (n < Gen.isServerErrorHi)

/-- The base class an alias class derives from. -/
inductive Base where
  | clientError
  | serverError
  deriving DecidableEq, Repr

def Base.name : Base → Str
  | .clientError => "ClientError".toList
  | .serverError => "ServerError".toList

/-- The `if is_client_error(code): … elif is_server_error(code): … else: continue` of both
    `ExceptionVisitor.visit` and `_generate_for_codes`; `none` = `continue` (no class emitted). -/
def aliasBase (code : Nat) : Option Base :=
  if isClientError code then some .clientError
  else if isServerError code then some .serverError
  else none

/-- The chain of `if name == X: return Y` statements of `get_exception_class_name`. -/
def applyRenames (name : Str) : List (Str × Str) → Str
  | [] => name
  | (x, y) :: rest => if name = x then y else applyRenames name rest

/-- `get_exception_class_name`. -/
def aliasName (code : Nat) : Str :=
  match Gen.httpExceptionNames.lookup code with
  | some name => applyRenames name Gen.exceptionRenames
  | none => Gen.exceptionFallbackPrefix ++ natStr code

/-! ## `sorted(...)` and `sorted(set(...))` on status codes -/

def insertNat (x : Nat) : List Nat → List Nat
  | [] => [x]
  | y :: ys => if x ≤ y then x :: y :: ys else y :: insertNat x ys

/-- python `sorted(xs)` for a list of ints (duplicates kept). -/
def sortedNat (l : List Nat) : List Nat := l.foldr insertNat []

def insertUniq (x : Nat) : List Nat → List Nat
  | [] => [x]
  | y :: ys => if x < y then x :: y :: ys else if x = y then y :: ys else y :: insertUniq x ys

/-- python `sorted(set(xs))`. -/
def sortUniq (l : List Nat) : List Nat := l.foldr insertUniq []

/-- The third component returned by `ExceptionVisitor.visit`:
    `sorted([code for code in {all numeric codes} if is_error_code(code)])`. -/
def specCodes (declared : List Nat) : List Nat := sortUniq (declared.filter isErrorCode)

/-- The codes for which a class is emitted by the loop shared by `visit` and
    `_generate_for_codes` (codes outside both ranges hit `continue`). -/
def genFor (codes : List Nat) : List Nat := codes.filter (fun c => (aliasBase c).isSome)

/-! ## `_is_shared_core` -/

/-- A resolved absolute path as its list of components (`[]` is the filesystem root). -/
abbrev Path := List Str

/-- `Path.parent` (the parent of the root is the root). -/
def parentDir (p : Path) : Path := p.dropLast

/-- `_is_shared_core`: `projectRoot = none` stands for `overall_project_root` being `None` or `""`
    (both falsy). -/
def isSharedCore (projectRoot : Option Path) (coreDir : Path) : Bool :=
  match projectRoot with
  | none => false
  | some root => parentDir coreDir == root || parentDir (parentDir coreDir) == root

/-- `_is_shared_core(core_dir, client_package_name)` since the repair of F22: the old heuristic, or - for a client package given
    as its path components below the project root - the core directory is neither the client's directory nor inside it. -/
def isSharedCoreFor (projectRoot : Option Path) (coreDir : Path) (clientPkg : Option Path) : Bool :=
  match projectRoot with
  | none => false
  | some root =>
    parentDir coreDir == root || parentDir (parentDir coreDir) == root ||
      (match clientPkg with
       | some (c :: cs) => !(root ++ (c :: cs)).isPrefixOf coreDir
       | _ => false)

/-! ## the registry -/

/-- What is on disk in the core package: `.exception_registry.json` (client ↦ codes, python dict
    order) and the codes that have a class in `exception_aliases.py`. -/
structure State where
  registry : List (Str × List Nat)
  aliases : List Nat
  deriving DecidableEq, Repr

def State.empty : State := ⟨[], []⟩

/-- One run of `ExceptionsEmitter.emit` into the core package. -/
structure Gen where
  /-- `client_package_name` -/
  client : Option Str
  /-- numeric status codes of all responses of all operations of the spec -/
  declared : List Nat
  /-- the answer of `_is_shared_core(output_dir)` for this run's layout -/
  shared : Bool
  deriving DecidableEq, Repr

/-- python `registry[c] = codes` on an insertion-ordered dict. -/
def regSet (c : Str) (codes : List Nat) : List (Str × List Nat) → List (Str × List Nat)
  | [] => [(c, codes)]
  | (k, v) :: rest => if k = c then (k, codes) :: rest else (k, v) :: regSet c codes rest

/-- `sorted(set().union(*registry.values()))` — the return value of `_update_registry`. -/
def allCodes (reg : List (Str × List Nat)) : List Nat := sortUniq (reg.flatMap (·.2))

/-- `if client_package_name and self._is_shared_core(output_dir)` -/
def Gen.usesRegistry (g : Gen) : Bool :=
  match g.client with
  | some (_ :: _) => g.shared
  | _ => false

/-- `emit`: registry branch (update the registry, regenerate for the union) or plain branch
    (the file is overwritten with this spec's classes only, the registry is not touched). -/
def step (s : State) (g : Gen) : State :=
  match g.client with
  | some (ch :: ct) =>
    if g.shared then
      let reg := regSet (ch :: ct) (sortedNat (specCodes g.declared)) s.registry
      ⟨reg, genFor (allCodes reg)⟩
    else ⟨s.registry, genFor (specCodes g.declared)⟩
  | _ => ⟨s.registry, genFor (specCodes g.declared)⟩

/-- The state of the core package after a history of generations (oldest first). -/
def run (hist : List Gen) : State := hist.foldl step State.empty

/-- The states after every step. -/
def trace (s : State) : List Gen → List State
  | [] => []
  | g :: gs => step s g :: trace (step s g) gs

/-- The status-specific exception classes the generated endpoints of client `c` raise: the error
    codes of the spec of its LATEST generation. -/
def needs (hist : List Gen) (c : Str) : List Nat :=
  match hist.reverse.find? (fun g => decide (g.client = some c)) with
  | some g => specCodes g.declared
  | none => []

end Pog
