import Pog.Model.Basic
import Pog.Model.Names
import Pog.Model.Registry
/-
  M-gencode — the OBSERVABLE BEHAVIOUR of one emitted endpoint method as a function of the shape
  of the operation (IR level: what `core/loader` hands to the visitors).

  Python (generator)                                        model
  --------------------------------------------------------  ---------------------------------------
  loader/operations/parser.py:93-114 (path-level + op-level) `irParams`
  helpers/url_utils.extract_url_variables, the `re.sub` of
    url_args_generator._build_url_with_path_vars             `parsePath`, `pathVars`
  processors/parameter_processor.process_parameters          `orderedParams` (`declaredInfos`, `bodyInfo`,
                                                              `undeclaredInfos`, `requiredFirst`)
  generators/signature_generator                             `sigOf` (identifier = sanitised TWICE)
  generators/url_args_generator + request_generator          `buildStd`
  generators/overload_generator + endpoint_method_generator
    ._generate_implementation_method                         `ovlParams`, `sigOf`, `ovlBody`, `buildOvl`
  types/strategies/response_strategy._get_primary_response   `primaryA`
  helpers/endpoint_utils._get_primary_response               `primaryB`
  response_strategy.ResponseStrategyResolver.resolve         `resolveStrategy`
  generators/response_handler_generator
    .generate_response_handling                              `arms`, `defaultAction`, `runAction`
    ._write_raise_by_status_range (the `case _:` arms)       `rangeClass`
    ._is_ndjson_stream (streaming arm of
      `_write_strategy_based_return`)                        `isNdjsonStream`, `streamJson`
    ._is_text_body (`_write_strategy_based_return` and the
      arm of another 2xx response)                           `isTextBody`, `singleOf`, `secondaryRet`
    ._write_secondary_return (the `return` of the arm of
      another 2xx response; F35 repaired)                    `secondaryAction`, `isAsyncGen`
  core/http_transport.HttpxTransport.request:192-200         `bundledClass`, the `.bundled` branch of `handle`
  emitters/exceptions_emitter (which alias classes exist)    `aliasBase` (Pog.Model.Registry)
  CPython compiling / importing the emitted module           `moduleOk`

  ABSTRACTED
    * Values are opaque tokens (`GValue`): `DataclassSerializer.serialize` is the identity on them; the
      model says WHICH caller value goes into WHICH slot of the `transport.request(...)` call.
    * A response media type carries a `Shape` (a summary of its schema) and `shapeTy`/`useCattrs`
      give the effect of `UnifiedTypeService.resolve_schema_type` and of the type-STRING heuristics
      `_should_use_cattrs_structure` on those shapes (validated by the correspondence, not re-derived
      from the strings).
    * A status key is `num n` (the canonical decimal `str(n)`), `default`, or `other s` (any other
      string, e.g. `2XX`; never all-digits).  `str(n).startswith("2")` is `leadDigit n = 2`.
  TRUSTED (third party, written as executable description)
    * CPython: duplicate parameter names and `from core import <missing name>` make the module unimportable
      (`moduleOk`; `return <value>` inside an async generator would too - since the repair of F35 no arm of a
      streaming method is emitted that way); a function whose body contains a `yield` is an async generator: calling
      it gives an async iterator, a bare `return` ends the iteration (`isAsyncGen`); calling with an
      unknown keyword or without a required one raises `TypeError` before the body runs; reading an
      unbound local raises `NameError`; `match` takes the first arm whose literal equals the subject.
    * httpx 0.28: `cookies={…}` becomes the `Cookie` header (a value that is neither `str` nor `None` raises `TypeError`
      in http.cookiejar, `cookieValuesOk`); a keyword that is `None` is ignored; a header value that is not `str` raises
      `TypeError` before anything is sent (`headerValuesOk`; since the repair of F39 only a value of a parameter that
      is not declared integer / number / boolean can still be a non-`str` there).
-/
namespace Pog.GenCode

/-! ## shape of an operation -/

/-- `IRParameter.param_in` -/
inductive GLoc
  | path | query | header | cookie
  /-- any other string (the loader copies `in` verbatim) -/
  | other
  deriving DecidableEq, Repr

/-- The python type of a declared parameter, as far as `url_args_generator._string_value_expr` looks at it:
    `p["type"]` without its ` | None` is `int` / `float` (`num`), `bool`, or anything else (`plain`: `str`, a model,
    an enum, a list, …).  The spec's `integer` / `number` / `boolean` resolve to the first two. -/
inductive PKind
  | plain | num | bool
  deriving DecidableEq, Repr

structure GParam where
  name : Str
  loc : GLoc
  required : Bool
  kind : PKind
  deriving DecidableEq, Repr

/-- A piece of the path template: literal text or `{var}`. -/
inductive Seg
  | lit (s : Str)
  | var (v : Str)
  deriving DecidableEq, Repr

/-- `IRRequestBody` (`content` keys in dict order; the loader drops a body without content). -/
structure GBody where
  required : Bool
  media : List Str
  deriving DecidableEq, Repr

/-- `IRResponse.status_code` -/
inductive StatusKey
  | num (n : Nat)
  | default
  | other (s : Str)
  deriving DecidableEq, Repr

/-- Summary of a response media type's schema. -/
inductive Shape
  /-- `$ref` to a named object schema (a generated dataclass) -/
  | model (n : Str)
  /-- inline `array` of `$ref` to a named object schema -/
  | listModel (n : Str)
  /-- inline `integer` -/
  | int
  /-- inline `string` (no binary format) -/
  | string
  /-- inline `string` / `format: binary` -/
  | binary
  /-- media type object without a `schema` -/
  | noSchema
  deriving DecidableEq, Repr

structure Media where
  mt : Str
  shape : Shape
  deriving DecidableEq, Repr

structure Resp where
  key : StatusKey
  content : List Media
  deriving DecidableEq, Repr

structure Op where
  /-- `HTTPMethod` value (upper case) -/
  method : Str
  path : List Seg
  /-- `IROperation.parameters` -/
  params : List GParam
  body : Option GBody
  responses : List Resp
  deriving DecidableEq, Repr

/-- loader/operations/parser.py:93-114 (F4 repaired): the path-level parameters that no operation-level parameter
    overrides (same name and location), then the operation's own; both in document order.
    (`GLoc.other` stands for ONE location string outside the four: two `other` parameters of an operation are taken
    to carry the same string - the correspondence generates `formData` only.) -/
def irParams (pathLevel opLevel : List GParam) : List GParam :=
  pathLevel.filter (fun bp => !opLevel.any (fun p => bp.name == p.name && bp.loc == p.loc)) ++ opLevel

/-! ## the path template -/

/-- State of the scanner for `{([^}]+)}`: outside a brace, or inside with the characters read since
    the `{` (reversed). -/
inductive PSt
  | out (lit : Str)
  | inb (lit : Str) (acc : Str)

def pathFlushLit (lit : Str) (acc : List Seg) : List Seg :=
  if lit.isEmpty then acc else Seg.lit lit.reverse :: acc

/-- One character of `re.finditer(r"{([^}]+)}", path)`. `acc` = finished segments, reversed. -/
def pathStep (st : PSt × List Seg) (c : Char) : PSt × List Seg :=
  match st with
  | (.out lit, acc) => if c == '{' then (.inb lit [], acc) else (.out (c :: lit), acc)
  | (.inb lit v, acc) =>
    if c == '}' then
      match v with
      | [] => (.out ('}' :: '{' :: lit), acc)            -- `{}`: `[^}]+` needs one character
      | _ => (.out [], Seg.var v.reverse :: pathFlushLit lit acc)
    else (.inb lit (c :: v), acc)                         -- `[^}]` also eats `{`

/-- Split a path template into literal text and `{var}` occurrences exactly as the regular
    expression `{([^}]+)}` does (an unclosed `{…` is literal text). -/
def parsePath (p : Str) : List Seg :=
  match p.foldl pathStep (.out [], []) with
  | (.out lit, acc) => (pathFlushLit lit acc).reverse
  | (.inb lit v, acc) => (pathFlushLit (v ++ '{' :: lit) acc).reverse

def pathVars : List Seg → List Str
  | [] => []
  | .lit _ :: r => pathVars r
  | .var v :: r => v :: pathVars r

/-! ## parameters of the emitted method -/

inductive SLoc
  | path | query | header | cookie | other | body
  deriving DecidableEq, Repr

def GLoc.toS : GLoc → SLoc
  | .path => .path | .query => .query | .header => .header | .cookie => .cookie | .other => .other

/-- One entry of `ordered_params`. -/
structure PInfo where
  /-- `p["name"]` — sanitised ONCE -/
  name : Str
  required : Bool
  loc : SLoc
  /-- `p["original_name"]` -/
  orig : Str
  /-- what `_string_value_expr` makes of `p["type"]` -/
  kind : PKind
  deriving DecidableEq, Repr

/-- The Python identifier in the signature and in the body: `sanitize_method_name(p["name"])`,
    i.e. the original name sanitised TWICE. -/
def PInfo.ident (p : PInfo) : Str := sanMethod p.name

/-- The identifier under which a declared parameter appears in the single-content signature. -/
def GParam.ident (p : GParam) : Str := sanMethod (sanMethod p.name)

def GParam.info (p : GParam) : PInfo := ⟨sanMethod p.name, p.required, p.loc.toS, p.name, p.kind⟩

def declaredInfos (ps : List GParam) : List PInfo :=
  ps.map GParam.info

def mtJson : Str := "application/json".toList
def mtMultipart : Str := "multipart/form-data".toList
def mtForm : Str := "application/x-www-form-urlencoded".toList

/-- Which keyword of `transport.request` carries the body in the single-content method. -/
inductive BodyKind
  | json | files | form | bytes
  deriving DecidableEq, Repr

/-- `primary_content_type` and the body parameter: multipart > json > urlencoded > first. -/
def primaryBody (media : List Str) : Option (Str × BodyKind) :=
  if mtMultipart ∈ media then some (mtMultipart, .files)
  else if mtJson ∈ media then some (mtJson, .json)
  else if mtForm ∈ media then some (mtForm, .form)
  else match media with
    | m :: _ => some (m, .bytes)
    | [] => none

def BodyKind.param : BodyKind → Str
  | .json => "body".toList
  | .files => "files".toList
  | .form => "form_data".toList
  | .bytes => "bytes_content".toList

/-- The body parameter, unless its name is already a key of `param_details_map`. -/
def bodyInfo (body : Option GBody) (taken : List Str) : List PInfo :=
  match body with
  | none => []
  | some b =>
    match primaryBody b.media with
    | none => []
    | some (_, k) => if k.param ∈ taken then [] else [⟨k.param, b.required, .body, k.param, .plain⟩]

/-- `_ensure_path_variables_as_params`: every `{var}` whose sanitised name is not yet a key becomes a
    required path parameter.  (Python iterates a `set`; the order is irrelevant for keyword calls.) -/
def undeclaredInfos : List Str → List Str → List PInfo
  | [], _ => []
  | v :: vs, taken =>
    if sanMethod v ∈ taken then undeclaredInfos vs taken
    else ⟨sanMethod v, true, .path, v, .plain⟩ :: undeclaredInfos vs (sanMethod v :: taken)

/-- `list.sort(key=lambda p: not p["required"])` — stable. -/
def requiredFirst (l : List PInfo) : List PInfo :=
  l.filter (·.required) ++ l.filter (fun p => !p.required)

def unsortedParams (op : Op) : List PInfo :=
  let d := declaredInfos op.params
  let b := bodyInfo op.body (d.map (·.name))
  let u := undeclaredInfos (pathVars op.path) ((d ++ b).map (·.name))
  d ++ b ++ u

/-- `EndpointParameterProcessor.process_parameters(op)[0]` -/
def orderedParams (op : Op) : List PInfo := requiredFirst (unsortedParams op)

/-- `len(op.request_body.content) > 1` -/
def isMulti (op : Op) : Bool :=
  match op.body with
  | some b => decide (b.media.length > 1)
  | none => false

/-! ### the implementation method for several request media types -/

/-- `_get_content_type_param_info(content_type)["name"]` -/
def ctParam (mt : Str) : Str :=
  if mt = mtJson then "body".toList
  else if mt = mtMultipart then "files".toList
  else if mt = mtForm then "data".toList
  else "body".toList

def dedupStr : List Str → List Str → List Str
  | [], _ => []
  | x :: xs, seen => if x ∈ seen then dedupStr xs seen else x :: dedupStr xs (x :: seen)

/-- `overload_generator._operation_param_parts` (F12 repaired): the entries of `ordered_params` except the request body
    parameter - declared parameters of every location, then the path variables without a parameter object; required
    first; the identifier sanitised twice and `= None` for an optional one, as in the single-content signature. -/
def ovlParams (op : Op) : List PInfo := (orderedParams op).filter (fun p => p.loc ≠ .body)

def ovlPositional (op : Op) : List (Str × Bool) := (ovlParams op).map (fun p => (p.ident, p.required))

def ovlKeywordOnly (media : List Str) : List Str := dedupStr (media.map ctParam) []

def contentTypeParam : Str := "content_type".toList

/-- (identifier, required) of every parameter the emitted method accepts. -/
def sigOf (op : Op) : List (Str × Bool) :=
  if isMulti op then
    ovlPositional op
      ++ (ovlKeywordOnly ((op.body.map (·.media)).getD [])).map (·, false)
      ++ [(contentTypeParam, false)]
  else (orderedParams op).map (fun p => (p.ident, p.required))

/-! ## responses: primary selection (two copies), strategy, arms -/

/-- `str(n).startswith("2")` via the leading decimal digit (fuelled; `n` steps always suffice). -/
def leadDigitAux : Nat → Nat → Nat
  | 0, n => n
  | fuel + 1, n => if n < 10 then n else leadDigitAux fuel (n / 10)

def leadDigit (n : Nat) : Nat := leadDigitAux n n

/-- `status_code.startswith("2")` -/
def StatusKey.starts2 : StatusKey → Bool
  | .num n => leadDigit n == 2
  | .default => false
  | .other s => match s with
    | c :: _ => c == '2'
    | [] => false

/-- `status_code == "<code>"` -/
def StatusKey.isCode (k : StatusKey) (c : Nat) : Bool :=
  match k with
  | .num n => n == c
  | _ => false

def StatusKey.isDefault : StatusKey → Bool
  | .default => true
  | _ => false

/-- `status_code.isdigit()` / `int(status_code)` -/
def StatusKey.code? : StatusKey → Option Nat
  | .num n => some n
  | _ => none

def preferredCodes : List Nat := [200, 201, 202, 204]

/-- `IRResponse.status_code` as the python `str` it is. -/
def StatusKey.str : StatusKey → Str
  | .num n => natStr n
  | .default => "default".toList
  | .other s => s

/-- python `a < b` on `str`: lexicographic by code point. -/
def strLt : Str → Str → Bool
  | [], [] => false
  | [], _ :: _ => true
  | _ :: _, [] => false
  | a :: as, b :: bs => if a.toNat < b.toNat then true else if b.toNat < a.toNat then false else strLt as bs

/-- python `min(rs, key=lambda r: r.status_code)`: the FIRST element whose key is minimal. -/
def minByKey : List Resp → Option Resp
  | [] => none
  | r :: rs =>
    match minByKey rs with
    | none => some r
    | some m => if strLt m.key.str r.key.str then some m else some r

/-- `for r in sorted(rs, key=lambda r: r.status_code): if p(r): return r` — `sorted` is stable, so this is the
    first minimal element among those satisfying `p`. -/
def firstSortedWhere (p : Resp → Bool) (rs : List Resp) : Option Resp := minByKey (rs.filter p)

/-- response_strategy.py `_get_primary_response`: nested `for code … for response …` loops, then the lowest other
    2xx key, then `default`, then the lowest key (repaired F57: the last two steps no longer depend on the order of
    the `responses` mapping). -/
def primaryA.byCode (rs : List Resp) : List Nat → Option Resp
  | [] => none
  | c :: cs =>
    match rs.find? (fun r => r.key.isCode c) with
    | some r => some r
    | none => primaryA.byCode rs cs

def primaryA (rs : List Resp) : Option Resp :=
  if rs.isEmpty then none else
  match primaryA.byCode rs preferredCodes with
  | some r => some r
  | none =>
    match firstSortedWhere (fun r => r.key.starts2) rs with
    | some r => some r
    | none =>
      match rs.find? (fun r => r.key.isDefault) with
      | some r => some r
      | none => minByKey rs

/-- endpoint_utils.py `_get_primary_response`: `next((r for r in … if …), None)` per code, an
    `IRResponse` instance is always truthy. -/
def nextWhere (p : Resp → Bool) : List Resp → Option Resp
  | [] => none
  | r :: rs => if p r then some r else nextWhere p rs

def primaryB.loopCodes (rs : List Resp) : List Nat → Option Resp
  | [] => none
  | c :: cs =>
    match nextWhere (fun r => r.key.isCode c) rs with
    | some r => some r
    | none => primaryB.loopCodes rs cs

def primaryB (rs : List Resp) : Option Resp :=
  match primaryB.loopCodes rs preferredCodes with
  | some r => some r
  | none =>
    match firstSortedWhere (fun r => r.key.starts2) rs with
    | some r => some r
    | none =>
      match nextWhere (fun r => r.key.isDefault) rs with
      | some r => some r
      | none =>
        match rs with
        | _ :: _ => minByKey rs
        | [] => none

/-- The python type a schema shape resolves to (`UnifiedTypeService.resolve_schema_type`). -/
inductive PyTy
  | bytes | str | int | any
  | model (n : Str)
  | listModel (n : Str)
  deriving DecidableEq, Repr

def shapeTy : Shape → PyTy
  | .model n => .model n
  | .listModel n => .listModel n
  | .int => .int
  | .string => .str
  | .binary => .bytes
  | .noSchema => .any

/-- `_should_use_cattrs_structure(type string)` on these types. -/
def useCattrs : PyTy → Bool
  | .model _ => true
  | .listModel _ => true
  | _ => false

def isInfix (pat : Str) : Str → Bool
  | [] => pat.isEmpty
  | c :: cs => pat.isPrefixOf (c :: cs) || isInfix pat cs

def streamFormats : List Str :=
  ["application/octet-stream".toList, "text/event-stream".toList, "application/x-ndjson".toList,
   "application/json-seq".toList, "multipart/mixed".toList]

/-- loader/responses/parser.py: `IRResponse.stream`. -/
def respStream (r : Resp) : Bool :=
  r.content.any (fun m => lowerAscii m.mt ∈ streamFormats) || r.content.any (fun m => m.shape = .binary)

/-- `ct in ["application/octet-stream", "application/pdf"] or ct.startswith(("image/", "audio/", "video/"))` -/
def isBinaryCt (mt : Str) : Bool :=
  mt = "application/octet-stream".toList || mt = "application/pdf".toList ||
  startsWith mt "image/".toList || startsWith mt "audio/".toList || startsWith mt "video/".toList

/-- response_strategy `_get_response_schema`: `application/json`, else the first containing `json`, else the first. -/
def strategyMedia (content : List Media) : Option Media :=
  match content.find? (fun m => m.mt = mtJson) with
  | some m => some m
  | none =>
    match content.find? (fun m => isInfix "json".toList m.mt) with
    | some m => some m
    | none => content.head?

/-- response_handler_generator `_get_response_schema`: `application/json`, else the first. -/
def handlerMedia (content : List Media) : Option Media :=
  match content.find? (fun m => m.mt = mtJson) with
  | some m => some m
  | none => content.head?

/-- `ct.startswith("text/")` -/
def isTextCt (mt : Str) : Bool := startsWith mt "text/".toList

/-- `_resolve_content_type_to_python_type` -/
def ctTy (m : Media) : PyTy :=
  if isBinaryCt m.mt then .bytes
  else if isTextCt m.mt then (if m.shape = .binary then .bytes else .str)
  else shapeTy m.shape

def dedupTy : List PyTy → List PyTy → List PyTy
  | [], _ => []
  | x :: xs, seen => if x ∈ seen then dedupTy xs seen else x :: dedupTy xs (x :: seen)

/-- What `ResponseStrategy` says about the return statement. -/
inductive Strategy
  /-- `return_type == "None"` -/
  | none
  | single (t : PyTy)
  /-- one type and `_is_text_body`: `str` over `text/*` media types only — `return response.text` (repaired F32b) -/
  | text
  /-- `Union[...]` with a `content_type_mapping` (≥ 2 distinct types) -/
  | union (m : List (Str × PyTy))
  /-- `is_streaming` with `AsyncIterator[bytes]` in the return type -/
  | streamBytes
  /-- `is_streaming`, not bytes, and `_is_ndjson_stream`: `application/x-ndjson` declared, no event stream (repaired F43) -/
  | streamNdjson
  /-- `is_streaming`, anything else -/
  | streamSse
  deriving DecidableEq, Repr

def Strategy.isNone : Strategy → Bool
  | .none => true
  | _ => false

def Strategy.isUnion : Strategy → Bool
  | .union _ => true
  | _ => false

def Strategy.isStreaming : Strategy → Bool
  | .streamBytes => true
  | .streamNdjson => true
  | .streamSse => true
  | _ => false

def mtNdjson : Str := "application/x-ndjson".toList

/-- response_handler_generator `_is_ndjson_stream`: no key contains `event-stream` and some key, lower-cased, is
    `application/x-ndjson` (the response has content whenever a streaming strategy is not `AsyncIterator[bytes]`). -/
def isNdjsonStream (content : List Media) : Bool :=
  !content.any (fun m => isInfix "event-stream".toList m.mt) && content.any (fun m => lowerAscii m.mt = mtNdjson)

/-- The streaming arm of `_write_strategy_based_return` when the return type is not `AsyncIterator[bytes]`:
    `iter_ndjson` for an NDJSON stream, else the SSE parser. -/
def streamJson (content : List Media) : Strategy :=
  if isNdjsonStream content then .streamNdjson else .streamSse

/-- response_handler_generator `_is_text_body(response_ir, type)`: the type is `str`, the response has content and
    every media type key starts with `text/`. -/
def isTextBody (content : List Media) (t : PyTy) : Bool :=
  t = .str && !content.isEmpty && content.all (fun m => isTextCt m.mt)

/-- A non-streaming, non-`Union` return type in `_write_strategy_based_return`: `response.text` for a text body,
    else cattrs / `cast` on `response.json()`. -/
def singleOf (content : List Media) (t : PyTy) : Strategy :=
  if isTextBody content t then .text else .single t

/-- `ResponseStrategyResolver.resolve`, together with the decisions `_write_strategy_based_return` takes from
    `strategy.response_ir` rather than from the return type alone (`streamJson`, `singleOf`). -/
def resolveStrategy (rs : List Resp) : Strategy :=
  match primaryA rs with
  | none => .none
  | some p =>
    if p.content.isEmpty then .none
    else if respStream p then
      if p.content.any (fun m => isBinaryCt m.mt) then .streamBytes
      else if p.content.any (fun m => isInfix "event-stream".toList m.mt) then streamJson p.content
      else match strategyMedia p.content with
        | some m => if shapeTy m.shape = .bytes then .streamBytes else streamJson p.content
        | none => .streamBytes
    else if p.content.length > 1 then
      let mapping := p.content.map (fun m => (m.mt, ctTy m))
      match dedupTy (mapping.map (·.2)) [] with
      | [] => .none
      | [t] => singleOf p.content t
      | _ => .union mapping
    else
      match strategyMedia p.content with
      | some m => singleOf p.content (shapeTy m.shape)
      | none => .none

/-- What a `return` arm hands back (value-level decoding is not modelled). -/
inductive RetKind
  /-- `return None` -/
  | none
  /-- `structure_from_dict(response.json(), T)` -/
  | structure (t : PyTy)
  /-- `cast(T, response.json())` -/
  | cast (t : PyTy)
  /-- `response.text` -/
  | text
  /-- `response.content` -/
  | content
  /-- `async for chunk in iter_bytes(response): yield chunk` -/
  | streamBytes
  /-- `async for item in iter_ndjson(response): yield item` -/
  | streamNdjson
  /-- `async for chunk in iter_sse_events_text(response): yield json.loads(chunk)` -/
  | streamSse
  /-- a bare `return` reached in a method that is an async generator: the iteration ends without an item (F35 repaired) -/
  | streamEnd
  /-- `yield <value>` + bare `return` — the arm of another 2xx response in a streaming method (F35 repaired): the
      async iterator's only item is the value a non-streaming method would have returned -/
  | yieldOnce (k : RetKind)
  deriving DecidableEq, Repr

def tyRet (t : PyTy) : RetKind := if useCattrs t then .structure t else .cast t

/-- The per-response `return` of a 2xx response that is not the primary one. -/
def secondaryRet (r : Resp) : RetKind :=
  match handlerMedia r.content with
  | none => .none
  | some m => if isTextBody r.content (shapeTy m.shape) then .text else tyRet (shapeTy m.shape)

inductive Action
  | retNone
  /-- `_write_strategy_based_return` -/
  | retStrategy
  | retSecondary (k : RetKind)
  /-- `_write_secondary_return` for a streaming strategy, no value: a bare `return` (F35 repaired) -/
  | retStreamEnd
  /-- `_write_secondary_return` for a streaming strategy: `yield <value>` + bare `return` (F35 repaired) -/
  | yieldSecondary (k : RetKind)
  /-- `raise <alias>(response=response)` -/
  | raiseAlias (code : Nat)
  /-- `_write_raise_by_status_range(…, "Default error")`: `ClientError` / `ServerError` / `HTTPError` by range (F15 repaired) -/
  | raiseDefault
  /-- `raise HTTPError(…, message="Unhandled status code", …)` — the arm of a declared 1xx/3xx status -/
  | raiseUnhandled
  /-- `_write_raise_by_status_range(…, "Unhandled status code")` — the final catch-all (F15 repaired) -/
  | raiseCatchAll
  /-- the `case _:` arm of a `default` response with content (F40 repaired):
      `if 200 <= response.status_code < 300:` + `_write_strategy_based_return`, then `_write_raise_by_status_range(…, "Default error")` -/
  | retDefault
  deriving DecidableEq, Repr

/-- The arm ends in a `return` (or, for a streaming strategy, in the `yield` loop) whatever the status. -/
def Action.isReturn : Action → Bool
  | .retNone => true
  | .retStrategy => true
  | .retSecondary _ => true
  | .retStreamEnd => true
  | .yieldSecondary _ => true
  | _ => false

/-- The primary response gets the first `case` iff its key is all digits and starts with `2`. -/
def processedPrimary (rs : List Resp) : Option (Resp × Nat) :=
  match primaryB rs with
  | some p =>
    match p.key.code? with
    | some n => if p.key.starts2 then some (p, n) else none
    | none => none
  | none => none

/-- Is `x` the response that got the first (primary) `case`? -/
def isPrimaryArm (rs : List Resp) (x : Resp) : Bool :=
  match processedPrimary rs with
  | some (p, _) => decide (p = x)
  | none => false

/-- `other_responses` -/
def otherResponses (rs : List Resp) : List Resp :=
  match processedPrimary rs with
  | some (p, _) => rs.filter (fun r => !(r == p))
  | none => rs

/-- response_handler_generator `_write_secondary_return(writer, strategy, value)` (F35 repaired) as called by the arm of
    a 2xx response that is not the primary one: `return <value>` unless `strategy.is_streaming`; in a streaming method
    (an async generator, where `return <value>` is a SyntaxError) `yield <value>` - nothing for `None` - and a bare
    `return`. -/
def secondaryAction (streaming : Bool) (r : Resp) : Action :=
  if r.content.isEmpty then (if streaming then .retStreamEnd else .retNone)
  else (if streaming then .yieldSecondary (secondaryRet r) else .retSecondary (secondaryRet r))

/-- `streaming` = `strategy.is_streaming` of the operation. -/
def otherArm (streaming : Bool) (r : Resp) : Option (Nat × Action) :=
  match r.key.code? with
  | none => none
  | some n =>
    if r.key.starts2 then
      some (n, secondaryAction streaming r)
    -- `elif is_error_code(code): raise <alias>` / `else: raise HTTPError(…"Unhandled status code"…)` (F3 repaired)
    else some (n, if (aliasBase n).isSome then .raiseAlias n else .raiseUnhandled)

/-- The `case <int>:` arms of the emitted `match`, in order. -/
def arms (rs : List Resp) : List (Nat × Action) :=
  let first := match processedPrimary rs with
    | some (_, n) => [(n, if (resolveStrategy rs).isNone then Action.retNone else Action.retStrategy)]
    | none => []
  first ++ (otherResponses rs).filterMap (otherArm (resolveStrategy rs).isStreaming)

/-- The `case _:` arm. -/
def defaultAction (rs : List Resp) : Action :=
  match rs.find? (fun r => r.key.isDefault) with
  | some d => if !d.content.isEmpty && !(resolveStrategy rs).isNone then .retDefault else .raiseDefault
  | none => .raiseCatchAll

/-- `match response.status_code:` — first arm with an equal literal, else `case _`. -/
def selectAction (rs : List Resp) (status : Nat) : Action :=
  match (arms rs).find? (fun a => a.1 == status) with
  | some a => a.2
  | none => defaultAction rs

/-! ## can the emitted module be imported at all? -/

/-- The emitted method contains a `yield`, i.e. CPython compiles it to an async generator: a streaming strategy return is
    emitted (for the primary response or in the arm of a `default` response with content) or the arm of another 2xx
    response of a streaming method yields its value (F35 repaired: such an arm used to be `return <value>`, a
    SyntaxError next to a `yield`). -/
def isAsyncGen (rs : List Resp) : Bool :=
  (resolveStrategy rs).isStreaming &&
    ((processedPrimary rs).isSome || defaultAction rs == .retDefault ||
     (otherResponses rs).any (fun r => r.key.code?.isSome && r.key.starts2 && !r.content.isEmpty))

def badLitChar (c : Char) : Bool := c == '{' || c == '}' || c == '"' || c == '\\' || c == '\n' || c == '\r'

/-- Literal path text and original parameter names are pasted into `f"…"` / `"…"` literals. -/
def literalsOk (op : Op) : Bool :=
  op.path.all (fun s => match s with
    | .lit t => !t.any badLitChar
    | .var v => !(sanMethod v).isEmpty) &&
  op.params.all (fun p => !p.name.any badLitChar)

/-- All parameter names of the emitted `def`, `self` included. -/
def defNames (op : Op) : List Str := "self".toList :: (sigOf op).map (·.1)

def moduleOk (op : Op) : Bool :=
  decide (defNames op).Nodup && (defNames op).all (fun n => !n.isEmpty) && literalsOk op

/-! ## the request -/

/-- A caller-side value after `DataclassSerializer.serialize`: `None`, a `str`, or anything else. -/
inductive GValue
  | none
  | str (tok : Str)
  | other (tok : Str)
  deriving DecidableEq, Repr

/-- Keyword arguments of the call: identifier ↦ value. -/
abbrev GArgs := List (Str × GValue)

def argGet : GArgs → Str → Option GValue
  | [], _ => none
  | (k, v) :: r, i => if k = i then some v else argGet r i

/-- The value of a local: the argument, or the `= None` default. -/
def argVal (args : GArgs) (ident : Str) : GValue := (argGet args ident).getD .none

inductive Piece
  | lit (s : Str)
  /-- `{ident}` inside the f-string: `format(value)` -/
  | val (v : GValue)
  deriving DecidableEq, Repr

inductive BodyArg
  | none
  /-- `json=` -/
  | json (v : GValue)
  /-- `files=` -/
  | files (v : GValue)
  /-- `data=` (form-encoded for a dict, raw for bytes) -/
  | data (v : GValue)
  deriving DecidableEq, Repr

/-- The arguments of the one `self._transport.request(method, url, …)` call. -/
structure Request where
  method : Str
  /-- `url` after `self.base_url` -/
  path : List Piece
  /-- `params=`; `none` = `params=None` -/
  query : Option (List (Str × GValue))
  /-- `headers=`; `none` = `headers=None` -/
  headers : Option (List (Str × GValue))
  body : BodyArg
  /-- `cookies=` (the `Cookie` header httpx builds from it); `none` = the call has no `cookies` keyword -/
  cookies : Option (List (Str × GValue)) := none
  deriving DecidableEq, Repr

inductive CallErr
  /-- the module does not compile / import -/
  | moduleError
  /-- unexpected keyword or missing required argument -/
  | typeError
  /-- unbound name in the method body -/
  | nameError
  /-- `raise ValueError("One of the content-type parameters must be provided")` -/
  | valueError
  /-- httpx: `Header value must be str or bytes` -/
  | headerTypeError
  /-- http.cookiejar under httpx: `expected string or bytes-like object` for a cookie value -/
  | cookieTypeError
  deriving DecidableEq, Repr

instance decEqExceptGen {ε α : Type} [DecidableEq ε] [DecidableEq α] : DecidableEq (Except ε α)
  | .ok a, .ok b => if h : a = b then isTrue (by rw [h]) else isFalse (fun h' => h (Except.ok.inj h'))
  | .error a, .error b => if h : a = b then isTrue (by rw [h]) else isFalse (fun h' => h (Except.error.inj h'))
  | .ok _, .error _ => isFalse (fun h => by cases h)
  | .error _, .ok _ => isFalse (fun h => by cases h)

/-- CPython's argument binding for a call with keywords only. -/
def bindOk (sig : List (Str × Bool)) (args : GArgs) : Bool :=
  args.all (fun kv => sig.any (fun s => s.1 = kv.1)) &&
  sig.all (fun s => !s.2 || (argGet args s.1).isSome)

/-- `url = f"{self.base_url}<path with {sanitised var}>"`; `locals` = the parameters of the `def`. -/
def urlPieces (locals : List Str) (args : GArgs) : List Seg → Except CallErr (List Piece)
  | [] => .ok []
  | .lit s :: r =>
    match urlPieces locals args r with
    | .ok ps => .ok (.lit s :: ps)
    | .error e => .error e
  | .var v :: r =>
    if sanMethod v ∈ locals then
      match urlPieces locals args r with
      | .ok ps => .ok (.val (argVal args (sanMethod v)) :: ps)
      | .error e => .error e
    else .error .nameError

/-- One line of the `params` / `headers` dict display. -/
def dictEntry (args : GArgs) (p : PInfo) : Option (Str × GValue) :=
  if p.required then some (p.orig, argVal args p.ident)
  else if argVal args p.ident = .none then none
  else some (p.orig, argVal args p.ident)

def dictEntries (loc : SLoc) (ps : List PInfo) (args : GArgs) : List (Str × GValue) :=
  (ps.filter (fun p => p.loc = loc)).filterMap (dictEntry args)

def GValue.isStr : GValue → Bool
  | .str _ => true
  | _ => false

/-- The text of `str(v)`: the token of a value IS its string form (`str(None)` is `None`). -/
def GValue.tok : GValue → Str
  | .none => "None".toList
  | .str t => t
  | .other t => t

/-- `url_args_generator._string_value_expr` (F39 repaired), the expression a header / cookie entry is written with:
    `str(serialize(v))` for an `int` / `float` parameter, `str(serialize(v)).lower()` for a `bool` one (httpx's
    spelling `true` / `false` of a query boolean), `serialize(v)` unconverted for every other declared type.
    (`lowerAscii`: exact on what `str` makes of a bool, a number or `None`; python's `.lower()` also lowers
    non-ASCII capitals of a `str` passed where a boolean is declared.) -/
def strValue (k : PKind) (v : GValue) : GValue :=
  match k with
  | .plain => v
  | .num => .str v.tok
  | .bool => .str (lowerAscii v.tok)

/-- One line of the `headers` / `cookies` dict display: the line of `dictEntry` with the value written through
    `_string_value_expr` (the `is not None` test of an optional one is on the argument itself). -/
def strEntry (args : GArgs) (p : PInfo) : Option (Str × GValue) :=
  (dictEntry args p).map (fun e => (e.1, strValue p.kind e.2))

/-- `_write_header_params` (`loc = header`) / `_write_cookie_params` (`loc = cookie`, F11 repaired). -/
def strEntries (loc : SLoc) (ps : List PInfo) (args : GArgs) : List (Str × GValue) :=
  (ps.filter (fun p => p.loc = loc)).filterMap (strEntry args)

def headerValuesOk (h : Option (List (Str × GValue))) : Bool :=
  match h with
  | none => true
  | some es => es.all (fun e => e.2.isStr)

def GValue.isOther : GValue → Bool
  | .other _ => true
  | _ => false

/-- http.cookiejar (`_cookie_attrs`, reached from `httpx.Request.__init__`): `non_word_re.search(cookie.value)` raises
    `TypeError` for a value that is neither `None` nor a `str`; a `None` value is written as the bare cookie name. -/
def cookieValuesOk (c : Option (List (Str × GValue))) : Bool :=
  match c with
  | none => true
  | some es => es.all (fun e => !e.2.isOther)

/-- httpx ignores a keyword whose value is `None`. -/
def mkBody (k : GValue → BodyArg) (v : GValue) : BodyArg := if v = .none then .none else k v

/-- The path with every `{var}` replaced by the value bound to the sanitised variable name. -/
def substPath (args : GArgs) : List Seg → List Piece
  | [] => []
  | .lit s :: r => .lit s :: substPath args r
  | .var v :: r => .val (argVal args (sanMethod v)) :: substPath args r

/-- `params: dict[str, Any] = {…}` — written iff some parameter is `in: query`; `params=None` otherwise. -/
def stdQuery (op : Op) (args : GArgs) : Option (List (Str × GValue)) :=
  if (orderedParams op).any (fun p => p.loc = .query) then some (dictEntries .query (orderedParams op) args)
  else none

/-- `headers: dict[str, Any] = {…}` — written iff some parameter is `in: header`. -/
def stdHeaders (op : Op) (args : GArgs) : Option (List (Str × GValue)) :=
  if (orderedParams op).any (fun p => p.loc = .header) then some (strEntries .header (orderedParams op) args)
  else none

/-- `cookies: dict[str, Any] = {…}` — written iff some parameter is `in: cookie`, and then `cookies=cookies` is passed
    to the transport call (F11 repaired); no `cookies` keyword at all otherwise. -/
def stdCookies (op : Op) (args : GArgs) : Option (List (Str × GValue)) :=
  if (orderedParams op).any (fun p => p.loc = .cookie) then some (strEntries .cookie (orderedParams op) args)
  else none

/-- The body keyword of the single-content method. -/
def stdBody (op : Op) (args : GArgs) : Except CallErr BodyArg :=
  match op.body with
  | none => .ok .none
  | some b =>
    match primaryBody b.media with
    | none => .ok .none
    | some (_, .json) => .ok (mkBody .json (argVal args "body".toList))
    | some (_, .files) => .ok (mkBody .files (argVal args "files".toList))
    | some (_, .form) => .ok (mkBody .data (argVal args "form_data".toList))
    | some (mt, .bytes) =>
      -- request_generator: `elif "multipart/form-data" in primary_content_type: files=files_data`,
      -- but url_args_generator only defined `bytes_body`
      if isInfix mtMultipart mt then .error .nameError
      else .ok (mkBody .data (argVal args "bytes_content".toList))

/-- The `self._transport.request(method, url, params=…, <body keyword>, headers=…[, cookies=…])` call with the dicts
    `generate_url_and_args` wrote - the same for the single-content method and (F12 repaired) for every branch of the
    implementation method for several media types. -/
def sendRequest (op : Op) (args : GArgs) (pieces : List Piece) (b : BodyArg) : Except CallErr Request :=
  if !headerValuesOk (stdHeaders op args) then .error .headerTypeError
  else if !cookieValuesOk (stdCookies op args) then .error .cookieTypeError
  else .ok { method := op.method, path := pieces, query := stdQuery op args, headers := stdHeaders op args, body := b,
             cookies := stdCookies op args }

/-- The single-content (or body-less) method: `generate_url_and_args` + `generate_request_call`. -/
def buildStd (op : Op) (args : GArgs) : Except CallErr Request :=
  if !bindOk (sigOf op) args then .error .typeError else
  match urlPieces ((orderedParams op).map (·.ident)) args op.path with
  | .error e => .error e
  | .ok pieces =>
    match stdBody op args with
    | .error e => .error e
    | .ok b => sendRequest op args pieces b

/-- The `if … is not None: … elif …` chain over the media types in spec order. -/
def dispatchBody (args : GArgs) : List Str → Option BodyArg
  | [] => none
  | mt :: r =>
    let v := argVal args (ctParam mt)
    if v = .none then dispatchBody args r
    else if mt = mtJson then some (.json v)
    else if mt = mtMultipart then some (.files v)
    else some (.data v)

/-- The body keyword of the implementation method for several media types: the branch of the runtime dispatch that is
    taken; the final `else:` (F62 repaired) is `raise ValueError(…)` when the requestBody is required, else the call
    without a body keyword. -/
def ovlBody (op : Op) (args : GArgs) : Except CallErr BodyArg :=
  match dispatchBody args ((op.body.map (·.media)).getD []) with
  | none => if (op.body.map (·.required)).getD true then .error .valueError else .ok .none
  | some b => .ok b

/-- `_generate_implementation_method` for ≥ 2 request media types (F12 repaired): `generate_url_and_args` on the
    parameters of `_operation_param_parts` (url, `params`, `headers`, `cookies` as in the single-content method), then
    the runtime dispatch, every branch passing those dicts. -/
def buildOvl (op : Op) (args : GArgs) : Except CallErr Request :=
  if !bindOk (sigOf op) args then .error .typeError else
  match urlPieces ((sigOf op).map (·.1)) args op.path with
  | .error e => .error e
  | .ok pieces =>
    match ovlBody op args with
    | .error e => .error e
    | .ok b => sendRequest op args pieces b

/-- Awaiting the emitted method: either it fails before the transport is reached, or the transport is
    called exactly once with this request. -/
def buildRequest (op : Op) (args : GArgs) : Except CallErr Request :=
  if !moduleOk op then .error .moduleError
  else if isMulti op then buildOvl op args
  else buildStd op args

/-- The transport calls made by one invocation. -/
def wire (op : Op) (args : GArgs) : List Request :=
  match buildRequest op args with
  | .ok r => [r]
  | .error _ => []

/-! ## the response -/

inductive TransportKind
  /-- the bundled `HttpxTransport` -/
  | bundled
  /-- a user transport that hands every `httpx.Response` back -/
  | passthrough
  deriving DecidableEq, Repr

structure Reply where
  status : Nat
  /-- the `Content-Type` header, if any -/
  ctype : Option Str
  deriving DecidableEq, Repr

inductive ExcCls
  | httpError
  | clientError
  | serverError
  /-- the status-specific alias class `get_exception_class_name(code)` -/
  | alias (code : Nat)
  deriving DecidableEq, Repr

/-- `isinstance(e, ClientError)` -/
def ExcCls.isClient : ExcCls → Bool
  | .clientError => true
  | .alias c => aliasBase c == some .clientError
  | _ => false

/-- `isinstance(e, ServerError)` -/
def ExcCls.isServer : ExcCls → Bool
  | .serverError => true
  | .alias c => aliasBase c == some .serverError
  | _ => false

inductive RaiseWhy
  | transport | aliasArm | defaultArm | unhandledArm
  deriving DecidableEq, Repr

inductive Outcome
  | moduleError
  /-- `NameError: name 'structure_from_dict' is not defined` — the arm uses a name the module never imported -/
  | nameError
  | returned (k : RetKind)
  /-- `status` = `e.status_code`; `withResponse` = `e.response is the httpx.Response` -/
  | raised (cls : ExcCls) (status : Nat) (withResponse : Bool) (why : RaiseWhy)
  deriving DecidableEq, Repr

/-- http_transport.py:193-199 -/
def bundledClass (s : Nat) : ExcCls :=
  if 400 ≤ s ∧ s < 500 then .clientError
  else if 500 ≤ s ∧ s < 600 then .serverError
  else .httpError

/-- response_handler_generator `_write_raise_by_status_range` (F15 repaired), the emitted
    `if 400 <= response.status_code < 500: raise ClientError(…)` / `if 500 <= response.status_code < 600: raise ServerError(…)` /
    `raise HTTPError(…)`. -/
def rangeClass (s : Nat) : ExcCls :=
  if 400 ≤ s ∧ s < 500 then .clientError
  else if 500 ≤ s ∧ s < 600 then .serverError
  else .httpError

def isPyWs (c : Char) : Bool := c == ' ' || c == '\t' || c == '\n' || c == '\r' || c == '\x0b' || c == '\x0c'

def stripWs (s : Str) : Str := (s.dropWhile isPyWs).reverse.dropWhile isPyWs |>.reverse

/-- `response.headers.get("content-type", "").split(";")[0].strip().lower()` -/
def normCtype (h : Option Str) : Str :=
  lowerAscii (stripWs ((h.getD []).takeWhile (· != ';')))

/-- one arm of the dispatch: `bytes` -> `response.content`; `str` under a media type whose lower-cased name does not contain
    `json` -> `response.text`; everything else (a `str` of a JSON media type included, repaired F69) as for a single type -/
def tyDispatchRet (k : Str) (t : PyTy) : RetKind :=
  if t = .bytes then .content
  else if t = .str ∧ isInfix "json".toList (lowerAscii k) = false then .text
  else tyRet t

/-- `_write_content_type_conditional_handling`: `if`/`elif` on all but the last entry, `else` for the last. -/
def unionDispatch (ct : Str) : List (Str × PyTy) → RetKind
  | [] => .none
  | [(k, t)] => tyDispatchRet k t
  | (k, t) :: rest => if ct = lowerAscii k then tyDispatchRet k t else unionDispatch ct rest

def strategyRet (s : Strategy) (r : Reply) : RetKind :=
  match s with
  | .none => .none
  | .single t => tyRet t
  | .text => .text
  | .union m => unionDispatch (normCtype r.ctype) m
  | .streamBytes => .streamBytes
  | .streamNdjson => .streamNdjson
  | .streamSse => .streamSse

def RetKind.needsStructure : RetKind → Bool
  | .structure _ => true
  | .yieldOnce k => k.needsStructure
  | _ => false

/-- Does the emitted module import `structure_from_dict`?  `context.add_import(…, "structure_from_dict")`
    is executed by `_write_strategy_based_return` for a non-streaming, non-`Union` return type that uses
    cattrs (response_handler_generator.py:567-570) and by the per-response arm of another 2xx response
    that uses cattrs (`_register_cattrs_import`, line 479) and, since the repair of F58, by the `Union`
    content-type dispatch for each entry that uses cattrs.
    ASSUMPTION: the operation is alone in its tag module (imports are collected per module; a sibling
    operation could supply the import). -/
def Strategy.usesStructure : Strategy → Bool
  | .single t => useCattrs t
  -- `_write_content_type_conditional_handling` registers the import for every cattrs entry it writes (repaired F58)
  | .union m => m.any (fun e => useCattrs e.2)
  | _ => false

def importsStructure (rs : List Resp) : Bool :=
  ((resolveStrategy rs).usesStructure &&
   ((processedPrimary rs).isSome || defaultAction rs == .retDefault)) ||
  (otherResponses rs).any (fun r => match otherArm (resolveStrategy rs).isStreaming r with
    | some (_, .retSecondary k) => k.needsStructure
    | some (_, .yieldSecondary k) => k.needsStructure
    | _ => false)

def returnOf (rs : List Resp) (k : RetKind) : Outcome :=
  if k.needsStructure && !importsStructure rs then .nameError else .returned k

def runAction (rs : List Resp) (r : Reply) : Action → Outcome
  | .retNone => .returned .none
  | .retStrategy => returnOf rs (strategyRet (resolveStrategy rs) r)
  | .retSecondary k => returnOf rs k
  -- a bare `return`: the end of the iteration when the method is an async generator, `None` from a coroutine
  | .retStreamEnd => .returned (if isAsyncGen rs then .streamEnd else .none)
  | .yieldSecondary k => returnOf rs (.yieldOnce k)
  | .raiseAlias c => .raised (.alias c) r.status true .aliasArm
  | .raiseDefault => .raised (rangeClass r.status) r.status true .defaultArm
  | .raiseUnhandled => .raised .httpError r.status true .unhandledArm
  | .raiseCatchAll => .raised (rangeClass r.status) r.status true .unhandledArm
  | .retDefault =>
    if 200 ≤ r.status ∧ r.status < 300 then returnOf rs (strategyRet (resolveStrategy rs) r)
    else .raised (rangeClass r.status) r.status true .defaultArm

/-- What the caller observes when the server answers `r` (the request itself went out). -/
def handle (t : TransportKind) (op : Op) (r : Reply) : Outcome :=
  if !moduleOk op then .moduleError else
  match t with
  | .bundled =>
    if r.status < 200 ∨ r.status ≥ 300 then .raised (bundledClass r.status) r.status true .transport
    else runAction op.responses r (selectAction op.responses r.status)
  | .passthrough => runAction op.responses r (selectAction op.responses r.status)

end Pog.GenCode
