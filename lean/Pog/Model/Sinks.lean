import Pog.Model.PyLex
import Pog.Model.Stream
/-
  M-sinks — the places where free text of the OpenAPI document is pasted into generated code, one
  `render…` function per sink class, mirroring the Python f-strings character for character.

    literal sinks   (no escaping at all)          python_construct_renderer.py:99-123,207-211,321-335
                                                  url_args_generator.py:56-95, overload_generator.py:134
    default sink    `json.dumps(s)`               dataclass_generator.py:378-380
    comment sink    `# ` + text.replace("\n"," ") python_construct_renderer.py:296-311
    docstring sinks `"""…"""`                     python_construct_renderer.py:144-148 (alias, escaped),
                                                  documentation_writer.py (class / method docstrings),
                                                  client_visitor.py:116-150,184, endpoint_visitor.py:214

  Trusted executable descriptions (checked by vf/corr/c15.py only): `jsonEscChar` = what CPython's
  `json.dumps` (ensure_ascii=True) does per character; `splitLines`/`stripWs` (from M-stream) =
  `str.splitlines`/`str.strip`.  `textwrap.TextWrapper.wrap` and `textwrap.dedent` are NOT modelled:
  they are parameters (`Wrap`, `Dedent`) of the docstring renderers — the correspondence records the
  real calls and hands the table to the driver; the theorems quantify over every such function that
  only rearranges characters (`WrapSafe`).
-/
namespace Pog

/-! ## Literal sinks: `f'"{text}"'` -/

/-- `'"' + s + '"'`. -/
def renderLit (s : Str) : Str := '"' :: (s ++ ['"'])

/-- `f'{member_name} = "{value}"'` (render_enum, `str` enums). -/
def renderEnumMember (name value : Str) : Str := name ++ " = ".toList ++ renderLit value

/-- `f'"{api_field}": "{python_field}",'` (Meta.key_transform_with_load; `…_dump` swaps the arguments). -/
def renderMetaEntry (api py : Str) : Str := renderLit api ++ ": ".toList ++ renderLit py ++ [',']

/-- `f'    "{original_name}": DataclassSerializer.serialize({var}),'` (required query / header parameter). -/
def renderDictKey (name var : Str) : Str :=
  "    ".toList ++ renderLit name ++ ": DataclassSerializer.serialize(".toList ++ var ++ "),".toList

/-- `f'    **({{"{original_name}": DataclassSerializer.serialize({var})}} if {var} is not None else {{}}),'`. -/
def renderDictKeyOpt (name var : Str) : Str :=
  "    **({".toList ++ renderLit name ++ ": DataclassSerializer.serialize(".toList ++ var ++ ")} if ".toList
    ++ var ++ " is not None else {}),".toList

/-- `f'    property_name: str = "{discriminator.property_name}"'`. -/
def renderDiscProp (prop : Str) : Str := "    property_name: str = ".toList ++ renderLit prop

/-- `f'        ("{disc_value}", "{schema_name}"),'`. -/
def renderDiscPair (value schema : Str) : Str :=
  "        (".toList ++ renderLit value ++ ", ".toList ++ renderLit schema ++ "),".toList

/-- `f'            "{disc_value}": {schema_name},'`. -/
def renderDiscEntry (value schema : Str) : Str :=
  "            ".toList ++ renderLit value ++ ": ".toList ++ schema ++ [',']

/-- `f'content_type: Literal["{content_type}"] = "{content_type}"'`. -/
def renderLiteralCt (ct : Str) : Str :=
  "content_type: Literal[".toList ++ renderLit ct ++ "] = ".toList ++ renderLit ct

/-! ## Default sink: `json.dumps(s)` -/

def hexDigitLower (n : Nat) : Char :=
  if n < 10 then Char.ofNat (48 + n) else Char.ofNat (87 + n)

/-- `'{0:04x}'.format(n)` for `n < 0x10000`. -/
def hex4 (n : Nat) : Str :=
  [hexDigitLower (n / 4096 % 16), hexDigitLower (n / 256 % 16), hexDigitLower (n / 16 % 16), hexDigitLower (n % 16)]

/-- `json.encoder.py_encode_basestring_ascii` for one character: `"` `\` and the five short control
    escapes, printable ASCII unchanged, everything else `\uXXXX` — astral characters as a UTF-16
    surrogate PAIR of two `\uXXXX`. -/
def jsonEscChar (c : Char) : Str :=
  if c == '"' then ['\\', '"']
  else if c == '\\' then ['\\', '\\']
  else if c == '\n' then ['\\', 'n']
  else if c == '\r' then ['\\', 'r']
  else if c == '\t' then ['\\', 't']
  else if c.toNat == 12 then ['\\', 'f']
  else if c.toNat == 8 then ['\\', 'b']
  else if 32 ≤ c.toNat && c.toNat ≤ 126 then [c]
  else if c.toNat < 0x10000 then '\\' :: 'u' :: hex4 c.toNat
  else '\\' :: 'u' :: (hex4 (0xd800 + (c.toNat - 0x10000) / 1024)
        ++ '\\' :: 'u' :: hex4 (0xdc00 + (c.toNat - 0x10000) % 1024))

/-- `'"' + json.dumps(s)[1:-1] + '"'` = `json.dumps(s)`. -/
def renderDefaultStr (s : Str) : Str := '"' :: (s.flatMap jsonEscChar ++ ['"'])

/-- What Python makes of the characters when it reads the `json.dumps` text back as a Python literal:
    UTF-16 code units (astral characters become two lone surrogates). -/
def utf16Cps : Str → CpStr
  | [] => []
  | c :: cs =>
    if c.toNat < 0x10000 then c.toNat :: utf16Cps cs
    else (0xd800 + (c.toNat - 0x10000) / 1024) :: (0xdc00 + (c.toNat - 0x10000) % 1024) :: utf16Cps cs

/-! ## Comment sink -/

/-- `field_desc.replace("\n", " ")`. -/
def replaceNl (s : Str) : Str := s.map (fun c => if c == '\n' then ' ' else c)

/-- The comment token of `line += f"  # {comment_text}"`. -/
def renderFieldComment (desc : Str) : Str := '#' :: ' ' :: replaceNl desc

/-- The whole field line of render_dataclass (`default = none` for required fields; `desc` empty = falsy). -/
def renderFieldLine (name typ : Str) (default : Option Str) (desc : Str) : Str :=
  name ++ ": ".toList ++ typ ++ (match default with | some d => " = ".toList ++ d | none => [])
    ++ (if desc.isEmpty then [] else ' ' :: ' ' :: renderFieldComment desc)

/-! ## `str.replace` for a pattern of one or three EQUAL characters (leftmost, non-overlapping) -/

/-- `s.replace(ch, rep)`. -/
def replace1 (ch : Char) (rep : Str) (s : Str) : Str := s.flatMap (fun c => if c == ch then rep else [c])

/-- `s.replace(ch*3, rep)`: `q` = number of pending `ch` (0,1,2) not yet emitted. -/
def replace3Run (ch : Char) (rep : Str) (q : Nat) : Str → Str
  | [] => List.replicate q ch
  | c :: cs =>
    if c == ch then
      (if q ≥ 2 then rep ++ replace3Run ch rep 0 cs else replace3Run ch rep (q + 1) cs)
    else List.replicate q ch ++ c :: replace3Run ch rep 0 cs

def replace3 (ch : Char) (rep : Str) (s : Str) : Str := replace3Run ch rep 0 s

/-! ## Alias docstring (the one sink that escapes) -/

/-- `description.replace("\\", "\\\\").replace('"""', '\\"\\"\\"')`. -/
def aliasEscape (s : Str) : Str :=
  replace3 '"' ['\\', '"', '\\', '"', '\\', '"'] (replace1 '\\' ['\\', '\\'] s)

/-- `f'"""Alias for {safe_desc_content}"""'`. -/
def renderAliasDoc (s : Str) : Str :=
  "\"\"\"Alias for ".toList ++ aliasEscape s ++ "\"\"\"".toList

/-! ## One-line docstrings with the tag pasted in -/

/-- client_visitor.py:184 `f'"""Client for \'{tag}\' endpoints."""'`. -/
def renderTagPropDoc (tag : Str) : Str :=
  "\"\"\"Client for '".toList ++ tag ++ "' endpoints.\"\"\"".toList

/-- endpoint_visitor.py:214. -/
def renderTagClassDoc (tag : Str) : Str :=
  "\"\"\"Client for ".toList ++ tag
    ++ " endpoints. Uses HttpTransport for all HTTP and header management.\"\"\"".toList

/-! ## `LineWriter` -/

/-- `textwrap.TextWrapper(width, initial_indent="", subsequent_indent=" "*k, break_long_words=True,
    break_on_hyphens=True).wrap(text)` as a parameter: `W width k text`. -/
abbrev Wrap := Nat → Nat → Str → List Str
/-- `textwrap.dedent` as a parameter. -/
abbrev Dedent := Str → Str

def spaces (n : Nat) : Str := List.replicate n ' '

/-- `LineWriter`: `lines = done ++ [cur]`, `indent_str` is always four spaces. -/
structure LW where
  done : List Str
  cur : Str
  level : Nat
  justNl : Bool
  width : Nat
deriving Repr

def LW.new (width : Nat) (level : Nat) : LW := ⟨[], [], level, true, width⟩

def LW.append (w : LW) (t : Str) : LW :=
  if w.cur.isEmpty && w.justNl then { w with cur := spaces (4 * w.level) ++ t, justNl := false }
  else { w with cur := w.cur ++ t, justNl := false }

def LW.newline (w : LW) : LW := { w with done := w.done ++ [w.cur], cur := [], justNl := true }

/-- `_get_current_column`. -/
def LW.column (w : LW) : Nat := if w.cur.length = 0 then w.level * 4 else w.cur.length

def LW.lines (w : LW) : List Str := w.done ++ [w.cur]

def LW.getvalue (w : LW) : Str := joinWith ['\n'] w.lines

/-- `move_to_column` (pads to `col - 1`, as the code does). -/
def LW.moveTo (w : LW) (col : Nat) : LW :=
  if w.cur.length < col then { w with cur := w.cur ++ spaces (col - w.cur.length - 1) } else w

/-- `replace_current_line` after `newline`, for each further wrapped line. -/
def LW.putLines (w : LW) : List Str → LW
  | [] => w
  | l :: ls => LW.putLines { w.newline with cur := l } ls

/-- `append_wrapped`. -/
def LW.appendWrapped (W : Wrap) (w : LW) (text : Str) : LW :=
  if text.isEmpty then w else
  let w1 := if w.width ≤ w.column then w.newline else w
  let wrapCol := w1.column
  let pre := w1.cur ++ spaces (wrapCol - w1.cur.length)
  match W w1.width wrapCol (pre ++ text) with
  | [] => w1
  | l :: ls => LW.putLines { w1 with cur := l } ls

/-! ## `DocumentationWriter.render_docstring` -/

/-- One entry of `DocumentationBlock.args`: `(name, type, desc)` or `(name, desc)`. -/
structure DocArg where
  name : Str
  typ : Option Str
  desc : Str
deriving Repr

/-- `DocumentationBlock` (`summary`/`description` empty = falsy = absent). -/
structure DocBlock where
  summary : Str
  description : Str
  args : List DocArg
  returns : Option (Str × Str)
  raises : List (Str × Str)
deriving Repr

def docWidth : Nat := 88
def docMinCol : Nat := 30

/-- `DocumentationFormatter.wrap(text, indent)`. -/
def fmtWrap (W : Wrap) (text : Str) (indent : Nat) : List Str :=
  if text.isEmpty then [] else
  splitLines (LW.appendWrapped W (LW.new docWidth (indent / 4)) text).getvalue

def argPrefix (a : DocArg) : Str :=
  match a.typ with
  | some t => a.name ++ " (".toList ++ t ++ [')']
  | none => a.name

/-- `render_short_prefix_arg` / `render_long_prefix_arg` selected as in `render_args`. -/
def renderArg (W : Wrap) (indent : Nat) (a : DocArg) : List Str :=
  let pre := argPrefix a
  let w0 := (LW.new docWidth (indent / 4)).append pre
  let w1 := if indent + pre.length ≤ docMinCol then w0 else w0.newline
  splitLines (LW.appendWrapped W ((w1.moveTo docMinCol).append [':', ' ']) a.desc).getvalue

def renderReturns (W : Wrap) (indent : Nat) (r : Str × Str) : List Str :=
  let w0 := ((LW.new docWidth (indent / 4)).append (r.1 ++ [':'])).append [' ']
  splitLines (LW.appendWrapped W w0 r.2).getvalue

def raisesLoop (W : Wrap) (w : LW) : List (Str × Str) → LW
  | [] => w
  | (code, desc) :: rest =>
    let w1 := w.newline.append ("    ".toList ++ code ++ [':'])
    let w2 := if (stripWs desc).isEmpty then w1 else LW.appendWrapped W (w1.append [' ']) desc
    raisesLoop W w2 rest

def renderRaises (W : Wrap) (indent : Nat) (rs : List (Str × Str)) : List Str :=
  splitLines (raisesLoop W ((LW.new docWidth (indent / 4)).append "HttpError:".toList) rs).getvalue

def tq3 : Str := ['"', '"', '"']

/-- The `lines` list of `render_docstring` (before `"\n".join`). -/
def docstringLines (W : Wrap) (d : DocBlock) (indent : Nat) : List Str :=
  [tq3]
  ++ (if d.summary.isEmpty then [] else fmtWrap W d.summary indent)
  ++ (if d.description.isEmpty then []
      else (if d.summary.isEmpty then [] else [[]]) ++ fmtWrap W d.description indent)
  ++ (if d.args.isEmpty then [] else [[], "Args:".toList] ++ d.args.flatMap (renderArg W (indent + 4)))
  ++ (match d.returns with
      | some r => [[], "Returns:".toList] ++ renderReturns W (indent + 4) r
      | none => [])
  ++ (if d.raises.isEmpty then [] else [[], "Raises:".toList] ++ renderRaises W (indent + 4) d.raises)
  ++ [tq3]

/-- `DocumentationWriter(width=88).render_docstring(doc, indent=0)`. -/
def renderDocstring (W : Wrap) (d : DocBlock) : Str := joinWith ['\n'] (docstringLines W d 0)

/-- `for line in docstring.splitlines(): writer.write_line(line)` at indentation `level`, as text. -/
def emitDoc (level : Nat) (docstring : Str) : Str :=
  joinWith ['\n'] ((splitLines docstring).map (spaces (4 * level) ++ ·))

/-- `CodeWriter.write_block(code)` at indentation `level` (endpoint_visitor.py:227 re-emits every finished
    method — signature, docstring, `params = {…}` dictionary, … — through it): the SAME `splitlines()` +
    re-indentation, now applied to code that contains the pasted literals. -/
def writeBlock (level : Nat) (code : Str) : Str := emitDoc level code

/-- `DocumentationBlock` of render_dataclass: `fields` = (name, type hint, description). -/
def dataclassBlock (className desc : Str) (fields : List (Str × Str × Str)) : DocBlock where
  summary := if desc.isEmpty then className ++ " dataclass".toList else desc
  description := []
  args := fields.map (fun f => ⟨f.1, some f.2.1, f.2.2⟩)
  returns := none
  raises := []

/-- Class docstring of a dataclass (render_dataclass). -/
def renderDataclassDoc (W : Wrap) (className desc : Str) (fields : List (Str × Str × Str)) : Str :=
  emitDoc 1 (renderDocstring W (dataclassBlock className desc fields))

/-- `DocumentationBlock` of render_enum: `members` = (MEMBER_NAME, value). -/
def enumBlock (enumName desc baseType : Str) (members : List (Str × Str)) : DocBlock where
  summary := if desc.isEmpty then enumName ++ " Enum".toList else desc
  description := []
  args := members.map (fun m => ⟨m.2, some baseType, "Value for ".toList ++ m.1⟩)
  returns := none
  raises := []

/-- Class docstring of a `str` enum (render_enum). -/
def renderEnumDoc (W : Wrap) (enumName desc baseType : Str) (members : List (Str × Str)) : Str :=
  emitDoc 1 (renderDocstring W (enumBlock enumName desc baseType members))

/-- Method docstring (EndpointDocstringGenerator.generate_docstring) at method-body indentation. -/
def renderMethodDoc (W : Wrap) (level : Nat) (d : DocBlock) : Str := emitDoc level (renderDocstring W d)

/-! ## `APIClient` class docstring (client_visitor.py:116-150) -/

/-- `desc.replace('"""', "'").replace("'''", "'").replace("\\", "\\\\").strip()` then `textwrap.dedent`. -/
def cleanClientDesc (D : Dedent) (desc : Str) : Str :=
  D (stripWs (replace1 '\\' ['\\', '\\'] (replace3 '\'' ['\''] (replace3 '"' ['\''] desc))))

def clientSummary : Str :=
  "Async API client with pluggable transport, tag-specific clients, and client-level headers.".toList

/-- The inner `DocumentationBlock` of the `APIClient` docstring; `tags` = (tag, class_name, module_name). -/
def clientBlock (tags : List (Str × Str × Str)) : DocBlock where
  summary := clientSummary
  description := []
  args := [⟨"config".toList, some "ClientConfig".toList, "Client configuration object.".toList⟩,
           ⟨"transport".toList, some "HttpTransport | None".toList, "Custom HTTP transport (optional).".toList⟩]
          ++ tags.map (fun t => ⟨t.2.2, some t.2.1, "Client for '".toList ++ t.1 ++ "' endpoints.".toList⟩)
  returns := none
  raises := []

/-- The lines between the two `"""` of the `APIClient` docstring, before `rstrip('"')`. -/
def clientDocLines (W : Wrap) (D : Dedent) (title version desc : Str) (tags : List (Str × Str × Str)) : List Str :=
  [title ++ " (version ".toList ++ version ++ [')']]
  ++ (if desc.isEmpty then [] else [[], cleanClientDesc D desc])
  ++ [[]]
  ++ splitLines (renderDocstring W (clientBlock tags))

/-- The docstring as written: `"""` at class indentation, the lines at indentation 0 with trailing `"`
    stripped (which also erases the inner renderer's own `"""` lines), `"""` at class indentation. -/
def renderClientDoc (W : Wrap) (D : Dedent) (title version desc : Str) (tags : List (Str × Str × Str)) : Str :=
  joinWith ['\n'] ([spaces 4 ++ tq3] ++ (clientDocLines W D title version desc tags).map (rstripC '"') ++ [spaces 4 ++ tq3])

end Pog
