import Pog.Model.Basic
/-
  M-pylex — just enough of CPython 3.12's tokenizer / string-literal decoder to decide whether a piece
  of generated text is ONE inert token, and what a `"…"` literal evaluates to.

  Everything is a one-character-at-a-time automaton over `List Char` with a small state.

  A Python `str` may contain lone surrogates (`"\ud83d"`), a Lean `Char` may not: the value of a
  literal is therefore computed as a list of CODE POINTS (`CpStr = List Nat`, every element
  `≤ 0x10FFFF`, surrogates `0xD800..0xDFFF` allowed), `evalStrLitCp`; `evalStrLit` is its restriction
  to values that are Lean strings (`none` when the value contains a surrogate).

  Trusted (checked by `vf/corr/c15.py` against `ast.parse` / `tokenize` / `ast.literal_eval` only):
  that this IS what CPython does.  Deliberately outside the model: `\N{NAME}` escapes (they need the
  Unicode name database): the model REJECTS every `\N`, CPython rejects all but valid names — the
  correspondence counts those separately.  String prefixes (`r`, `b`, `f`, `u`) and `'…'` literals are
  "not a `"…"` literal" for the model (result `none`/`false`).
-/
namespace Pog

/-- A Python `str` value as code points (lone surrogates representable). -/
abbrev CpStr := List Nat

def isOctC (c : Char) : Bool := '0' ≤ c && c ≤ '7'
def isHexC (c : Char) : Bool := isDigitA c || ('a' ≤ c && c ≤ 'f') || ('A' ≤ c && c ≤ 'F')

/-- Value of a hexadecimal digit (`0` for other characters; only used under `isHexC`). -/
def hexVal (c : Char) : Nat :=
  if isDigitA c then c.toNat - 48
  else if 'a' ≤ c && c ≤ 'f' then c.toNat - 87
  else if 'A' ≤ c && c ≤ 'F' then c.toNat - 55
  else 0

def cNUL : Char := Char.ofNat 0

/-- Scanner state inside a (non-raw) string literal. -/
inductive LexSt
  | norm                      -- ordinary characters
  | bs                        -- just after a backslash
  | bscr                      -- after backslash + CR (a following LF belongs to the same line end)
  | oct (n : Nat) (v : Nat)   -- in an octal escape: `n` digits (1 or 2) read so far, value `v`
  | hex (need : Nat) (v : Nat) -- in `\x`/`\u`/`\U`: `need ≥ 1` more hex digits wanted, value so far `v`
deriving DecidableEq, Repr

/-- What one character does to an escape in progress (states other than `norm`). -/
inductive EscOut
  | err                          -- the literal is rejected (truncated `\x`, `\U` > 10FFFF, `\N`, NUL)
  | done (out : CpStr)           -- escape complete, `out` is its value, back to `norm`
  | cont (st : LexSt)            -- escape continues
  | redo (out : CpStr)           -- escape ended BEFORE this character: emit `out`, then treat the
                                 --   character as an ordinary one
deriving DecidableEq, Repr

/-- One character in an escape state.  `\` + newline is a line continuation (value: nothing);
    unknown escapes keep the backslash (`"\d"` is backslash, `d` — a `SyntaxWarning` in 3.12). -/
def escStep : LexSt → Char → EscOut
  | .norm, _ => .redo []
  | .bs, c =>
    if c == '\n' then .done []
    else if c == '\r' then .cont .bscr
    else if c == '\\' then .done [92]
    else if c == '\'' then .done [39]
    else if c == '"' then .done [34]
    else if c == 'a' then .done [7]
    else if c == 'b' then .done [8]
    else if c == 'f' then .done [12]
    else if c == 'n' then .done [10]
    else if c == 'r' then .done [13]
    else if c == 't' then .done [9]
    else if c == 'v' then .done [11]
    else if isOctC c then .cont (.oct 1 (c.toNat - 48))
    else if c == 'x' then .cont (.hex 2 0)
    else if c == 'u' then .cont (.hex 4 0)
    else if c == 'U' then .cont (.hex 8 0)
    else if c == 'N' then .err
    else if c == cNUL then .err
    else .done [92, c.toNat]
  | .bscr, c => if c == '\n' then .done [] else .redo []
  | .oct n v, c =>
    if isOctC c then
      (if n ≥ 2 then .done [v * 8 + (c.toNat - 48)] else .cont (.oct (n + 1) (v * 8 + (c.toNat - 48))))
    else .redo [v]
  | .hex need v, c =>
    if isHexC c then
      (if need ≤ 1 then (if v * 16 + hexVal c ≤ 0x10FFFF then .done [v * 16 + hexVal c] else .err)
       else .cont (.hex (need - 1) (v * 16 + hexVal c)))
    else .err

/-! ## `"…"` : one single-line double-quoted literal -/

/-- Result of one character inside a `"…"` literal. -/
inductive LitOut
  | err
  | close (out : CpStr)               -- this character is the terminating quote
  | next (st : LexSt) (out : CpStr)
deriving DecidableEq, Repr

/-- An ordinary character (state `norm`) of a `"…"` literal: a raw LF / CR ends the physical line
    (unterminated literal), a raw NUL makes CPython reject the whole source. -/
def litNorm (c : Char) : LitOut :=
  if c == '"' then .close []
  else if c == '\\' then .next .bs []
  else if c == '\n' || c == '\r' || c == cNUL then .err
  else .next .norm [c.toNat]

def litStep (st : LexSt) (c : Char) : LitOut :=
  match st with
  | .norm => litNorm c
  | st =>
    match escStep st c with
    | .err => .err
    | .done out => .next .norm out
    | .cont st' => .next st' []
    | .redo out =>
      match litNorm c with
      | .err => .err
      | .close o => .close (out ++ o)
      | .next st' o => .next st' (out ++ o)

/-- Run over the text after the opening quote: the value, provided the terminating quote is the LAST
    character of the text. -/
def litRun (st : LexSt) : Str → Option CpStr
  | [] => none
  | c :: cs =>
    match litStep st c with
    | .err => none
    | .close out => if cs.isEmpty then some out else none
    | .next st' out => (litRun st' cs).map (out ++ ·)

/-- The text is exactly one non-raw `"…"` literal; its value as code points. -/
def evalStrLitCp : Str → Option CpStr
  | '"' :: rest => litRun .norm rest
  | _ => none

/-- Code points → Lean string; `none` if a surrogate (or an out-of-range value) occurs. -/
def cpsToStr : CpStr → Option Str
  | [] => some []
  | n :: ns => if n.isValidChar then (cpsToStr ns).map (Char.ofNat n :: ·) else none

def strToCps (s : Str) : CpStr := s.map Char.toNat

/-- The text is exactly one non-raw `"…"` literal evaluating to the (surrogate-free) string. -/
def evalStrLit (t : Str) : Option Str := (evalStrLitCp t).bind cpsToStr

/-! ## `"""…"""` : one triple-quoted literal -/

inductive TqOut
  | err
  | close
  | next (st : LexSt) (q : Nat)     -- `q` = number of unescaped `"` just seen (0, 1, 2)
deriving DecidableEq, Repr

def tqNorm (q : Nat) (c : Char) : TqOut :=
  if c == '"' then (if q ≥ 2 then .close else .next .norm (q + 1))
  else if c == '\\' then .next .bs 0
  else if c == cNUL then .err
  else .next .norm 0

def tqStep (st : LexSt) (q : Nat) (c : Char) : TqOut :=
  match st with
  | .norm => tqNorm q c
  | st =>
    match escStep st c with
    | .err => .err
    | .done _ => .next .norm 0
    | .cont st' => .next st' 0
    | .redo _ => tqNorm 0 c

/-- Run over the text after the opening `"""`: true iff the first unescaped `"""` is the end of the text
    and every escape before it is well formed. -/
def tqRun (st : LexSt) (q : Nat) : Str → Bool
  | [] => false
  | c :: cs =>
    match tqStep st q c with
    | .err => false
    | .close => cs.isEmpty
    | .next st' q' => tqRun st' q' cs

/-- The text is exactly one non-raw `"""…"""` literal (nothing before, nothing after). -/
def isOneTripleQuoted : Str → Bool
  | '"' :: '"' :: '"' :: rest => tqRun .norm 0 rest
  | _ => false

/-! ## `# …` : one comment line -/

/-- No physical line end (`\n`, `\r` — CPython translates a lone CR to a newline) and no NUL (CPython
    rejects any source containing one).  `\x0b`, `\x0c`, U+0085, U+2028 … are NOT line ends. -/
def commentBody (s : Str) : Bool := s.all (fun c => !(c == '\n' || c == '\r' || c == cNUL))

/-- `#` followed by a comment body: the text is one COMMENT token. -/
def isOneCommentLine : Str → Bool
  | '#' :: rest => commentBody rest
  | _ => false

/-- Strip the indentation a `CodeWriter` puts in front of a line. -/
def dropIndent : Str → Str
  | [] => []
  | c :: cs => if c == ' ' then dropIndent cs else c :: cs

end Pog
