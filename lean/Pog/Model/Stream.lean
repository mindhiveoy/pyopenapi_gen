import Pog.Model.Basic
/-
  Model of `pyopenapi_gen/core/streaming_helpers.py` and of the httpx 0.28.1 machinery it sits on.

  MODELLED (branch for branch)
    * `httpx._decoders.LineDecoder.decode/flush`            → `LD.decode`, `LD.flush`
    * `httpx.Response.aiter_lines` over `aiter_text`         → `linesOf` (the `TextChunker(chunk_size=None)`
      drops empty text chunks: `ldFeed` skips them)
    * `iter_sse` / `_parse_sse_event` / `iter_sse_events_text` / `iter_ndjson` (up to `json.loads`)
  TRUSTED DESCRIPTIONS (checked only by the correspondence run, `vf/corr/c18.py`)
    * `str.splitlines()`  = `splitLines` (a one-character-at-a-time automaton)
    * `str.lstrip()/strip()` whitespace set = `isPyWs`
    * the `codecs` incremental UTF-8 decoder restricted to VALID UTF-8 = `utf8Seq`/`utf8Run`/`utf8Chunks`
  NOT MODELLED
    * `SSEEvent.retry` (`int(value)`; it is a function of the line list like every other field, so
      chunk independence covers it through `lines_chunk_independent`), `json.loads`, invalid UTF-8
      (`errors="replace"`), content-encodings (gzip …), non-UTF-8 charsets.
-/
namespace Pog

/-! ## `str.splitlines()` -/

/-- The line boundaries of `str.splitlines()` (= `NEWLINE_CHARS` of httpx's `LineDecoder`). -/
def isLineBreak (c : Char) : Bool :=
  c == '\n' || c == '\r' || c == '\x0b' || c == '\x0c' || c == '\x1c' || c == '\x1d' || c == '\x1e'
    || c == '\u0085' || c == '\u2028' || c == '\u2029'

/-- State of the line automaton: the characters of the current (unterminated) line and whether the
    last character was a `\r` whose line has not been emitted yet (it may still be followed by `\n`). -/
structure LSt where
  cur : Str
  pcr : Bool
deriving DecidableEq, Repr

def LSt.init : LSt := ⟨[], false⟩

/-- Feed one character: the lines completed by it (0, 1 or 2) and the next state. -/
def lstep (s : LSt) (c : Char) : List Str × LSt :=
  if s.pcr then
    if c == '\n' then ([s.cur], ⟨[], false⟩)
    else if c == '\r' then ([s.cur], ⟨[], true⟩)
    else if isLineBreak c then ([s.cur, []], ⟨[], false⟩)
    else ([s.cur], ⟨[c], false⟩)
  else
    if c == '\r' then ([], ⟨s.cur, true⟩)
    else if isLineBreak c then ([s.cur], ⟨[], false⟩)
    else ([], ⟨s.cur ++ [c], false⟩)

/-- Feed a string: all completed lines and the final state. -/
def lrun (s : LSt) : Str → List Str × LSt
  | [] => ([], s)
  | c :: cs => ((lstep s c).1 ++ (lrun (lstep s c).2 cs).1, (lrun (lstep s c).2 cs).2)

/-- End of input: a pending `\r` terminates its line; a non-empty unterminated line is delivered;
    a terminated last line is not followed by an empty one. -/
def lfinish (s : LSt) : List Str :=
  if s.pcr then [s.cur] else if s.cur.isEmpty then [] else [s.cur]

/-- Python `text.splitlines()`. -/
def splitLines (t : Str) : List Str := (lrun LSt.init t).1 ++ lfinish (lrun LSt.init t).2

/-! ## `httpx._decoders.LineDecoder` -/

/-- `self.buffer : list[str]`, `self.trailing_cr : bool`. -/
structure LD where
  buffer : List Str
  trailingCR : Bool
deriving DecidableEq, Repr

def LD.init : LD := ⟨[], false⟩

/-- `[buf + lines[0]] + lines[1:]`.  (`lines` is never empty there: see `splitLines_ne_nil`; Python
    would raise `IndexError`.) -/
def mergeFirst (buf : Str) : List Str → List Str
  | [] => []
  | l :: ls => (buf ++ l) :: ls

/-- The part of `decode` after the `\r` juggling; `text2` is `text` with the carried `\r` prepended and one
    trailing `\r` removed, `endsCR` the new `trailing_cr`. -/
def LD.decodeBody (buffer : List Str) (endsCR : Bool) (text2 : Str) : LD × List Str :=
  match text2.getLast? with
  | none => (⟨buffer, endsCR⟩, [])                                  -- `if not text: return []`
  | some last =>
    let trailingNewline := isLineBreak last                       -- `text[-1] in NEWLINE_CHARS`
    let lines := splitLines text2
    match lines, trailingNewline with
    | [l], false => (⟨buffer ++ [l], endsCR⟩, [])                  -- `len(lines) == 1 and not trailing_newline`
    | _, _ =>
      let lines1 := if buffer.isEmpty then lines else mergeFirst buffer.flatten lines   -- `if self.buffer:`
      if trailingNewline then (⟨[], endsCR⟩, lines1)
      else
        match lines1.getLast? with                                -- `self.buffer = [lines.pop()]`
        | some l => (⟨[l], endsCR⟩, lines1.dropLast)
        | none => (⟨[], endsCR⟩, [])                               -- unreachable (`IndexError` in Python)

/-- `LineDecoder.decode(text)`: new decoder state and returned lines. -/
def LD.decode (ld : LD) (text : Str) : LD × List Str :=
  let text1 := if ld.trailingCR then '\r' :: text else text       -- `text = "\r" + text`
  let endsCR := text1.getLast? == some '\r'                        -- `text.endswith("\r")`
  let text2 := if endsCR then text1.dropLast else text1            -- `text = text[:-1]`
  LD.decodeBody ld.buffer endsCR text2

/-- `LineDecoder.flush()`. -/
def LD.flush (ld : LD) : List Str :=
  if ld.buffer.isEmpty && !ld.trailingCR then [] else [ld.buffer.flatten]

/-- `Response.aiter_lines()` over the text chunks produced by `aiter_text()`; the `TextChunker`
    (`chunk_size=None`) drops empty strings, so `decode` is never called with `""`. -/
def ldFeed (ld : LD) : List Str → List Str
  | [] => ld.flush
  | t :: ts => if t.isEmpty then ldFeed ld ts else (ld.decode t).2 ++ ldFeed (ld.decode t).1 ts

def linesOf (chunks : List Str) : List Str := ldFeed LD.init chunks

/-! ## Python whitespace (`str.strip`, `str.lstrip` without argument) -/

/-- `Py_UNICODE_ISSPACE`. -/
def isPyWs (c : Char) : Bool :=
  let n := c.toNat
  (9 ≤ n && n ≤ 13) || (28 ≤ n && n ≤ 32) || n == 0x85 || n == 0xa0 || n == 0x1680
    || (0x2000 ≤ n && n ≤ 0x200a) || n == 0x2028 || n == 0x2029 || n == 0x202f || n == 0x205f || n == 0x3000

def lstripWs : Str → Str
  | [] => []
  | c :: cs => if isPyWs c then lstripWs cs else c :: cs

def rstripWs (s : Str) : Str := (lstripWs s.reverse).reverse

def stripWs (s : Str) : Str := rstripWs (lstripWs s)

/-! ## `_parse_sse_event` -/

/-- `SSEEvent` without `retry` (not modelled). -/
structure Event where
  data : Str
  event : Option Str
  id : Option Str
deriving DecidableEq, Repr

/-- The local variables `data`, `event`, `id` of `_parse_sse_event`. -/
structure PSt where
  data : List Str
  event : Option Str
  id : Option Str
deriving DecidableEq, Repr

def PSt.init : PSt := ⟨[], none, none⟩

/-- `line.split(":", 1)` when `":" in line`; `none` when there is no colon. -/
def splitColon : Str → Option (Str × Str)
  | [] => none
  | c :: cs =>
    if c == ':' then some ([], cs)
    else match splitColon cs with
      | some (f, v) => some (c :: f, v)
      | none => none

/-- One iteration of the `for line in lines` loop. -/
def parseLine (st : PSt) (line : Str) : PSt :=
  if line.head? == some ':' then st                                -- comment
  else
    match splitColon line with
    | none => st                                                   -- no colon: ignored
    | some (field, value) =>
      let v := lstripWs value
      if field == "data".toList then { st with data := st.data ++ [v] }
      else if field == "event".toList then { st with event := some v }
      else if field == "id".toList then { st with id := some v }
      else st                                                      -- `retry` (not modelled) and unknown fields

def parseLines (st : PSt) : List Str → PSt
  | [] => st
  | l :: ls => parseLines (parseLine st l) ls

def PSt.toEvent (st : PSt) : Event := ⟨joinWith ['\n'] st.data, st.event, st.id⟩

def parseEvent (lines : List Str) : Event := (parseLines PSt.init lines).toEvent

/-! ## `iter_sse`, `iter_sse_events_text`, `iter_ndjson` -/

/-- The `async for line` loop of `iter_sse` with its accumulator `event_lines`, then the
    "last event" flush.  (`if event:` is always true: `SSEEvent` defines neither `__bool__` nor `__len__`.) -/
def sseLoop (eventLines : List Str) : List Str → List Event
  | [] => if eventLines.isEmpty then [] else [parseEvent eventLines]
  | l :: ls =>
    if l.isEmpty then
      if eventLines.isEmpty then sseLoop eventLines ls
      else parseEvent eventLines :: sseLoop [] ls
    else sseLoop (eventLines ++ [l]) ls

def iterSSE (lines : List Str) : List Event := sseLoop [] lines

/-- `iter_sse_events_text` on the line list. -/
def sseDataOfLines (lines : List Str) : List Str :=
  ((iterSSE lines).filter (fun e => !e.data.isEmpty)).map Event.data

/-- `iter_ndjson` up to `json.loads`: the stripped non-empty lines. -/
def ndjsonOfLines (lines : List Str) : List Str :=
  (lines.map stripWs).filter (fun l => !l.isEmpty)

/-- `iter_sse_events_text(response)` as a function of the text chunks. -/
def sseEventsText (chunks : List Str) : List Str := sseDataOfLines (linesOf chunks)

/-- `iter_ndjson(response)` (before `json.loads`) as a function of the text chunks. -/
def iterNdjsonLines (chunks : List Str) : List Str := ndjsonOfLines (linesOf chunks)

/-! ## Byte level: the incremental UTF-8 decoder on VALID input

  `codecs.getincrementaldecoder("utf-8")(errors="replace").decode(chunk)` keeps the bytes of an incomplete
  trailing sequence and prepends them to the next chunk.  Only well-formed UTF-8 (Unicode table 3-7) is
  modelled; on anything else the model answers `none` ("outside the model"), it does not guess U+FFFD. -/

abbrev Byte := Nat

def isCont (b : Byte) : Bool := 0x80 ≤ b && b ≤ 0xBF

/-- Admissible second byte after a 3- or 4-byte lead `b0` (no overlongs, no surrogates, ≤ U+10FFFF). -/
def second3 (b0 b1 : Byte) : Bool :=
  if b0 == 0xE0 then 0xA0 ≤ b1 && b1 ≤ 0xBF
  else if b0 == 0xED then 0x80 ≤ b1 && b1 ≤ 0x9F
  else isCont b1
def second4 (b0 b1 : Byte) : Bool :=
  if b0 == 0xF0 then 0x90 ≤ b1 && b1 ≤ 0xBF
  else if b0 == 0xF4 then 0x80 ≤ b1 && b1 ≤ 0x8F
  else isCont b1

inductive USeq where
  | complete (c : Char)   -- a whole well-formed sequence
  | pending               -- a proper prefix of a well-formed sequence
  | invalid
deriving DecidableEq, Repr

/-- Classify the pending bytes plus one more byte. -/
def utf8Seq : List Byte → USeq
  | [b0] =>
    if b0 < 0x80 then .complete (Char.ofNat b0)
    else if 0xC2 ≤ b0 && b0 ≤ 0xF4 then .pending else .invalid
  | [b0, b1] =>
    if 0xC2 ≤ b0 && b0 ≤ 0xDF then
      if isCont b1 then .complete (Char.ofNat ((b0 - 0xC0) * 64 + (b1 - 0x80))) else .invalid
    else if 0xE0 ≤ b0 && b0 ≤ 0xEF then (if second3 b0 b1 then .pending else .invalid)
    else if 0xF0 ≤ b0 && b0 ≤ 0xF4 then (if second4 b0 b1 then .pending else .invalid)
    else .invalid
  | [b0, b1, b2] =>
    if 0xE0 ≤ b0 && b0 ≤ 0xEF then
      if second3 b0 b1 && isCont b2 then
        .complete (Char.ofNat ((b0 - 0xE0) * 4096 + (b1 - 0x80) * 64 + (b2 - 0x80)))
      else .invalid
    else if 0xF0 ≤ b0 && b0 ≤ 0xF4 then (if second4 b0 b1 && isCont b2 then .pending else .invalid)
    else .invalid
  | [b0, b1, b2, b3] =>
    if 0xF0 ≤ b0 && b0 ≤ 0xF4 && second4 b0 b1 && isCont b2 && isCont b3 then
      .complete (Char.ofNat ((b0 - 0xF0) * 262144 + (b1 - 0x80) * 4096 + (b2 - 0x80) * 64 + (b3 - 0x80)))
    else .invalid
  | _ => .invalid

/-- Feed bytes to the decoder whose pending (undecoded) bytes are `pend`:
    decoded text and new pending bytes, `none` on ill-formed input. -/
def utf8Run (pend : List Byte) : List Byte → Option (Str × List Byte)
  | [] => some ([], pend)
  | b :: bs =>
    match utf8Seq (pend ++ [b]) with
    | .complete c =>
      match utf8Run [] bs with
      | some (t, p) => some (c :: t, p)
      | none => none
    | .pending => utf8Run (pend ++ [b]) bs
    | .invalid => none

/-- `TextDecoder.decode(chunk)` for every chunk in turn: the list of decoded text chunks (empty ones
    included) and the final pending bytes. -/
def utf8Chunks (pend : List Byte) : List (List Byte) → Option (List Str × List Byte)
  | [] => some ([], pend)
  | ch :: chs =>
    match utf8Run pend ch with
    | none => none
    | some (t, p) =>
      match utf8Chunks p chs with
      | some (ts, p') => some (t :: ts, p')
      | none => none

/-- `bytes.decode("utf-8")` of a complete byte string (`none`: ill-formed or truncated). -/
def utf8Decode (bs : List Byte) : Option Str :=
  match utf8Run [] bs with
  | some (t, []) => some t
  | _ => none

/-- `str.encode("utf-8")` of one character. -/
def utf8EncodeChar (c : Char) : List Byte :=
  let n := c.toNat
  if n < 0x80 then [n]
  else if n < 0x800 then [0xC0 + n / 64, 0x80 + n % 64]
  else if n < 0x10000 then [0xE0 + n / 4096, 0x80 + n / 64 % 64, 0x80 + n % 64]
  else [0xF0 + n / 262144, 0x80 + n / 4096 % 64, 0x80 + n / 64 % 64, 0x80 + n % 64]

def utf8Encode : Str → List Byte
  | [] => []
  | c :: cs => utf8EncodeChar c ++ utf8Encode cs

/-- `aiter_text()` then `aiter_lines()` on byte chunks: `TextDecoder.decode` per chunk, final
    `TextDecoder.flush()` (must find nothing pending, else U+FFFD would be produced: outside the model). -/
def linesOfBytes (chunks : List (List Byte)) : Option (List Str) :=
  match utf8Chunks [] chunks with
  | some (ts, []) => some (linesOf ts)
  | _ => none

end Pog
