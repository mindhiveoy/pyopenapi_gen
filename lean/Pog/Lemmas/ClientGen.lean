import Pog.Model.ClientGen
import Pog.Lemmas.SurfaceModule
/-
  Lemmas about `Pog.ClientGen` (Pog/Model/ClientGen.lean): the tag tuples of `ClientVisitor.visit` are one tuple per
  normalised key, sorted by key, built from the canonical tag; character-level facts about `sanModule`.
-/
namespace Pog.ClientGen
open Pog

/-- The keys of `tag_map`, in the order `sorted(tag_map)`. -/
def tupleKeys (u : UInfo) (tagss : List (List Str)) : List Str :=
  sortKeys ((tagMapEmitter u (opsOfTags tagss)).map (·.1))

theorem tagMapEmitter_keys_nodup (u : UInfo) (ops : List TagOp) : ((tagMapEmitter u ops).map (·.1)).Nodup := by
  rw [tagMapEmitter_fused, List.map_map]; exact keyToPairs_nodup u ops

theorem tupleKeys_perm (u : UInfo) (tagss : List (List Str)) :
    (tupleKeys u tagss).Perm ((tagMapEmitter u (opsOfTags tagss)).map (·.1)) := sortKeys_perm _

theorem tupleKeys_nodup (u : UInfo) (tagss : List (List Str)) : (tupleKeys u tagss).Nodup :=
  (tupleKeys_perm u tagss).nodup_iff.2 (tagMapEmitter_keys_nodup u _)

/-- `ClientVisitor.visit` never raises: neither `max` (no key has an empty candidate list) nor `tag_map[key]`. -/
theorem tagTuplesRaw_eq (u : UInfo) (tagss : List (List Str)) : tagTuplesRaw u tagss = some (tagTuples u tagss) := by
  unfold tagTuplesRaw tagTuples
  rw [tagMapVisitor_eq]
  simp only
  apply mapM_some_filterMap
  intro k hk
  obtain ⟨e, he, rfl⟩ := List.mem_map.1 ((sortKeys_perm _).mem_iff.1 hk)
  rw [dictGet_of_mem _ (tagMapEmitter_keys_nodup u _) e he]
  rfl

theorem tagTuples_eq_map (u : UInfo) (tagss : List (List Str)) :
    tagTuples u tagss = (tupleKeys u tagss).map fun k => mkTuple u (canonicalTag u tagss k) := by
  unfold tagTuples tupleKeys
  apply filterMap_eq_map_of_some
  intro k hk
  obtain ⟨e, he, rfl⟩ := List.mem_map.1 ((sortKeys_perm _).mem_iff.1 hk)
  rw [canonicalTag, dictGet_of_mem _ (tagMapEmitter_keys_nodup u _) e he]
  rfl

theorem tagsOrDefault_opsOfTags (ts : List Str) : tagsOrDefault ⟨[], ts⟩ = tagsOr ts := rfl

theorem mem_opsOfTags (tagss : List (List Str)) (op : TagOp) :
    op ∈ opsOfTags tagss ↔ ∃ ts ∈ tagss, op = ⟨[], ts⟩ := by
  unfold opsOfTags
  rw [List.mem_map]
  exact exists_congr fun ts => and_congr_right fun _ => eq_comm

theorem mem_tagMapEmitter (u : UInfo) (ops : List TagOp) (e : Str × Str) :
    e ∈ tagMapEmitter u ops ↔ ∃ g ∈ groupEndpoints u ops, g.key = e.1 ∧ g.canon = e.2 := by
  have : tagMapEmitter u ops = (groupEndpoints u ops).map fun g => (g.key, g.canon) := by
    rw [tagMapEmitter_fused]
    simp [groupEndpoints, mkGroup, List.map_map, Function.comp_def]
  rw [this, List.mem_map]
  exact exists_congr fun g => and_congr_right fun _ => Prod.ext_iff

theorem canonicalTag_spec (u : UInfo) (tagss : List (List Str)) (k : Str) (hk : k ∈ tupleKeys u tagss) :
    normTagKey u (canonicalTag u tagss k) = k ∧ ∃ ts ∈ tagss, canonicalTag u tagss k ∈ tagsOr ts := by
  have hk' := (tupleKeys_perm u tagss).mem_iff.1 hk
  obtain ⟨e, he, rfl⟩ := List.mem_map.1 hk'
  have hc : canonicalTag u tagss e.1 = e.2 := by
    unfold canonicalTag
    rw [dictGet_of_mem _ (tagMapEmitter_keys_nodup u _) e he]
    rfl
  rw [hc]
  obtain ⟨g, hg, h1, h2⟩ := (mem_tagMapEmitter u _ e).1 he
  obtain ⟨hkey, ⟨op, hop, hop'⟩, _, _⟩ := groupEndpoints_canon u _ g hg
  obtain ⟨ts, hts, rfl⟩ := (mem_opsOfTags tagss op).1 hop
  rw [← h1, ← h2]
  exact ⟨hkey.symm, ts, hts, hop'⟩

theorem mem_tupleKeys (u : UInfo) (tagss : List (List Str)) (k : Str) :
    k ∈ tupleKeys u tagss ↔ ∃ ts ∈ tagss, ∃ t ∈ tagsOr ts, normTagKey u t = k := by
  constructor
  · intro hk
    obtain ⟨h1, ts, hts, hc⟩ := canonicalTag_spec u tagss k hk
    exact ⟨ts, hts, _, hc, h1⟩
  · rintro ⟨ts, hts, t, ht, rfl⟩
    have hop : (⟨[], ts⟩ : TagOp) ∈ opsOfTags tagss := (mem_opsOfTags tagss _).2 ⟨ts, hts, rfl⟩
    obtain ⟨g, hg, hk, _⟩ := every_op_present u (opsOfTags tagss) ⟨[], ts⟩ t hop ht
    have := (mem_tagMapEmitter u _ (g.key, g.canon)).2 ⟨g, hg, rfl, rfl⟩
    rw [(tupleKeys_perm u tagss).mem_iff, ← hk]
    exact List.mem_map.2 ⟨_, this, rfl⟩

def groupTuple (g : TagGroup) : TagTuple := (g.canon, g.cls, g.module)

theorem opTagPairs_forget_id (u : UInfo) (id : Str) : ∀ (ts seen : List Str),
    opTagPairs u [] seen ts = (opTagPairs u id seen ts).map fun p => (p.1, p.2.1, p.2.2.map (fun _ => ([] : Str))) := by
  intro ts
  induction ts with
  | nil => intro _; rfl
  | cons t ts ih =>
    intro seen
    simp only [opTagPairs]
    split <;> simp [ih]

/-- Operation ids play no role: the tag pairs of the id-less operations. -/
theorem tagPairs_opsOfTags (u : UInfo) (ops : List TagOp) :
    tagPairs u (opsOfTags (ops.map (·.tags))) = (tagPairs u ops).map fun p => (p.1, p.2.1, p.2.2.map (fun _ => ([] : Str))) := by
  unfold tagPairs opsOfTags
  induction ops with
  | nil => rfl
  | cons op ops ih =>
    simp only [List.map_cons, List.flatMap_cons, List.map_append, ih]
    congr 1
    exact opTagPairs_forget_id u op.id _ []

theorem tagMapEmitter_opsOfTags (u : UInfo) (ops : List TagOp) :
    tagMapEmitter u (opsOfTags (ops.map (·.tags))) = tagMapEmitter u ops := by
  unfold tagMapEmitter
  rw [keyToCands_eq, keyToCands_eq, tagPairs_opsOfTags, gfold_map]

theorem tagTuples_perm_groups_ops (u : UInfo) (ops : List TagOp) :
    (tagTuples u (ops.map (·.tags))).Perm ((groupEndpoints u ops).map groupTuple) := by
  unfold tagTuples
  rw [tagMapEmitter_opsOfTags]
  have hn := tagMapEmitter_keys_nodup u ops
  refine (List.Perm.filterMap _ (sortKeys_perm _)).trans ?_
  rw [List.filterMap_map]
  have : (tagMapEmitter u ops).filterMap ((fun k => (tagDictGet (tagMapEmitter u ops) k).map (mkTuple u)) ∘ (·.1)) =
      (tagMapEmitter u ops).map (fun e => mkTuple u e.2) := by
    apply filterMap_eq_map_of_some
    intro e he
    simp only [Function.comp_def]
    rw [dictGet_of_mem _ hn e he]; rfl
  rw [this, tagMapEmitter_fused]
  simp only [groupEndpoints, List.map_map, Function.comp_def, mkTuple, groupTuple, mkGroup]
  exact .refl _

theorem tagTuples_perm_groups (u : UInfo) (tagss : List (List Str)) :
    (tagTuples u tagss).Perm ((groupEndpoints u (opsOfTags tagss)).map groupTuple) := by
  have h := tagTuples_perm_groups_ops u (opsOfTags tagss)
  rwa [show (opsOfTags tagss).map (·.tags) = tagss by simp [opsOfTags, Function.comp_def]] at h

/-- The property names of `APIClient` as `Pog.clientProps` has them. -/
theorem clientProps_eq (u : UInfo) (tagss : List (List Str)) :
    clientProps u (opsOfTags tagss) = some ((tagTuples u tagss).map (·.module)) := by
  unfold clientProps tagTuples
  rw [tagMapVisitor_eq]
  simp only [Option.map_some, List.map_filterMap, Option.map_map]
  rfl

theorem mockClientProps_eq (u : UInfo) (tagss : List (List Str)) :
    mockClientProps u (opsOfTags tagss) = (mockTuples u tagss).map (·.module) := by
  simp [mockClientProps, mockTuples, List.map_map, Function.comp_def, TagTuple.module]

theorem tagTuples_eq_nil_iff (u : UInfo) (tagss : List (List Str)) : tagTuples u tagss = [] ↔ tagss = [] := by
  constructor
  · intro h
    cases tagss with
    | nil => rfl
    | cons ts rest =>
      exfalso
      obtain ⟨t, ht⟩ : ∃ t, t ∈ tagsOr ts := by
        cases ts with
        | nil => exact ⟨kDefaultTag, List.mem_singleton.2 rfl⟩
        | cons t ts' => exact ⟨t, List.mem_cons_self⟩
      have hk := (mem_tupleKeys u (ts :: rest) (normTagKey u t)).2 ⟨ts, by simp, t, ht, rfl⟩
      rw [tagTuples_eq_map] at h
      simp only [List.map_eq_nil_iff] at h
      rw [h] at hk; cases hk
  · rintro rfl; rfl

/-- F23 repaired: the `tag_tuples` the mocks emitter hands to `generate_client_mock_class` ARE the tuples of
    `ClientVisitor.visit` — same tuples, same order. -/
theorem mockTuples_eq_tagTuples (u : UInfo) (tagss : List (List Str)) : mockTuples u tagss = tagTuples u tagss := by
  unfold mockTuples tagTuples
  simp only
  rw [← groupMocks_map_canon u (opsOfTags tagss) (mkTuple u)]
  apply List.map_congr_left
  intro g hg
  rw [groupMocks_mk u (opsOfTags tagss) g hg]
  rfl

theorem mockTuples_eq_nil_iff (u : UInfo) (tagss : List (List Str)) : mockTuples u tagss = [] ↔ tagss = [] := by
  rw [mockTuples_eq_tagTuples]
  exact tagTuples_eq_nil_iff u tagss

/-- The head of a module name derived from a tag with an ASCII alphanumeric: a lower-case letter, or `_` followed by a digit. -/
def modHeadB : Str → Bool
  | [] => false
  | c :: cs => isLowerA c || (c == '_' && match cs with | d :: _ => isDigitA d | [] => false)

def allUsB (m : Str) : Bool := m.all (· == '_')

theorem lower_or_digit_lowerA {c : Char} (h : isAlnumA c = true) :
    isLowerA (lowerA c) = true ∨ isDigitA (lowerA c) = true := by
  char_arith

theorem not_lower_of_digit {c : Char} (h : isDigitA c = true) : isLowerA c = false := by
  char_arith

theorem not_us_of_digit {c : Char} (h : isDigitA c = true) : (c == '_') = false := by
  have : c ≠ '_' := by
    intro e; subst e; revert h; decide
  simpa using this

theorem joinWith_head (sep : Str) (x : Str) (rest : List Str) (c : Char) (cs : Str) (hx : x = c :: cs) :
    ∃ cs', joinWith sep (x :: rest) = c :: cs' := by
  subst hx
  cases rest with
  | nil => exact ⟨cs, rfl⟩
  | cons y ys => exact ⟨cs ++ sep ++ joinWith sep (y :: ys), by simp [joinWith]⟩

theorem modHeadB_append (m : Str) (x : Str) (h : modHeadB m = true) : modHeadB (m ++ x) = true := by
  cases m with
  | nil => cases h
  | cons c cs =>
    cases cs with
    | nil =>
      simp only [modHeadB, Bool.and_false, Bool.or_false] at h
      simp [modHeadB, h]
    | cons d ds => simpa [modHeadB] using h

theorem sanModule_modHead (u : UInfo) (t : Str) (h : t.any isAlnumA = true) : modHeadB (sanModule u t) = true := by
  rw [sanModule_eq u t h]
  have hne : tokenize t ≠ [] := by
    intro h0; rw [tokenize_eq_nil_iff, h] at h0; cases h0
  cases htk : tokenize t with
  | nil => exact absurd htk hne
  | cons w ws =>
    obtain ⟨hw1, hw2⟩ := tokenize_good t w (by rw [htk]; simp)
    cases w with
    | nil => exact absurd rfl hw1
    | cons c0 cs0 =>
      simp only [List.all_cons, Bool.and_eq_true] at hw2
      have hasc := isAscii_of_isAlnumA hw2.1
      have hl : u.lowerS (c0 :: cs0) = lowerA c0 :: u.lowerS cs0 := by
        simp [UInfo.lowerS, List.flatMap_cons, hasc]
      obtain ⟨cs', hj⟩ := joinWith_head ['_'] (u.lowerS (c0 :: cs0)) (ws.map u.lowerS) _ _ hl
      simp only [List.map_cons, hj]
      have key : modHeadB (digitGuard (lowerA c0 :: cs')) = true := by
        simp only [digitGuard]
        split
        · rename_i hd
          simp [modHeadB, hd]
        · rename_i hd
          rcases lower_or_digit_lowerA hw2.1 with h1 | h1
          · simp [modHeadB, h1]
          · exact absurd h1 hd
      unfold methodPost
      split
      · exact modHeadB_append _ _ key
      · exact key

/-- What is known of the module name of a tag that is ASCII or has an ASCII alphanumeric. -/
def ModOK (m : Str) : Prop := modHeadB m = true ∨ allUsB m = true

theorem sanModule_modOK (u : UInfo) (t : Str) (h : t.all isAscii = true ∨ t.any isAlnumA = true) :
    ModOK (sanModule u t) := by
  cases ha : t.any isAlnumA with
  | true => exact .inl (sanModule_modHead u t ha)
  | false =>
    rcases h with h | h
    · right
      unfold allUsB
      rw [List.all_eq_true]
      intro c hc
      simpa using sanModule_all_us u t h ha c hc
    · rw [ha] at h; cases h

theorem modHead_not_allUs (m : Str) (h : modHeadB m = true) : allUsB m = false := by
  cases m with
  | nil => cases h
  | cons c cs =>
    simp only [modHeadB, Bool.or_eq_true, Bool.and_eq_true] at h
    rcases h with h | ⟨h1, h2⟩
    · have : (c == '_') = false := by
        have : c ≠ '_' := by intro e; subst e; revert h; decide
        simpa using this
      simp [allUsB, this]
    · cases cs with
      | nil => cases h2
      | cons d ds =>
        simp only at h2
        simp [allUsB, not_us_of_digit h2]

theorem normTagKey_of_allUs (u : UInfo) (t : Str) (h : t.all isAscii = true ∨ t.any isAlnumA = true)
    (hu : allUsB (sanModule u t) = true) : normTagKey u t = [] := by
  have hna : t.any isAlnumA = false := by
    cases ha : t.any isAlnumA with
    | false => rfl
    | true => rw [modHead_not_allUs _ (sanModule_modHead u t ha)] at hu; cases hu
  have hasc : t.all isAscii = true := by
    rcases h with h | h
    · exact h
    · rw [hna] at h; cases h
  rw [normTagKey_eq_noUs_sanModule u _ hasc]
  exact noUs_of_all_us _ (sanModule_all_us u _ hasc hna)

/-- `_<m>` is never again a module name of the same kind, unless both consist of underscores only. -/
theorem priv_eq_mod (m m' : Str) (hm : ModOK m) (hm' : ModOK m') (h : privAttr m = m') :
    allUsB m = true ∧ allUsB m' = true := by
  unfold privAttr at h
  subst h
  rcases hm' with h' | h'
  · exfalso
    have hlu : isLowerA '_' = false := by decide
    cases m with
    | nil => simp [modHeadB, hlu] at h'
    | cons d ds =>
      have hd : isDigitA d = true := by
        simpa [modHeadB, hlu] using h'
      rcases hm with h1 | h1
      · cases ds with
        | nil => simp [modHeadB, not_lower_of_digit hd, not_us_of_digit hd] at h1
        | cons e es => simp [modHeadB, not_lower_of_digit hd, not_us_of_digit hd] at h1
      · simp [allUsB, not_us_of_digit hd] at h1
  · refine ⟨?_, h'⟩
    simpa [allUsB] using h'

theorem ne_of_modOK (m x : Str) (hm : ModOK m) (h1 : modHeadB x = false) (h2 : allUsB x = false) : m ≠ x := by
  rintro rfl
  rcases hm with h | h
  · rw [h1] at h; cases h
  · rw [h2] at h; cases h

/-- The module names `_tag_attr_name` renames: the own members, and the own members without their leading underscore. -/
def renamedModules : List Str :=
  ownMembers ++ ownMembers.filterMap fun x => match x with | '_' :: r => some r | _ => none

theorem tagAttr_of_not (m : Str) (h1 : m ∉ ownMembers) (h2 : '_' :: m ∉ ownMembers) : tagAttr m = m := by
  unfold tagAttr
  simp [h1, h2]

theorem tagAttr_cases (m : Str) :
    (tagAttr m = m ∧ m ∉ ownMembers ∧ '_' :: m ∉ ownMembers) ∨ (m ∈ renamedModules ∧ tagAttr m = m ++ ['_']) := by
  by_cases h1 : m ∈ ownMembers
  · right
    refine ⟨List.mem_append.2 (.inl h1), ?_⟩
    unfold tagAttr
    simp [h1]
  · by_cases h2 : '_' :: m ∈ ownMembers
    · right
      refine ⟨List.mem_append.2 (.inr (List.mem_filterMap.2 ⟨_, h2, rfl⟩)), ?_⟩
      unfold tagAttr
      simp [h2]
    · exact .inl ⟨tagAttr_of_not m h1 h2, h1, h2⟩

/-- Table-level facts about the renamed names (13 closed strings). -/
theorem renamed_facts : ∀ x ∈ renamedModules,
    (x ++ ['_']) ∉ ownMembers ∧ '_' :: (x ++ ['_']) ∉ ownMembers ∧ isValidPyIdentifier (x ++ ['_']) = true ∧
      allUsB (x ++ ['_']) = false := by
  decide +kernel

/-- **The repair.**  Whatever the module name, the attribute name is no own member of the three classes, and neither is the
    private attribute `_<attr>`. -/
theorem tagAttr_not_own (m : Str) : tagAttr m ∉ ownMembers ∧ privAttr (tagAttr m) ∉ ownMembers := by
  rcases tagAttr_cases m with ⟨h, h1, h2⟩ | ⟨hm, h⟩
  · rw [h]; exact ⟨h1, h2⟩
  · rw [h]; exact ⟨(renamed_facts m hm).1, (renamed_facts m hm).2.1⟩

theorem tagAttr_valid (m : Str) (h : isValidPyIdentifier m = true) : isValidPyIdentifier (tagAttr m) = true := by
  rcases tagAttr_cases m with ⟨h', _, _⟩ | ⟨hm, h'⟩
  · rw [h']; exact h
  · rw [h']; exact (renamed_facts m hm).2.2.1

theorem tagAttr_of_allUs (m : Str) (h : allUsB (tagAttr m) = true) : tagAttr m = m := by
  rcases tagAttr_cases m with ⟨h', _, _⟩ | ⟨hm, h'⟩
  · exact h'
  · rw [h', (renamed_facts m hm).2.2.2] at h; cases h

theorem tagAttr_modOK (m : Str) (hm : ModOK m) : ModOK (tagAttr m) := by
  rcases tagAttr_cases m with ⟨h', _, _⟩ | ⟨_, h'⟩
  · rw [h']; exact hm
  · rw [h']
    rcases hm with h | h
    · exact .inl (modHeadB_append _ _ h)
    · right
      simpa [allUsB] using h

theorem noUs_tagAttr (m : Str) : noUs (tagAttr m) = noUs m := by
  rcases tagAttr_cases m with ⟨h', _, _⟩ | ⟨_, h'⟩
  · rw [h']
  · rw [h', noUs_append]
    simp [noUs]

/-- A reserved name (or keyword) that does not end in `_` is never a module name — every input, every case table. -/
theorem sanModule_ne_reserved (u : UInfo) (t x : Str) (hx : (isKeyword x || isReserved x) = true)
    (hl : x.getLast? ≠ some '_') : sanModule u t ≠ x := by
  -- the last step of `sanitize_module_name`
  obtain ⟨m, hm⟩ : ∃ m, sanModule u t = if isKeyword m || isReserved m then m ++ ['_'] else m := ⟨_, rfl⟩
  rw [hm]
  split
  · intro h
    apply hl
    rw [← h]
    simp
  · rename_i hc
    intro h
    rw [h] at hc
    exact hc hx

theorem propSurvives_of (s : ClassSkel) (hn : (s.props.map (·.1)).Nodup) (hm : ∀ p ∈ s.props, p.1 ∉ s.methods)
    (i : Nat) (hi : i < s.props.length) : propSurvives s i = true := by
  unfold propSurvives
  have hget : s.props[i]? = some s.props[i] := List.getElem?_eq_getElem hi
  rw [hget]
  simp only [Bool.and_eq_true, Bool.not_eq_true', List.contains_eq_mem, decide_eq_false_iff_not]
  constructor
  · have h1 : (s.props.map (·.1))[i]? = some s.props[i].1 := by
      rw [List.getElem?_map, hget]; rfl
    have := nodup_not_mem_drop _ i _ h1 hn
    rwa [← List.map_drop] at this
  · exact hm _ (List.getElem_mem hi)

theorem kDefaultTag_alnum : kDefaultTag.any isAlnumA = true := by decide

theorem tuple_of_tags (u : UInfo) (tagss : List (List Str)) (P : Str → Prop) (hd : P kDefaultTag)
    (h : ∀ ts ∈ tagss, ∀ t ∈ ts, P t) (t : TagTuple) (ht : t ∈ tagTuples u tagss) :
    t = mkTuple u t.tag ∧ P t.tag := by
  rw [tagTuples_eq_map] at ht
  obtain ⟨k, hk, rfl⟩ := List.mem_map.1 ht
  obtain ⟨ts, hts, hc⟩ := (canonicalTag_spec u tagss k hk).2
  refine ⟨rfl, ?_⟩
  show P (canonicalTag u tagss k)
  unfold tagsOr at hc
  split at hc
  · rw [List.mem_singleton.1 hc]; exact hd
  · exact h ts hts _ hc

theorem tuple_module (u : UInfo) (c : Str) : (mkTuple u c).module = sanModule u c := by
  rw [TagTuple.module, mkTuple]
theorem tuple_cls (u : UInfo) (c : Str) : (mkTuple u c).cls = sanClass c ++ kClientSuffix := rfl
theorem tuple_tag (u : UInfo) (c : Str) : (mkTuple u c).tag = c := rfl

/-! ## Projections of the skeletons (stated once: unfolding a skeleton under `simp` would normalise its string literals) -/

theorem apiClientSkel_props (tt : List TagTuple) :
    (apiClientSkel tt).props = tt.map fun t => (tagAttr t.module, t.cls) := rfl
/-- The properties of `APIClient` as `ClientVisitor.visit` writes them: one per key of `tag_map`, in the order of the keys. -/
theorem apiClientSkel_tagTuples_props (u : UInfo) (tagss : List (List Str)) :
    (apiClientSkel (tagTuples u tagss)).props = (tupleKeys u tagss).map fun k =>
      (tagAttr (sanModule u (canonicalTag u tagss k)), sanClass (canonicalTag u tagss k) ++ kClientSuffix) := by
  simp only [apiClientSkel_props, tagTuples_eq_map, List.map_map, Function.comp_def, tuple_module, tuple_cls]
theorem apiClientSkel_attrs (tt : List TagTuple) :
    (apiClientSkel tt).attrs = fixedAttrs ++ tt.map fun t => privAttr (tagAttr t.module) := rfl
theorem apiClientSkel_methods (tt : List TagTuple) : (apiClientSkel tt).methods = fixedMethods := rfl
theorem protocolSkel_props (tt : List TagTuple) :
    (protocolSkel tt).props = tt.map fun t => (tagAttr t.module, t.cls ++ kProtocolSuffix) := rfl
theorem protocolSkel_methods (tt : List TagTuple) : (protocolSkel tt).methods = fixedMethods := rfl
theorem mockClientSkel_props (tt : List TagTuple) :
    (mockClientSkel tt).props = tt.map fun t => (tagAttr t.module, t.cls ++ kProtocolSuffix) := rfl
theorem mockClientSkel_attrs (tt : List TagTuple) :
    (mockClientSkel tt).attrs = tt.map fun t => privAttr (tagAttr t.module) := rfl
theorem mockClientSkel_initParams (tt : List TagTuple) :
    (mockClientSkel tt).initParams = kSelf :: tt.map fun t => tagAttr t.module := rfl
theorem mockClientSkel_initBodyEmpty (tt : List TagTuple) : (mockClientSkel tt).initBodyEmpty = false := rfl
theorem mockClientSkel_methods (tt : List TagTuple) : (mockClientSkel tt).methods = fixedMethods := rfl

/-- Python's `<` on `str` is the lexicographic order of the code points. -/
theorem pyStrLt_iff (a b : Str) : pyStrLt a b = true ↔ a < b := by
  induction a generalizing b with
  | nil => cases b <;> simp [pyStrLt]
  | cons x xs ih =>
    cases b with
    | nil => simp [pyStrLt]
    | cons y ys =>
      have hc : x.toNat < y.toNat ↔ x < y := Iff.rfl
      rw [List.cons_lt_cons_iff, ← ih]
      simp [pyStrLt, hc]

theorem pyStrLe_iff (a b : Str) : pyStrLe a b = true ↔ a ≤ b := by
  rw [pyStrLe, Bool.not_eq_true', ← Bool.not_eq_true, pyStrLt_iff, List.not_lt]

theorem insertKey_sorted (k : Str) (l : List Str) (h : l.Pairwise (fun a b => pyStrLe a b = true)) :
    (insertKey k l).Pairwise (fun a b => pyStrLe a b = true) := by
  refine pairwise_of_insert (fun a b => pyStrLe a b = true) insertKey (fun _ => rfl) ?_ ?_ ?_ k l h
  · intro a x xs
    by_cases hax : pyStrLe a x = true
    · exact .inl ⟨hax, by simp [insertKey, hax]⟩
    · exact .inr ⟨hax, by simp [insertKey, hax]⟩
  · intro a b
    rw [pyStrLe_iff, pyStrLe_iff]
    exact List.le_total a b
  · intro a b c hab hbc
    exact (pyStrLe_iff _ _).2 (List.le_trans ((pyStrLe_iff _ _).1 hab) ((pyStrLe_iff _ _).1 hbc))

theorem sortKeys_sorted (l : List Str) : (sortKeys l).Pairwise (fun a b => pyStrLe a b = true) :=
  pairwise_foldr_insert _ insertKey insertKey_sorted l

theorem tagTuples_keys (u : UInfo) (tagss : List (List Str)) :
    (tagTuples u tagss).map (fun t => normTagKey u t.tag) = tupleKeys u tagss := by
  rw [tagTuples_eq_map, List.map_map]
  conv => rhs; rw [← List.map_id (tupleKeys u tagss)]
  apply List.map_congr_left
  intro k hk
  exact (canonicalTag_spec u tagss k hk).1

theorem tagTuples_key_inj (u : UInfo) (tagss : List (List Str)) {t t' : TagTuple} (ht : t ∈ tagTuples u tagss)
    (ht' : t' ∈ tagTuples u tagss) (h : normTagKey u t.tag = normTagKey u t'.tag) : t = t' :=
  inj_of_nodup_map (fun t => normTagKey u t.tag) (by rw [tagTuples_keys]; exact tupleKeys_nodup u tagss) ht ht' h

end Pog.ClientGen
