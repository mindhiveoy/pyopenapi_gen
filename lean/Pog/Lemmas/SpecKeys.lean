import Pog.Lemmas.ParserSpec
/-
  The denotation `specFields` has at most ONE field per key: `shape` builds its key list with first-wins merges
  (`mergeKeyed`) and in-place updates (`dSet`) only.  Used by Pog/Props/C02d.lean to turn the set equality of
  `Faithful` into statements "the field with key `k` is required / has kind … iff the document says so".
-/
namespace Pog.Prs
open Pog Pog.Trk

theorem nodup_snoc {l : List Str} {k : Str} (h : l.Nodup) (hk : l.contains k = false) : (l ++ [k]).Nodup := by
  rw [List.nodup_append]
  refine ⟨h, by simp, ?_⟩
  intro x hx y hy e
  rw [List.mem_singleton.mp hy] at e
  rw [List.contains_iff_mem.mpr (e ▸ hx)] at hk
  cases hk

theorem mergeKeyed_keys_nodup {β : Type} (b : List (Str × β)) : ∀ (a : List (Str × β)),
    (a.map (·.1)).Nodup → ((mergeKeyed a b).map (·.1)).Nodup := by
  induction b with
  | nil => intro a h; exact h
  | cons kv rest ih =>
    intro a h
    simp only [mergeKeyed, List.foldl_cons]
    apply ih
    split
    · exact h
    · rename_i hh
      rw [dHas_iff_contains, Bool.not_eq_true] at hh
      simpa using nodup_snoc h hh

theorem map_fst_dSet_of_has {β : Type} (k : Str) (v : β) (d : List (Str × β)) (h : dHas k d = true) :
    (dSet k v d).map (·.1) = d.map (·.1) := by
  induction d with
  | nil => simp [dHas, dGet] at h
  | cons p rest ih =>
    obtain ⟨k', v'⟩ := p
    by_cases hk : k' = k
    · simp [dSet, hk]
    · have hrest : dHas k rest = true := by simpa [dHas, dGet, hk] using h
      simp [dSet, hk, ih hrest]

theorem dSet_keys_nodup {β : Type} (k : Str) (v : β) (d : List (Str × β)) (h : (d.map (·.1)).Nodup) :
    ((dSet k v d).map (·.1)).Nodup := by
  cases hh : dHas k d with
  | true => rw [map_fst_dSet_of_has k v d hh]; exact h
  | false =>
    rw [map_fst_dSet_of_not_has k v d hh]
    rw [dHas_iff_contains] at hh
    exact nodup_snoc h hh

theorem foldl_dSet_keys_nodup {β : Type} (own : List (Str × β)) : ∀ (acc : List (Str × β)),
    (acc.map (·.1)).Nodup → ((own.foldl (fun acc kv => dSet kv.1 kv.2 acc) acc).map (·.1)).Nodup := by
  induction own with
  | nil => intro acc h; exact h
  | cons kv rest ih => intro acc h; exact ih _ (dSet_keys_nodup _ _ _ h)

theorem foldl_mergeKeyed_keys_nodup {β γ : Type} (sub : List (List (Str × β) × γ)) : ∀ (acc : List (Str × β)),
    (acc.map (·.1)).Nodup → ((sub.foldl (fun acc r => mergeKeyed acc r.1) acc).map (·.1)).Nodup := by
  induction sub with
  | nil => intro acc h; exact h
  | cons r rest ih => intro acc h; exact ih _ (mergeKeyed_keys_nodup _ _ h)

theorem shape_keys_nodup (decls : Decls) : ∀ (f : Nat) (vis : List Str) (node : Node),
    ((shape decls f vis node).1.map (·.1)).Nodup := by
  intro f
  induction f with
  | zero => intro vis node; exact List.nodup_nil
  | succ f ih =>
    intro vis node
    simp only [shape]
    split
    · split
      · exact List.nodup_nil
      · split
        · exact ih _ _
        · exact List.nodup_nil
    · exact mergeKeyed_keys_nodup _ _ List.nodup_nil
    · exact List.nodup_nil
    · exact foldl_dSet_keys_nodup _ _ (foldl_mergeKeyed_keys_nodup _ _ List.nodup_nil)
    · exact List.nodup_nil

theorem specFields_keys_nodup (decls : Decls) (n : Str) : ((specFields decls n).map (·.key)).Nodup := by
  unfold specFields
  split
  · exact List.nodup_nil
  · simp only [List.map_map]
    exact shape_keys_nodup decls _ _ _

theorem field_eq_of_key_eq {fs : List Field} (hn : (fs.map (·.key)).Nodup) {f g : Field}
    (hf : f ∈ fs) (hg : g ∈ fs) (hk : f.key = g.key) : f = g := by
  induction fs with
  | nil => cases hf
  | cons x rest ih =>
    simp only [List.map_cons, List.nodup_cons, List.mem_map, not_exists, not_and] at hn
    simp only [List.mem_cons] at hf hg
    rcases hf with rfl | hf <;> rcases hg with rfl | hg
    · rfl
    · exact absurd hk.symm (hn.1 g hg)
    · exact absurd hk (hn.1 f hf)
    · exact ih hn.2 hf hg

theorem Faithful.registered {decls : Decls} {s : PSt} {n : Str} (h : Faithful decls s n) :
    ∃ id fs, s.lookup n = some id ∧ (s.get id).kind = .full ∧ modelFields decls s n = some fs := by
  obtain ⟨fs, h1, h2, _⟩ := h
  cases hl : s.lookup n with
  | none => simp [modelFields, hl] at h1
  | some id => exact ⟨id, fs, rfl, h2 id hl, h1⟩

theorem Faithful.keys {decls : Decls} {s : PSt} {n : Str} (h : Faithful decls s n) :
    ∃ fs, modelFields decls s n = some fs ∧
      ∀ k, k ∈ fs.map (·.key) ↔ k ∈ (specFields decls n).map (·.key) := by
  obtain ⟨fs, h1, _, h3⟩ := h
  refine ⟨fs, h1, fun k => ?_⟩
  simp only [List.mem_map]
  exact ⟨fun ⟨f, hf, e⟩ => ⟨f, (h3 f).mp hf, e⟩, fun ⟨f, hf, e⟩ => ⟨f, (h3 f).mpr hf, e⟩⟩

theorem Faithful.field_eq {decls : Decls} {s : PSt} {n : Str} (h : Faithful decls s n) :
    ∃ fs, modelFields decls s n = some fs ∧
      ∀ f ∈ fs, ∀ g ∈ specFields decls n, f.key = g.key → f = g := by
  obtain ⟨fs, h1, _, h3⟩ := h
  exact ⟨fs, h1, fun f hf g hg hk => field_eq_of_key_eq (specFields_keys_nodup decls n) ((h3 f).mp hf) hg hk⟩

end Pog.Prs
