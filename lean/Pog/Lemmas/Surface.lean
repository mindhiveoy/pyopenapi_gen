import Pog.Model.Surface
/-
  Text level of `Pog.Model.Surface` (for `Pog.Props.C13`).  A method text that `wfGo` accepts is, for every scanner of the model,
  some lines that are passed over followed by the signature lines of its `def` (`SigLines`, `wfGo_induct`); what `sigOf` reads off
  the Protocol stub and off the mock, and the body of the mock, are read off that decomposition.
-/
namespace Pog

theorem lstripWs_cons_of_not (c : Char) (cs : Str) (h : isPyWs c = false) : lstripWs (c :: cs) = c :: cs := by
  simp [lstripWs, h]

theorem lstripWs_eq_dropWhile (s : Str) : lstripWs s = s.dropWhile isPyWs := by
  induction s with
  | nil => rfl
  | cons c cs ih => simp only [lstripWs, List.dropWhile_cons, ih]

theorem lstripWs_suffix (s : Str) : lstripWs s <:+ s :=
  lstripWs_eq_dropWhile s ▸ List.dropWhile_suffix isPyWs

theorem lstripWs_head (s : Str) (c : Char) (cs : Str) (h : lstripWs s = c :: cs) : isPyWs c = false := by
  have := List.head?_dropWhile_not isPyWs s
  rw [← lstripWs_eq_dropWhile, h] at this
  exact this

/-- No leading and no trailing Python whitespace. -/
def Stripped (s : Str) : Prop :=
  (∀ c cs, s = c :: cs → isPyWs c = false) ∧ (∀ c cs, s.reverse = c :: cs → isPyWs c = false)

theorem Stripped.nil : Stripped [] := by
  constructor <;> intro c cs h <;> simp at h

theorem stripWs_of_stripped {s : Str} (h : Stripped s) : stripWs s = s := by
  have h1 : lstripWs s = s := by
    cases s with
    | nil => rfl
    | cons c cs => exact lstripWs_cons_of_not c cs (h.1 c cs rfl)
  have h2 : lstripWs s.reverse = s.reverse := by
    cases hr : s.reverse with
    | nil => rfl
    | cons c cs => exact lstripWs_cons_of_not c cs (h.2 c cs hr)
  simp [stripWs, rstripWs, h1, h2]

theorem stripped_stripWs (s : Str) : Stripped (stripWs s) := by
  unfold stripWs rstripWs
  obtain ⟨pre, hp⟩ := lstripWs_suffix (lstripWs s).reverse
  have hdecomp : lstripWs s = (lstripWs (lstripWs s).reverse).reverse ++ pre.reverse := by
    simpa using (congrArg List.reverse hp).symm
  constructor
  · intro c cs hc
    rw [hc] at hdecomp
    exact lstripWs_head s c _ hdecomp
  · intro c cs hc
    rw [List.reverse_reverse] at hc
    exact lstripWs_head _ c cs hc

theorem stripWs_idem (s : Str) : stripWs (stripWs s) = stripWs s :=
  stripWs_of_stripped (stripped_stripWs s)

theorem stripWs_nil : stripWs [] = [] := rfl

theorem stripped_of_head_last (c d : Char) (mid : Str) (hc : isPyWs c = false) (hd : isPyWs d = false) :
    Stripped (c :: (mid ++ [d])) := by
  constructor
  · intro x xs h
    simp only [List.cons.injEq] at h
    rw [← h.1]; exact hc
  · intro x xs h
    have h' : d :: (mid.reverse ++ [c]) = x :: xs := by simpa using h
    simp only [List.cons.injEq] at h'
    rw [← h'.1]; exact hd

theorem endsWith_singleton_iff (s : Str) (c : Char) : endsWith s [c] = true ↔ ∃ x, s = x ++ [c] := by
  unfold endsWith
  rw [List.isPrefixOf_iff_prefix, List.reverse_prefix]
  exact ⟨fun ⟨x, h⟩ => ⟨x, h.symm⟩, fun ⟨x, h⟩ => ⟨x, h.symm⟩⟩

theorem endsColon_iff (s : Str) : endsColon s = true ↔ ∃ x, s = x ++ [':'] := by
  unfold endsColon
  rw [Bool.and_eq_true, endsWith_singleton_iff]
  constructor
  · exact fun h => h.1
  · rintro ⟨x, rfl⟩
    refine ⟨⟨x, rfl⟩, ?_⟩
    simp [endsWith, List.isPrefixOf]

theorem endsStub_append (x : Str) : endsStub (x ++ kStubEnd) = true := by
  simp [endsStub, endsWith, kStubEnd, List.isPrefixOf]

theorem endsStub_colon (x : Str) : endsStub (x ++ [':']) = false := by
  simp [endsStub, endsWith, kStubEnd, List.isPrefixOf]

theorem endsColon_stub (x : Str) : endsColon (x ++ kStubEnd) = false := by
  simp [endsColon, endsWith, kStubEnd, List.isPrefixOf]

theorem startsWith_cons (c : Char) (s : Str) (d : Char) : startsWith (d :: s) [c] = (c == d) := by
  simp [startsWith, List.isPrefixOf]

theorem eq_append_drop_of_startsWith {s p : Str} (h : startsWith s p = true) : s = p ++ s.drop p.length :=
  (List.prefix_iff_eq_append.1 (List.isPrefixOf_iff_prefix.1 h)).symm

theorem wfParams_split (ls : List Str) (h : wfParams ls = true) :
    ∃ P C rest, ls = P ++ C :: rest ∧
      (∀ p ∈ P, endsColon (stripWs p) = false ∧ startsWith (stripWs p) [')'] = false) ∧
      endsColon (stripWs C) = true ∧ startsWith (stripWs C) [')'] = true ∧
      (parseSigClose (stripWs C)).isSome = true := by
  induction ls with
  | nil => simp [wfParams] at h
  | cons l ls ih =>
    unfold wfParams at h
    by_cases hc : endsColon (stripWs l) = true
    · simp only [hc, if_true, Bool.and_eq_true] at h
      exact ⟨[], l, ls, rfl, by simp, hc, h.1, h.2⟩
    · simp only [hc, Bool.false_eq_true, if_false, Bool.and_eq_true, Bool.not_eq_true'] at h
      obtain ⟨P, C, rest, rfl, hP, hC⟩ := ih h.2
      refine ⟨l :: P, C, rest, rfl, ?_, hC⟩
      intro p hp
      rcases List.mem_cons.1 hp with rfl | hp
      · exact ⟨by simpa using hc, h.1⟩
      · exact hP p hp

theorem protoGo_sig (acc P : List Str) (C : Str) (rest : List Str)
    (hP : ∀ p ∈ P, endsColon (stripWs p) = false) (hC : endsColon (stripWs C) = true) :
    protoGo (.sig acc) (P ++ C :: rest) = protoEmit (acc ++ P.map stripWs ++ [stripWs C]) := by
  induction P generalizing acc with
  | nil => simp [protoGo, hC]
  | cons p P ih =>
    have hp := hP p (by simp)
    simp only [List.cons_append, protoGo, hp, Bool.false_eq_true, if_false]
    rw [ih _ (fun q hq => hP q (List.mem_cons_of_mem _ hq))]
    simp

/-- The parameter lines folded by `sigParams` (already stripped). -/
def paramsFold : List SigParam → Bool → List Str → List SigParam × Bool
  | acc, kw, [] => (acc, kw)
  | acc, kw, s :: ss =>
    let p := dropTrailComma s
    if p == ['*'] then paramsFold acc true ss else paramsFold (parseSigParam kw p :: acc) kw ss

theorem sigParams_split (acc : List SigParam) (kw : Bool) (P : List Str) (C : Str) (rest : List Str)
    (hP : ∀ p ∈ P, startsWith (stripWs p) [')'] = false) (hC : startsWith (stripWs C) [')'] = true) :
    sigParams acc kw (P ++ C :: rest) =
      (parseSigClose (stripWs C)).map (fun r => ((paramsFold acc kw (P.map stripWs)).1.reverse, r)) := by
  induction P generalizing acc kw with
  | nil => simp [sigParams, hC, paramsFold]
  | cons p P ih =>
    have hp := hP p (by simp)
    have ih' := fun acc kw => ih acc kw (fun q hq => hP q (List.mem_cons_of_mem _ hq))
    simp only [List.cons_append, sigParams, hp, Bool.false_eq_true, if_false, List.map_cons, paramsFold]
    split <;> exact ih' _ _

theorem isPrefixOf_append_singleton (p x : Str) (c : Char) (hc : c ∉ p) :
    p.isPrefixOf (x ++ [c]) = p.isPrefixOf x := by
  rw [Bool.eq_iff_iff, List.isPrefixOf_iff_prefix, List.isPrefixOf_iff_prefix, List.prefix_concat_iff]
  exact ⟨fun h => h.resolve_left fun e => hc (e ▸ by simp), .inr⟩

theorem returnsAsyncIter_arrowLine (r : Str) :
    returnsAsyncIter (')' :: (kArrow ++ r ++ [':'])) = startsWith r kAsyncIteratorBr := by
  have hc : ':' ∉ kAsyncIteratorBr := by decide
  have hsw : startsWith (')' :: (kArrow ++ r ++ [':'])) kCloseArrow = true := by
    simp [startsWith, kArrow, kCloseArrow, List.isPrefixOf]
  have hdrop : (')' :: (kArrow ++ r ++ [':'])).drop kCloseArrow.length = r ++ [':'] := by
    simp [kArrow, kCloseArrow]
  unfold returnsAsyncIter
  simp only [kArrow, List.cons_append, List.nil_append] at hsw hdrop ⊢
  simp only [txtSplitAt1, hsw, if_true, hdrop]
  exact isPrefixOf_append_singleton kAsyncIteratorBr r ':' hc

theorem closeLine_shape (C : Str) (hc : endsColon C = true) (hp : startsWith C [')'] = true) :
    ∃ x, C = ')' :: (x ++ [':']) := by
  obtain ⟨y, rfl⟩ := (endsColon_iff C).1 hc
  cases y with
  | nil => simp [startsWith, List.isPrefixOf] at hp
  | cons c y =>
    simp only [List.cons_append, startsWith_cons, beq_iff_eq] at hp
    exact ⟨y, by rw [hp]; rfl⟩

theorem parseSigClose_stub (x : Str) :
    parseSigClose (')' :: (x ++ kStubEnd)) = parseSigClose (')' :: (x ++ [':'])) := by
  have h1 : (x ++ kStubEnd).take ((x ++ kStubEnd).length - 4) = x ++ [':'] := by
    simp [kStubEnd, List.take_append, List.take_of_length_le]
  simp only [parseSigClose, endsStub_append, if_true, h1, endsStub_colon, Bool.false_eq_true, if_false]

/-- Whether the return annotation IS `AsyncIterator[...]`. -/
def retIsAsyncIter : Option Str → Bool
  | some r => startsWith r kAsyncIteratorBr
  | none => false

theorem returnsAsyncIter_closeLine (x : Str) (r : Option Str) (h : parseSigClose (')' :: (x ++ [':'])) = some r) :
    returnsAsyncIter (')' :: (x ++ [':'])) = retIsAsyncIter r := by
  have hends : endsWith (x ++ [':']) [':'] = true := (endsWith_singleton_iff _ _).2 ⟨x, rfl⟩
  simp only [parseSigClose, endsStub_colon, Bool.false_eq_true, if_false, hends, if_true,
    List.dropLast_concat] at h
  by_cases hx : x.isEmpty = true
  · simp only [hx, if_true, Option.some.injEq] at h
    rw [← h]
    have : x = [] := by simpa using hx
    subst this; decide
  · simp only [hx, Bool.false_eq_true, if_false] at h
    by_cases ha : startsWith x kArrow = true
    · simp only [ha, if_true, Option.some.injEq] at h
      rw [← h]
      rw [retIsAsyncIter]
      conv => lhs; rw [eq_append_drop_of_startsWith ha]
      exact returnsAsyncIter_arrowLine _
    · simp [ha] at h

theorem parseDefHeader_async (s : Str) (h : startsWith s kAsyncDef = true) :
    parseDefHeader s = (txtSplitAt1 ['('] (s.drop kAsyncDef.length)).map (fun p => (true, p.1, p.2)) := by
  simp [parseDefHeader, h]

theorem parseDefHeader_dropAsync (s : Str) (h : startsWith s kAsyncDef = true) :
    parseDefHeader (kDef ++ s.drop kAsyncDef.length) =
      (parseDefHeader s).map (fun p => (false, p.2.1, p.2.2)) := by
  rw [parseDefHeader_async s h]
  have h1 : startsWith (kDef ++ s.drop kAsyncDef.length) kAsyncDef = false := by
    simp [startsWith, kDef, kAsyncDef, List.isPrefixOf]
  have h2 : startsWith (kDef ++ s.drop kAsyncDef.length) kDef = true := by
    simp [startsWith, kDef, List.isPrefixOf]
  have h3 : (kDef ++ s.drop kAsyncDef.length).drop kDef.length = s.drop kAsyncDef.length := by
    simp [kDef]
  simp only [parseDefHeader, h1, h2, h3, Bool.false_eq_true, if_false, if_true, Option.map_map]
  rfl

theorem txtSplitAt1_paren_ne_none (s : Str) (h : s.contains '(' = true) : txtSplitAt1 ['('] s ≠ none := by
  induction s with
  | nil => simp at h
  | cons c cs ih =>
    simp only [txtSplitAt1]
    by_cases hc : startsWith (c :: cs) ['('] = true
    · simp [hc]
    · simp only [hc, Bool.false_eq_true, if_false, ne_eq, Option.map_eq_none_iff]
      apply ih
      simp only [startsWith_cons, beq_iff_eq] at hc
      simp only [List.contains_cons, Bool.or_eq_true, beq_iff_eq] at h
      rcases h with h | h
      · exact absurd h hc
      · exact h

theorem stripped_dropAsync (s : Str) (hs : Stripped s) (h : startsWith s kAsyncDef = true)
    (hne : s.drop kAsyncDef.length ≠ []) : Stripped (kDef ++ s.drop kAsyncDef.length) := by
  constructor
  · intro c cs hc
    simp only [kDef, List.cons_append, List.cons.injEq] at hc
    rw [← hc.1]; decide
  · intro c cs hc
    cases hr : (s.drop kAsyncDef.length).reverse with
    | nil => exact absurd (by simpa using hr) hne
    | cons d ds =>
      rw [List.reverse_append, hr] at hc
      simp only [List.cons_append, List.cons.injEq] at hc
      rw [← hc.1]
      apply hs.2 d (ds ++ kAsyncDef.reverse)
      conv => lhs; rw [eq_append_drop_of_startsWith h]
      rw [List.reverse_append, hr]; rfl

theorem map_stripWs_idem (P : List Str) : (P.map stripWs).map stripWs = P.map stripWs := by
  rw [List.map_map]
  exact List.map_congr_left fun p _ => stripWs_idem p

theorem stripped_stubLine (x : Str) : Stripped (')' :: (x ++ kStubEnd)) := by
  have : ')' :: (x ++ kStubEnd) = ')' :: ((x ++ [':', ' ', '.', '.']) ++ ['.']) := by simp [kStubEnd]
  rw [this]
  exact stripped_of_head_last ')' '.' _ (by decide) (by decide)

theorem sigGo_header (l name : Str) (a : Bool) (P : List Str) (C : Str) (rest : List Str)
    (hov : isOvlLine (stripWs l) = false) (hdr : parseDefHeader (stripWs l) = some (a, name, []))
    (hP : ∀ p ∈ P, startsWith (stripWs p) [')'] = false) (hC : startsWith (stripWs C) [')'] = true) :
    sigGo false (l :: (P ++ C :: rest)) =
      (parseSigClose (stripWs C)).map (fun r => ⟨a, name, (paramsFold [] false (P.map stripWs)).1.reverse, r, true⟩) := by
  simp only [sigGo, hov, Bool.false_eq_true, if_false, hdr, sigAfterHeader, List.isEmpty_nil, if_true]
  rw [sigParams_split [] false P C rest hP hC]
  simp [Option.map_map, Function.comp_def]

theorem mockCollect_split (Q : List Str) (C : Str) (rest : List Str)
    (hQ : ∀ q ∈ Q, endsColon (stripWs q) = false) (hC : endsColon (stripWs C) = true) :
    mockCollect (Q ++ C :: rest) = (Q.map stripWs ++ [stripWs C], true) := by
  induction Q with
  | nil => simp [mockCollect, hC]
  | cons q Q ih =>
    have hq := hQ q (by simp)
    simp only [List.cons_append, mockCollect, hq, Bool.false_eq_true, if_false,
      ih (fun p hp => hQ p (List.mem_cons_of_mem _ hp)), List.map_cons]

theorem bodyAfterSig_split (Q : List Str) (C : Str) (rest : List Str)
    (hQ : ∀ q ∈ Q, endsColon (stripWs q) = false) (hC : endsColon (stripWs C) = true) :
    bodyAfterSig (Q ++ C :: rest) = rest := by
  induction Q with
  | nil => simp [bodyAfterSig, hC]
  | cons q Q ih =>
    have hq := hQ q (by simp)
    simp only [List.cons_append, bodyAfterSig, hq, Bool.false_eq_true, if_false,
      ih (fun p hp => hQ p (List.mem_cons_of_mem _ hp))]

/-- The stripped signature lines of the final `def` (`_transform_to_mock` passes the last one, the line closing the
    signature, to `returns_async_iterator`); `true` = inside an `@overload` block. -/
def sigLinesGo : Bool → List Str → List Str
  | _, [] => []
  | true, l :: ls => if endsStub (stripWs l) then sigLinesGo false ls else sigLinesGo true ls
  | false, l :: ls =>
    let s := stripWs l
    if isOvlLine s then sigLinesGo true ls
    else if (parseDefHeader s).isSome then (mockCollect (l :: ls)).1
    else sigLinesGo false ls

/-- `is_async_generator` of `_transform_to_mock` for a well-formed method text. -/
def mockYields (m : List Str) : Bool := returnsAsyncIter ((sigLinesGo false m).getLast?.getD [])

/-- Header line `l`, parameter lines `P` and closing line `C` of the `def` that `wfGo` accepts: what it has checked
    when it answers `true`. -/
structure SigLines (l name : Str) (P : List Str) (C x : Str) (r : Option Str) : Prop where
  notOvl : isOvlLine (stripWs l) = false
  async : isAsyncHdr (stripWs l) = true
  header : parseDefHeader (stripWs l) = some (true, name, [])
  opens : endsColon (stripWs l) = false
  params : ∀ p ∈ P, endsColon (stripWs p) = false ∧ startsWith (stripWs p) [')'] = false
  close : stripWs C = ')' :: (x ++ [':'])
  ret : parseSigClose (stripWs C) = some r

namespace SigLines
variable {l name : Str} {P : List Str} {C x : Str} {r : Option Str} (h : SigLines l name P C x r)
include h

theorem closeColon : endsColon (stripWs C) = true := by
  rw [h.close]
  exact (endsColon_iff _).2 ⟨')' :: x, rfl⟩

theorem closeParen : startsWith (stripWs C) [')'] = true := by
  rw [h.close, startsWith_cons]
  rfl

theorem asyncDef : startsWith (stripWs l) kAsyncDef = true := by
  have := h.async
  simp only [isAsyncHdr, Bool.and_eq_true] at this
  exact this.1

theorem noColon : ∀ q ∈ l :: P, endsColon (stripWs q) = false := by
  intro q hq
  rcases List.mem_cons.1 hq with rfl | hq
  · exact h.opens
  · exact (h.params q hq).1

theorem strip : SigLines (stripWs l) name (P.map stripWs) (stripWs C) x r where
  notOvl := by rw [stripWs_idem]; exact h.notOvl
  async := by rw [stripWs_idem]; exact h.async
  header := by rw [stripWs_idem]; exact h.header
  opens := by rw [stripWs_idem]; exact h.opens
  params := by
    intro p hp
    obtain ⟨q, hq, rfl⟩ := List.mem_map.1 hp
    rw [stripWs_idem]
    exact h.params q hq
  close := by rw [stripWs_idem]; exact h.close
  ret := by rw [stripWs_idem]; exact h.ret

theorem sigGo (rest : List Str) : sigGo false (l :: (P ++ C :: rest)) =
    some ⟨true, name, (paramsFold [] false (P.map stripWs)).1.reverse, r, true⟩ := by
  rw [sigGo_header l name true P C rest h.notOvl h.header (fun p hp => (h.params p hp).2) h.closeParen, h.ret]
  rfl

theorem collect (rest : List Str) :
    mockCollect (l :: (P ++ C :: rest)) = (stripWs l :: P.map stripWs ++ [stripWs C], true) := by
  simpa using mockCollect_split (l :: P) C rest h.noColon h.closeColon

theorem sigLinesGo (rest : List Str) :
    sigLinesGo false (l :: (P ++ C :: rest)) = stripWs l :: P.map stripWs ++ [stripWs C] := by
  simp only [Pog.sigLinesGo, h.notOvl, Bool.false_eq_true, if_false, h.header, Option.isSome_some, if_true, h.collect rest]

theorem bodyGo (rest : List Str) : bodyGo false (l :: (P ++ C :: rest)) = rest := by
  simp only [Pog.bodyGo, h.notOvl, Bool.false_eq_true, if_false, h.header, Option.isSome_some, if_true]
  exact bodyAfterSig_split (l :: P) C rest h.noColon h.closeColon

theorem protoGo (rest : List Str) :
    protoGo .scan (l :: (P ++ C :: rest)) = protoEmit (stripWs l :: P.map stripWs ++ [stripWs C]) := by
  simp only [Pog.protoGo, h.notOvl, Bool.false_eq_true, if_false, h.async, if_true, h.opens]
  rw [protoGo_sig [stripWs l] P C rest (fun p hp => (h.params p hp).1) h.closeColon]
  simp

theorem mockGo (cls meth : Str) (rest : List Str) :
    mockGo cls meth .scan (l :: (P ++ C :: rest)) =
      stripWs l :: (P.map stripWs ++ stripWs C :: mockBody cls meth (returnsAsyncIter (stripWs C))) := by
  simp only [Pog.mockGo, h.notOvl, Bool.false_eq_true, if_false, h.async, Bool.true_or, if_true, h.collect rest,
    Bool.true_and]
  rw [← List.cons_append, List.getLast?_concat, Option.getD_some]
  simp

end SigLines

/-- The stub keeps the parameter lines, closes with `)…: ...` and, when the return annotation is `AsyncIterator[...]`, starts
    with `def` for `async def`: either way it is again a header, parameter lines and a closing line, which `sigGo_header`
    reads (`key` below). -/
theorem sigGo_protoEmit {l name : Str} {P : List Str} {C x : Str} {r : Option Str} (h : SigLines l name P C x r) :
    sigGo false (protoEmit (stripWs l :: P.map stripWs ++ [stripWs C])) =
      some ⟨!(retIsAsyncIter r), name, (paramsFold [] false (P.map stripWs)).1.reverse, r, true⟩ := by
  have hr : parseSigClose (')' :: (x ++ [':'])) = some r := h.close ▸ h.ret
  have hends : endsWith (')' :: (x ++ [':'])) [':'] = true :=
    (endsWith_singleton_iff _ _).2 ⟨')' :: x, rfl⟩
  have hdl : (')' :: (x ++ [':'])).dropLast = ')' :: x := by
    rw [← List.cons_append, List.dropLast_concat]
  have hne : (stripWs l).drop kAsyncDef.length ≠ [] := by
    intro h0
    have hdr := h.header
    rw [parseDefHeader_async _ h.asyncDef, h0] at hdr
    simp [txtSplitAt1] at hdr
  have hclose := stripWs_of_stripped (stripped_stubLine x)
  -- the stub of header `s'`, whichever of the two it is
  have key : ∀ (s' : Str) (a : Bool), Stripped s' → isOvlLine s' = false → parseDefHeader s' = some (a, name, []) →
      sigGo false (s' :: (P.map stripWs ++ [')' :: (x ++ kStubEnd), []])) =
        some ⟨a, name, (paramsFold [] false (P.map stripWs)).1.reverse, r, true⟩ := by
    intro s' a hs' hov' hdr'
    rw [sigGo_header s' name a (P.map stripWs) (')' :: (x ++ kStubEnd)) [[]]
      (by rw [stripWs_of_stripped hs']; exact hov') (by rw [stripWs_of_stripped hs']; exact hdr')
      (fun p hp => (h.strip.params p hp).2) (by rw [hclose]; rfl), hclose, parseSigClose_stub, hr, map_stripWs_idem]
    rfl
  rw [h.close]
  unfold protoEmit
  simp only [List.getLast?_concat, Option.getD_some, List.dropLast_concat, hends, if_true, hdl, h.asyncDef, Bool.and_true,
    returnsAsyncIter_closeLine x r hr]
  cases retIsAsyncIter r with
  | false => exact key _ true (stripped_stripWs l) h.notOvl h.header
  | true =>
    have hdr' : parseDefHeader (kDef ++ (stripWs l).drop kAsyncDef.length) = some (false, name, []) := by
      rw [parseDefHeader_dropAsync _ h.asyncDef, h.header]; rfl
    exact key _ false (stripped_dropAsync _ (stripped_stripWs l) h.asyncDef hne)
      (by simp [isOvlLine, startsWith, kDef, kOverload, List.isPrefixOf]) hdr'

theorem parseDefHeader_isAsync {s : Str} {hd : Bool × Str × Str} (ha : isAsyncHdr s = true)
    (h : parseDefHeader s = some hd) : hd.1 = true := by
  simp only [isAsyncHdr, Bool.and_eq_true] at ha
  rw [parseDefHeader_async s ha.1] at h
  obtain ⟨p, _, rfl⟩ := Option.map_eq_some_iff.mp h
  rfl

/-- Induction over a text that `wfGo` accepts: the lines of an `@overload` block up to the one ending in `: ...`, an
    `@overload` line, a line that is no header, and at last the signature lines of the `def` (whatever follows them). -/
theorem wfGo_induct {motive : Bool → List Str → Prop}
    (ovlEnd : ∀ l ls, endsStub (stripWs l) = true → motive false ls → motive true (l :: ls))
    (ovlLine : ∀ l ls, endsStub (stripWs l) = false → motive true ls → motive true (l :: ls))
    (ovlStart : ∀ l ls, isOvlLine (stripWs l) = true → motive true ls → motive false (l :: ls))
    (skip : ∀ l ls, isOvlLine (stripWs l) = false → isAsyncHdr (stripWs l) = false →
      parseDefHeader (stripWs l) = none → motive false ls → motive false (l :: ls))
    (sig : ∀ l name P C x r rest, SigLines l name P C x r → motive false (l :: (P ++ C :: rest)))
    (m : List Str) : ∀ b, wfGo b m = true → motive b m := by
  intro b
  fun_induction wfGo b m with
  | case1 | case6 => nofun
  | case2 l ls he ih => exact fun h => ovlEnd l ls he (ih h)
  | case3 l ls he ih => exact fun h => ovlLine l ls (Bool.eq_false_iff.mpr he) (ih h)
  | case4 l ls s ho ih => exact fun h => ovlStart l ls ho (ih h)
  | case5 l ls s ho ha hd hdr =>
    -- the header line of the `def`: the parameter lines and the closing line are what `wfParams` accepted
    intro h
    simp only [Bool.and_eq_true, Bool.not_eq_true', List.isEmpty_iff] at h
    obtain ⟨P, C, rest, rfl, hP, hC1, hC2, hC3⟩ := wfParams_split ls h.2
    obtain ⟨x, hx⟩ := closeLine_shape (stripWs C) hC1 hC2
    obtain ⟨r, hr⟩ := Option.isSome_iff_exists.1 hC3
    obtain ⟨a, name, ps⟩ := hd
    cases parseDefHeader_isAsync ha hdr
    cases h.1.1
    exact sig l name P C x r rest ⟨Bool.eq_false_iff.mpr ho, ha, hdr, h.1.2, hP, hx, hr⟩
  | case7 l ls s ho ha ih =>
    intro h
    rw [Bool.and_eq_true, Option.isNone_iff_eq_none] at h
    exact skip l ls (Bool.eq_false_iff.mpr ho) (Bool.eq_false_iff.mpr ha) h.1 (ih h.2)

/-- The documented convention: `async` is dropped when the return annotation is `AsyncIterator[...]`. -/
def adjAsync (sg : MethodSig) : MethodSig :=
  { sg with isAsync := sg.isAsync && !retIsAsyncIter sg.ret }

theorem sigGo_false_nil_cons (X : List Str) : sigGo false ([] :: X) = sigGo false X := by
  simp [sigGo, stripWs_nil, isOvlLine, startsWith, kOverload, parseDefHeader, kAsyncDef, kDef]

theorem bodyGo_false_nil_cons (X : List Str) : bodyGo false ([] :: X) = bodyGo false X := by
  simp [bodyGo, stripWs_nil, isOvlLine, startsWith, kOverload, parseDefHeader, kAsyncDef, kDef]

theorem proto_sig_go (m : List Str) : ∀ b : Bool, wfGo b m = true →
    sigGo b (protoGo (if b then .ovl else .scan) m) = (sigGo b m).map adjAsync := by
  apply wfGo_induct
  · intro l ls he ih
    simp only [Bool.false_eq_true, if_false, if_true] at ih ⊢
    simp only [protoGo, he, if_true]
    rw [sigGo, stripWs_idem, if_pos he, sigGo_false_nil_cons, ih]
    simp only [sigGo, he, if_true]
  · intro l ls he ih
    simp only [if_true] at ih ⊢
    simp only [protoGo, sigGo, stripWs_idem, he, Bool.false_eq_true, if_false, ih]
  · intro l ls ho ih
    simp only [Bool.false_eq_true, if_false, if_true] at ih ⊢
    simp only [protoGo, sigGo, stripWs_idem, ho, if_true, ih]
  · intro l ls ho ha hn ih
    simp only [Bool.false_eq_true, if_false] at ih ⊢
    simp only [protoGo, sigGo, ho, ha, hn, Bool.false_eq_true, if_false, ih]
  · intro l name P C x r rest hs
    simp only [Bool.false_eq_true, if_false]
    rw [hs.protoGo rest, hs.sigGo rest, sigGo_protoEmit hs]
    simp [adjAsync]

/-- A well-formed text has a signature; it is `async` and multi-line, and the line `_transform_to_mock` hands to
    `returns_async_iterator` carries the return annotation `sigOf` reads — the Protocol stub's criterion (`adjAsync`). -/
theorem wf_sig (m : List Str) : ∀ b : Bool, wfGo b m = true →
    ∃ sg, sigGo b m = some sg ∧ sg.isAsync = true ∧ sg.multiLine = true ∧
      returnsAsyncIter ((sigLinesGo b m).getLast?.getD []) = retIsAsyncIter sg.ret := by
  apply wfGo_induct
  · intro l ls he ih
    simpa only [sigGo, sigLinesGo, he, if_true] using ih
  · intro l ls he ih
    simpa only [sigGo, sigLinesGo, he, Bool.false_eq_true, if_false] using ih
  · intro l ls ho ih
    simpa only [sigGo, sigLinesGo, ho, if_true] using ih
  · intro l ls ho ha hn ih
    simpa only [sigGo, sigLinesGo, ho, hn, Bool.false_eq_true, if_false, Option.isSome_none] using ih
  · intro l name P C x r rest hs
    refine ⟨_, hs.sigGo rest, rfl, rfl, ?_⟩
    rw [hs.sigLinesGo rest, List.getLast?_concat, Option.getD_some, hs.close]
    exact returnsAsyncIter_closeLine x r (hs.close ▸ hs.ret)

theorem isDefHdr_of_async (s : Str) (h : isAsyncHdr s = true) : (isAsyncHdr s || isDefHdr s) = true := by
  simp [h]

theorem isDefHdr_of_parse_none (s : Str) (h : parseDefHeader s = none) : isDefHdr s = false := by
  cases hdd : isDefHdr s with
  | false => rfl
  | true =>
    exfalso
    simp only [isDefHdr, Bool.and_eq_true] at hdd
    have hd3 := eq_append_drop_of_startsWith hdd.1
    have hna : startsWith s kAsyncDef = false := by
      rw [hd3]
      simp [startsWith, kDef, kAsyncDef, List.isPrefixOf]
    simp only [parseDefHeader, hna, Bool.false_eq_true, if_false, hdd.1, if_true, Option.map_eq_none_iff] at h
    refine txtSplitAt1_paren_ne_none _ ?_ h
    have hc := hdd.2
    rw [hd3] at hc
    simpa [kDef] using hc

theorem mock_go (cls meth : Str) (m : List Str) : ∀ b : Bool, wfGo b m = true →
    sigGo b (mockGo cls meth (if b then .ovl else .scan) m) = sigGo b m ∧
    bodyGo b (mockGo cls meth (if b then .ovl else .scan) m) =
      mockBody cls meth (returnsAsyncIter ((sigLinesGo b m).getLast?.getD [])) := by
  apply wfGo_induct
  · intro l ls he ih
    simp only [Bool.false_eq_true, if_false, if_true] at ih ⊢
    simp only [mockGo, he, if_true]
    rw [sigGo, bodyGo, stripWs_idem, if_pos he, if_pos he, sigGo_false_nil_cons, bodyGo_false_nil_cons]
    simpa only [sigGo, sigLinesGo, he, if_true] using ih
  · intro l ls he ih
    simp only [if_true] at ih ⊢
    simpa only [mockGo, sigGo, bodyGo, sigLinesGo, stripWs_idem, he, Bool.false_eq_true, if_false] using ih
  · intro l ls ho ih
    simp only [Bool.false_eq_true, if_false, if_true] at ih ⊢
    simpa only [mockGo, sigGo, bodyGo, sigLinesGo, stripWs_idem, ho, if_true] using ih
  · intro l ls ho ha hn ih
    simp only [Bool.false_eq_true, if_false] at ih ⊢
    simpa only [mockGo, sigGo, bodyGo, sigLinesGo, ho, ha, hn, isDefHdr_of_parse_none _ hn, Bool.or_false,
      Bool.false_eq_true, if_false, Option.isSome_none] using ih
  · intro l name P C x r rest hs
    simp only [Bool.false_eq_true, if_false]
    rw [hs.mockGo cls meth rest, hs.sigLinesGo rest, List.getLast?_concat, Option.getD_some]
    exact ⟨by rw [hs.strip.sigGo, hs.sigGo, map_stripWs_idem], hs.strip.bodyGo _⟩

theorem wf_sigOf (m : List Str) (h : WellFormedMethod m = true) :
    ∃ sg, sigOf m = some sg ∧ sg.isAsync = true ∧ sg.multiLine = true ∧ mockYields m = retIsAsyncIter sg.ret :=
  wf_sig m false h

theorem sigOf_protoStub (m : List Str) (h : WellFormedMethod m = true) :
    sigOf (protoStub m) = (sigOf m).map adjAsync :=
  proto_sig_go m false h

theorem toMock_spec (cls meth : Str) (m : List Str) (h : WellFormedMethod m = true) :
    sigOf (toMock cls meth m) = sigOf m ∧ bodyOf (toMock cls meth m) = mockBody cls meth (mockYields m) :=
  mock_go cls meth m false h

theorem skipDocGo_skip (A : List Str) (l : Str) (T : List Str)
    (hA : A.all (fun a => !txtHasSub kTriple a) = true) (hl : txtHasSub kTriple l = true) :
    skipDocGo (A ++ l :: T) = T := by
  induction A with
  | nil => simp [skipDocGo, hl]
  | cons a A ih =>
    simp only [List.all_cons, Bool.and_eq_true, Bool.not_eq_true'] at hA
    simp only [List.cons_append, skipDocGo, hA.1, Bool.false_eq_true, if_false]
    exact ih hA.2

theorem stripWs_indent4 (t : Str) (h : Stripped t) : stripWs (kIndent4 ++ t) = t := by
  have hws : isPyWs ' ' = true := by decide
  have hl : lstripWs (kIndent4 ++ t) = lstripWs t := by simp [kIndent4, lstripWs, hws]
  have := stripWs_of_stripped h
  unfold stripWs at this ⊢
  rw [hl]; exact this

theorem skipDoc_mockDoc (T : List Str) : skipDoc (mockDoc.map (kIndent4 ++ ·) ++ T) = T := by
  have hsplit : mockDoc.map (kIndent4 ++ ·) =
      (kIndent4 ++ kTriple) :: ((mockDoc.drop 1).dropLast.map (kIndent4 ++ ·) ++ [kIndent4 ++ kTriple]) ∧
      (mockDoc.drop 1).dropLast.all (fun a => !txtHasSub kTriple (kIndent4 ++ a)) = true := by
    unfold mockDoc
    -- read the characters off each literal: evaluating `String.toList` would make the kernel decode its UTF-8 bytes
    repeat rw [String.toList_ofList]
    decide +kernel
  rw [hsplit.1]
  have h0 : stripWs (kIndent4 ++ kTriple) = kTriple := by decide
  have h1 : startsWith kTriple kTriple = true := by decide
  have h2 : txtHasSub kTriple (kTriple.drop 3) = false := by decide
  simp only [List.cons_append, skipDoc, h0, h1, if_true, h2, Bool.false_eq_true, if_false, List.append_assoc]
  exact skipDocGo_skip _ _ _ (by rw [List.all_map]; exact hsplit.2) (by decide)

theorem mockRaise_shape (cls meth : Str) : ∃ mid, mockRaise cls meth = 'r' :: (mid ++ [')']) := by
  refine ⟨"aise NotImplementedError(\"".toList ++ cls ++ ['.'] ++ meth ++
    "() not implemented. Override this method in your test subclass.\"".toList, ?_⟩
  unfold mockRaise
  repeat rw [String.toList_ofList]
  simp only [List.cons_append, List.nil_append, List.append_assoc]

theorem isYieldLine_mockRaise (cls meth : Str) : isYieldLine (kIndent4 ++ mockRaise cls meth) = false := by
  obtain ⟨mid, h⟩ := mockRaise_shape cls meth
  rw [h]
  unfold isYieldLine
  rw [stripWs_indent4 _ (stripped_of_head_last 'r' ')' mid (by decide) (by decide))]
  simp [kYield, startsWith, List.isPrefixOf]

theorem mockBody_yields (cls meth : Str) (g : Bool) :
    (skipDoc (mockBody cls meth g)).any isYieldLine = g := by
  unfold mockBody
  rw [List.map_append, List.map_append, List.append_assoc, skipDoc_mockDoc]
  have hy : isYieldLine (kIndent4 ++ mockYield) = true := by
    unfold mockYield
    rw [String.toList_ofList]
    decide +kernel
  cases g <;> simp [isYieldLine_mockRaise, hy]

end Pog
