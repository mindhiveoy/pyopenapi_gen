import Pog.Lemmas.ParserFragments
import Pog.Lemmas.Simple2Dec
/-
  `Simple3` as a decision procedure (see Pog/Lemmas/Simple2Dec.lean for the role it plays in the correspondence
  harness): the driver evaluates `inFragment3`, and `inFragment3_sound` (Pog/Props/C02c.lean) is the theorem that a
  `true` answer implies the conclusion of `parse_faithful_partial3` for exactly the `buildSchemas maxDepth fuel decls`
  the driver then runs.
-/
namespace Pog.Prs
open Pog Pog.Trk

theorem simple3_iff (decls : Decls) (rank : Str → Nat) :
    Simple3 decls rank ↔
      ((decls.map (·.1)).Nodup ∧
       (∀ d ∈ decls, simpleNode3 (decls.map (·.1)) d.2 = true) ∧
       (∀ d ∈ decls, d.1 ≠ [] ∧ sanClass d.1 = d.1) ∧
       (∀ d ∈ decls, nodeCostOK3 rank (rank d.1) d.2 = true) ∧
       (∀ d ∈ decls, ∀ c ∈ ctxs3 d.1 d.2, c ∉ decls.map (·.1) ∧ sanClass c = c) ∧
       (∀ d ∈ decls, (ctxs3 d.1 d.2).Nodup) ∧
       (∀ d ∈ decls, ∀ d' ∈ decls, ∀ c ∈ ctxs3 d.1 d.2, c ∈ ctxs3 d'.1 d'.2 → d.1 = d'.1)) :=
  ⟨fun h => ⟨h.nodup, h.node, h.name, h.cost, h.ctxFresh, h.ctxNodup, h.ctxInj⟩,
   fun ⟨a, b, c, d, e, f, g⟩ => ⟨a, b, c, d, e, f, g⟩⟩

instance (decls : Decls) (rank : Str → Nat) : Decidable (Simple3 decls rank) :=
  decidable_of_iff _ (simple3_iff decls rank).symm

/-- the hypotheses of `parse_faithful_partial3` for `buildSchemas maxDepth fuel decls`, decided -/
def inFragment3 (maxDepth fuel : Nat) (decls : Decls) (rs : List (Str × Nat)) : Bool :=
  decide (Simple3 decls (rankOf rs)) &&
  decls.all (fun d => decide (rankOf rs d.1 + 1 < fuel)) &&
  decls.all (fun d => decide (rankOf rs d.1 + 1 ≤ maxDepth))

/-! ### evaluating `Faithful` in the kernel

  `specFuel` sums `Node.size`, which is compiled by well-founded recursion at an `allOf` node and does not reduce in
  the kernel; `decide +kernel` on `Faithful` therefore gets stuck on documents with `allOf` as soon as `shape` needs
  more than a few levels.  `FaithfulF F` is `Faithful` with the fuel of the denotation given explicitly
  (`faithful_iff_F`: definitionally the same at `F = specFuel decls`); the fuel of a concrete document is computed by
  `simp` with the equations of `Node.size`. -/

def specFieldsF (F : Nat) (decls : Decls) (n : Str) : List Field :=
  match dGet n decls with
  | none => []
  | some nd =>
    let r := shape decls F [n] nd
    r.1.map (fun kv => ⟨kv.1, r.2.contains kv.1, kv.2⟩)

def FaithfulF (F : Nat) (decls : Decls) (s : PSt) (n : Str) : Prop :=
  ∃ fs, modelFields decls s n = some fs ∧
    (∀ id, s.lookup n = some id → (s.get id).kind = .full) ∧
    (∀ f, f ∈ fs ↔ f ∈ specFieldsF F decls n)

theorem faithful_iff_F (decls : Decls) (s : PSt) (n : Str) :
    Faithful decls s n ↔ FaithfulF (specFuel decls) decls s n := Iff.rfl

instance (F : Nat) (decls : Decls) (s : PSt) (n : Str) : Decidable (FaithfulF F decls s n) :=
  match h : modelFields decls s n with
  | none => isFalse (by rintro ⟨fs, h1, _⟩; rw [h] at h1; cases h1)
  | some fs =>
    if h2 : (∀ id, s.lookup n = some id → (s.get id).kind = .full) ∧
        (∀ f ∈ fs, f ∈ specFieldsF F decls n) ∧ (∀ f ∈ specFieldsF F decls n, f ∈ fs) then
      isTrue ⟨fs, h, h2.1, fun f => ⟨h2.2.1 f, h2.2.2 f⟩⟩
    else
      isFalse (by
        rintro ⟨fs', h1, h3, h4⟩
        rw [h] at h1
        cases h1
        exact h2 ⟨h3, fun f hf => (h4 f).mp hf, fun f hf => (h4 f).mpr hf⟩)

end Pog.Prs
