import Pog.Model.StreamSpec
import Pog.Lemmas.ListExtra
/-
  httpx's `LineDecoder` against the one-character line automaton (`lrun`): one `decode` call is a run of the
  automaton from the state the decoder's buffer stands for (`LDRel`), so feeding chunks is feeding their
  concatenation.  Then what `iter_sse` and `_parse_sse_event` compute from the lines.
-/
namespace Pog

theorem lrun_append (s : LSt) (a b : Str) :
    lrun s (a ++ b) = ((lrun s a).1 ++ (lrun (lrun s a).2 b).1, (lrun (lrun s a).2 b).2) := by
  induction a generalizing s with
  | nil => simp [lrun]
  | cons c cs ih => simp [lrun, ih, List.append_assoc]

theorem lrun_singleton (s : LSt) (c : Char) : lrun s [c] = lstep s c := by
  simp [lrun]

theorem lrun_concat (s : LSt) (a : Str) (c : Char) :
    lrun s (a ++ [c]) = ((lrun s a).1 ++ (lstep (lrun s a).2 c).1, (lstep (lrun s a).2 c).2) := by
  rw [lrun_append, lrun_singleton]

/-- Prefixing the current line of the start state. -/
def LSt.addP (p : Str) (s : LSt) : LSt := ⟨p ++ s.cur, s.pcr⟩

theorem lstep_addP (p : Str) (s : LSt) (c : Char) :
    lstep (s.addP p) c =
      (if (lstep s c).1 = [] then ([], (lstep s c).2.addP p) else (mergeFirst p (lstep s c).1, (lstep s c).2)) := by
  fun_cases lstep s c <;> simp [lstep, LSt.addP, mergeFirst, *]

theorem mergeFirst_append (p : Str) (a b : List Str) (h : a ≠ []) :
    mergeFirst p (a ++ b) = mergeFirst p a ++ b := by
  cases a with
  | nil => exact absurd rfl h
  | cons x xs => simp [mergeFirst]

theorem mergeFirst_nil_left (l : List Str) : mergeFirst [] l = l := by
  cases l <;> simp [mergeFirst]

theorem mergeFirst_eq_nil (p : Str) (l : List Str) : mergeFirst p l = [] ↔ l = [] := by
  cases l <;> simp [mergeFirst]

theorem mergeFirst_mergeFirst (p q : Str) (l : List Str) :
    mergeFirst p (mergeFirst q l) = mergeFirst (p ++ q) l := by
  cases l <;> simp [mergeFirst]

theorem addP_addP (p q : Str) (s : LSt) : (s.addP q).addP p = s.addP (p ++ q) := by
  simp [LSt.addP]

theorem lrun_addP (p : Str) (s : LSt) (t : Str) :
    lrun (s.addP p) t =
      (if (lrun s t).1 = [] then ([], (lrun s t).2.addP p) else (mergeFirst p (lrun s t).1, (lrun s t).2)) := by
  induction t generalizing s p with
  | nil => simp [lrun]
  | cons c cs ih =>
    simp only [lrun]
    rw [lstep_addP]
    by_cases h1 : (lstep s c).1 = []
    · simp only [h1, if_true, List.nil_append]
      rw [ih]
    · simp only [h1, if_false, List.append_eq_nil_iff, false_and]
      rw [mergeFirst_append _ _ _ h1]

theorem isLineBreak_cr : isLineBreak '\r' = true := by decide
theorem isLineBreak_lf : isLineBreak '\n' = true := by decide

/-- What the last character fed says about the state reached. -/
theorem lrun_end (s : LSt) (t : Str) (c : Char) (h : t.getLast? = some c) :
    (c = '\r' ∧ (lrun s t).2.pcr = true) ∨
    (c ≠ '\r' ∧ isLineBreak c = true ∧ (lrun s t).2 = ⟨[], false⟩ ∧ (lrun s t).1 ≠ []) ∨
    (isLineBreak c = false ∧ (lrun s t).2.pcr = false ∧ (lrun s t).2.cur ≠ []) := by
  obtain ⟨a, rfl⟩ := List.getLast?_eq_some_iff.mp h
  rw [lrun_concat]
  fun_cases lstep (lrun s a).2 c <;> simp_all [isLineBreak_lf]

theorem init_addP (cur : Str) : LSt.init.addP cur = ⟨cur, false⟩ := by simp [LSt.addP, LSt.init]

/-- The `IndexError` branches of `LD.decodeBody` are unreachable. -/
theorem splitLines_ne_nil (t : Str) (ht : t ≠ []) : splitLines t ≠ [] := by
  obtain ⟨c, hc⟩ := Option.isSome_iff_exists.mp (List.getLast?_isSome.mpr ht)
  unfold splitLines
  rcases lrun_end LSt.init t c hc with h | h | h
  · simp [lfinish, h.2]
  · simp [h.2.2.2]
  · simp [lfinish, h.2.1, h.2.2]

/-- `[buf + lines[0]] + lines[1:]` of `text.splitlines()` is the run of the automaton from the buffered line, finished. -/
theorem mergeFirst_splitLines (cur t : Str) (ht : t ≠ []) :
    mergeFirst cur (splitLines t) = (lrun ⟨cur, false⟩ t).1 ++ lfinish (lrun ⟨cur, false⟩ t).2 := by
  have hne := splitLines_ne_nil t ht
  rw [← init_addP cur, lrun_addP]
  unfold splitLines at hne ⊢
  by_cases h : (lrun LSt.init t).1 = []
  · generalize (lrun LSt.init t).2 = q at hne ⊢
    simp only [h, List.nil_append, if_true] at hne ⊢
    unfold lfinish LSt.addP at *
    split at hne <;> simp_all [mergeFirst]
  · simp [h, mergeFirst_append _ _ _ h]

theorem lines1_eq (buffer : List Str) (cur : Str) (lines : List Str)
    (hb : buffer.flatten = cur) (hn : buffer = [] ↔ cur = []) :
    (if buffer.isEmpty = true then lines else mergeFirst buffer.flatten lines) = mergeFirst cur lines := by
  by_cases h : buffer = []
  · have := hn.mp h
    subst h; subst this
    simp [mergeFirst_nil_left]
  · simp [h, hb]

theorem decodeBody_nl (buffer : List Str) (cur : Str) (e : Bool) (t : Str) (c : Char)
    (hb : buffer.flatten = cur) (hn : buffer = [] ↔ cur = [])
    (hc : t.getLast? = some c) (hl : isLineBreak c = true) :
    LD.decodeBody buffer e t = (⟨[], e⟩, mergeFirst cur (splitLines t)) := by
  unfold LD.decodeBody
  simp only [hc, hl, if_true, lines1_eq buffer cur _ hb hn]
  split
  · rename_i h; cases h
  · rfl

/-- The abstraction relation between a `LineDecoder` and the line automaton. -/
def LDRel (ld : LD) (s : LSt) : Prop :=
  ld.buffer.flatten = s.cur ∧ (ld.buffer = [] ↔ s.cur = []) ∧ ld.trailingCR = s.pcr

theorem LDRel_init : LDRel LD.init LSt.init := by simp [LDRel, LD.init, LSt.init]

/-- When the text does not end a line, the last piece `l` goes to the buffer: alone, or (the `len(lines) == 1` shortcut)
    behind what the buffer holds. -/
theorem decodeBody_nonl (buffer : List Str) (cur : Str) (e : Bool) (t : Str) (c : Char)
    (hb : buffer.flatten = cur) (hn : buffer = [] ↔ cur = [])
    (hc : t.getLast? = some c) (hl : isLineBreak c = false) (ls : List Str) (l : Str) (hne : l ≠ [])
    (hs : mergeFirst cur (splitLines t) = ls ++ [l]) :
    (LD.decodeBody buffer e t).2 = ls ∧ LDRel (LD.decodeBody buffer e t).1 ⟨l, e⟩ := by
  unfold LD.decodeBody
  simp only [hc, hl, lines1_eq buffer cur _ hb hn]
  split
  · rename_i l0 h _
    rw [h] at hs
    obtain ⟨rfl, hl0⟩ := List.append_inj' (show [] ++ [cur ++ l0] = ls ++ [l] from hs) rfl
    cases hl0
    simpa [LDRel, hb] using hne
  · rw [hs]
    simp [LDRel, hne]

/-- `decodeBody` runs the automaton over its text and then treats the end of the text as a `\r`: a line the automaton still
    holds behind a final `\r` is delivered (`splitlines` has done so), and whether a `\n` may still follow is for `endsCR`
    to say, not for the text. -/
theorem decodeBody_spec (buffer : List Str) (cur : Str) (e : Bool) (t : Str)
    (hb : buffer.flatten = cur) (hn : buffer = [] ↔ cur = []) :
    (LD.decodeBody buffer e t).2 = (lrun ⟨cur, false⟩ (t ++ ['\r'])).1 ∧
    LDRel (LD.decodeBody buffer e t).1 ⟨(lrun ⟨cur, false⟩ (t ++ ['\r'])).2.cur, e⟩ := by
  rw [lrun_concat]
  by_cases ht : t = []
  · subst ht
    simp [LD.decodeBody, lrun, lstep, LDRel, hb, hn]
  obtain ⟨c, hc⟩ := Option.isSome_iff_exists.mp (List.getLast?_isSome.mpr ht)
  have hm := mergeFirst_splitLines cur t ht
  have hend := lrun_end ⟨cur, false⟩ t c hc
  generalize lrun ⟨cur, false⟩ t = r at hm hend ⊢
  obtain ⟨ls, x, p⟩ := r
  rcases hend with ⟨h1, h2⟩ | ⟨h1, h2, h3, h4⟩ | ⟨h1, h2, h3⟩
  · subst h2
    rw [decodeBody_nl buffer cur e t c hb hn hc (h1 ▸ isLineBreak_cr), hm]
    simp [lfinish, lstep, LDRel]
  · cases h3
    rw [decodeBody_nl buffer cur e t c hb hn hc h2, hm]
    simp [lfinish, lstep, LDRel]
  · subst h2
    simpa [lstep] using decodeBody_nonl buffer cur e t c hb hn hc h1 ls x h3 (by simpa [lfinish, h3] using hm)

theorem lrun_pcr (s : LSt) (t : Str) (c : Char) : (lrun s (t ++ [c])).2.pcr = (c == '\r') := by
  rw [lrun_concat]
  fun_cases lstep (lrun s t).2 c <;> simp_all

/-- `decode_spec` for a decoder that carries no `\r`; `decode` reduces to this case by prepending the carried `\r`. -/
theorem decode_spec_noCR (buffer : List Str) (cur : Str) (t1 : Str) (ht : t1 ≠ [])
    (hb : buffer.flatten = cur) (hn : buffer = [] ↔ cur = []) :
    ((⟨buffer, false⟩ : LD).decode t1).2 = (lrun ⟨cur, false⟩ t1).1 ∧
    LDRel ((⟨buffer, false⟩ : LD).decode t1).1 (lrun ⟨cur, false⟩ t1).2 := by
  unfold LD.decode
  simp only [Bool.false_eq_true, if_false]
  obtain ⟨c, hl⟩ := Option.isSome_iff_exists.mp (List.getLast?_isSome.mpr ht)
  obtain ⟨a, rfl⟩ := List.getLast?_eq_some_iff.mp hl
  have hp := lrun_pcr ⟨cur, false⟩ a c
  by_cases hc : c = '\r'
  · -- the final `\r` is cut off and kept as `trailing_cr`: it is the `\r` of `decodeBody_spec`
    subst hc
    have h := decodeBody_spec buffer cur true a hb hn
    generalize lrun ⟨cur, false⟩ (a ++ ['\r']) = r at h hp
    obtain ⟨ls, x, p⟩ := r
    cases hp
    simpa using h
  · -- no `\r` is pending after the run, so the `\r` of `decodeBody_spec` completes no line and only sets `pcr`
    have he : (c == '\r') = false := by simpa using hc
    have h := decodeBody_spec buffer cur false (a ++ [c]) hb hn
    rw [lrun_concat] at h
    generalize lrun ⟨cur, false⟩ (a ++ [c]) = r at h hp
    obtain ⟨ls, x, p⟩ := r
    cases he ▸ hp
    simpa [lstep, he] using h

theorem decode_spec (ld : LD) (s : LSt) (h : LDRel ld s) (text : Str) (ht : text ≠ []) :
    (ld.decode text).2 = (lrun s text).1 ∧ LDRel (ld.decode text).1 (lrun s text).2 := by
  obtain ⟨cur, pcr⟩ := s
  obtain ⟨hb, hn, rfl⟩ := h
  have hr : lrun ⟨cur, ld.trailingCR⟩ text = lrun ⟨cur, false⟩ (if ld.trailingCR = true then '\r' :: text else text) := by
    cases ld.trailingCR <;> simp [lrun, lstep]
  rw [hr]
  exact decode_spec_noCR ld.buffer cur (if ld.trailingCR = true then '\r' :: text else text)
    (by cases ld.trailingCR <;> simp [ht]) hb hn

theorem flush_spec (ld : LD) (s : LSt) (h : LDRel ld s) : ld.flush = lfinish s := by
  obtain ⟨hb, hn, hp⟩ := h
  unfold LD.flush lfinish
  rw [hp, hb]
  cases s.pcr
  · by_cases hc : s.cur = []
    · simp [hc, hn.mpr hc]
    · have : ld.buffer ≠ [] := fun h => hc (hn.mp h)
      simp [hc, this]
  · simp

theorem ldFeed_spec (ld : LD) (s : LSt) (h : LDRel ld s) (chunks : List Str) :
    ldFeed ld chunks = (lrun s chunks.flatten).1 ++ lfinish (lrun s chunks.flatten).2 := by
  induction chunks generalizing ld s with
  | nil => simp [ldFeed, lrun, flush_spec ld s h]
  | cons t ts ih =>
    by_cases ht : t = []
    · subst ht
      simp [ldFeed, ih ld s h]
    · have hd := decode_spec ld s h t ht
      simp only [ldFeed, List.isEmpty_iff, ht, if_false, List.flatten_cons, lrun_append]
      rw [ih _ _ hd.2, hd.1, List.append_assoc]

theorem linesOf_eq_splitLines (chunks : List Str) : linesOf chunks = splitLines chunks.flatten :=
  ldFeed_spec LD.init LSt.init LDRel_init chunks

/-! ### Equations that pin `splitLines` down (the usual description of `str.splitlines`) -/

theorem lrun_noBreak (cur l : Str) (h : l.all (fun c => !isLineBreak c) = true) :
    lrun ⟨cur, false⟩ l = ([], ⟨cur ++ l, false⟩) := by
  induction l generalizing cur with
  | nil => simp [lrun]
  | cons c cs ih =>
    simp only [List.all_cons, Bool.and_eq_true, Bool.not_eq_true'] at h
    have hcr : c ≠ '\r' := by
      intro hc; rw [hc, isLineBreak_cr] at h; exact absurd h.1 (by decide)
    simp [lrun, lstep, hcr, h.1, ih _ h.2]

theorem lstep_after_cr (l : Str) (d : Char) (hd : d ≠ '\n') :
    lstep ⟨l, true⟩ d = (l :: (lstep LSt.init d).1, (lstep LSt.init d).2) := by
  by_cases h2 : d = '\r' <;> by_cases h3 : isLineBreak d = true <;> simp [lstep, LSt.init, hd, h2, h3]

theorem splitLines_noBreak (l : Str) (hl : l ≠ []) (h : l.all (fun c => !isLineBreak c) = true) :
    splitLines l = [l] := by
  have := lrun_noBreak [] l h
  simp only [LSt.init, splitLines, List.nil_append] at this ⊢
  simp [this, lfinish, hl]

theorem splitLines_break (l rest : Str) (c : Char) (h : l.all (fun c => !isLineBreak c) = true)
    (hc : isLineBreak c = true) (hcr : c ≠ '\r') :
    splitLines (l ++ c :: rest) = l :: splitLines rest := by
  have := lrun_noBreak [] l h
  simp only [LSt.init, splitLines, List.nil_append] at this ⊢
  simp [lrun_append, this, lrun, lstep, hc, hcr]

theorem splitAtEmpty_ne_nil (ls : List Str) : splitAtEmpty ls ≠ [] := by
  cases ls with
  | nil => simp [splitAtEmpty]
  | cons l ls =>
    unfold splitAtEmpty
    split
    · simp
    · cases splitAtEmpty ls <;> simp [consHead]

theorem consHead_nil (S : List (List Str)) (h : S ≠ []) : consHead [] S = S := by
  cases S with
  | nil => exact absurd rfl h
  | cons b bs => simp [consHead]

theorem consHead_consHead (a b : List Str) (S : List (List Str)) :
    consHead a (consHead b S) = consHead (a ++ b) S := by
  cases S <;> simp [consHead]

theorem consHead_cons (a b : List Str) (bs : List (List Str)) : consHead a (b :: bs) = (a ++ b) :: bs := rfl

theorem sseLoop_spec (acc : List Str) (ls : List Str) :
    sseLoop acc ls = ((consHead acc (splitAtEmpty ls)).filter (fun b => !b.isEmpty)).map parseEvent := by
  induction ls generalizing acc with
  | nil =>
    by_cases h : acc = [] <;> simp [sseLoop, splitAtEmpty, consHead, h]
  | cons l ls ih =>
    by_cases hl : l = []
    · subst hl
      by_cases h : acc = []
      · subst h
        simp [sseLoop, splitAtEmpty, consHead_cons, ih, consHead_nil _ (splitAtEmpty_ne_nil ls)]
      · simp [sseLoop, splitAtEmpty, consHead_cons, ih, h, consHead_nil _ (splitAtEmpty_ne_nil ls)]
    · simp [sseLoop, splitAtEmpty, hl, ih, consHead_consHead]

theorem splitColon_append (f v : Str) (h : ':' ∉ f) : splitColon (f ++ ':' :: v) = some (f, v) := by
  induction f with
  | nil => simp [splitColon]
  | cons c f ih =>
    simp only [List.mem_cons, not_or] at h
    simp [splitColon, Ne.symm h.1, ih h.2]

theorem splitColon_eq_some (l f v : Str) (h : splitColon l = some (f, v)) : l = f ++ ':' :: v := by
  fun_induction splitColon l generalizing f <;> simp_all
  exact h.1 ▸ rfl

theorem fieldValue?_eq (name : Str) (hname : ':' ∉ name) (line : Str) :
    fieldValue? name line =
      match splitColon line with
      | some (f, v) => if f = name then some (lstripWs v) else none
      | none => none := by
  unfold fieldValue?
  by_cases hp : (name ++ [':']).isPrefixOf line
  · obtain ⟨v, rfl⟩ := List.isPrefixOf_iff_prefix.mp hp
    rw [List.append_assoc, List.singleton_append, splitColon_append name v hname]
    simp
  · rw [if_neg hp]
    cases h : splitColon line with
    | none => rfl
    | some p =>
      obtain ⟨f, v⟩ := p
      rw [splitColon_eq_some _ _ _ h] at hp
      by_cases hf : f = name
      · subst hf; simp at hp
      · simp [hf]

theorem parseLine_spec (st : PSt) (line : Str) :
    parseLine st line =
      ⟨st.data ++ (fieldValue? "data".toList line).toList,
       (fieldValue? "event".toList line).or st.event,
       (fieldValue? "id".toList line).or st.id⟩ := by
  unfold parseLine
  repeat rw [String.toList_ofList]
  rw [fieldValue?_eq _ (by decide), fieldValue?_eq _ (by decide), fieldValue?_eq _ (by decide)]
  by_cases hcm : line.head? = some ':'
  · obtain ⟨cs, rfl⟩ : ∃ cs, line = ':' :: cs := by
      cases line with
      | nil => simp at hcm
      | cons c cs => simp at hcm; exact ⟨cs, by rw [hcm]⟩
    simp [splitColon]
  · simp only [beq_iff_eq, hcm, if_false]
    cases splitColon line with
    | none => simp
    | some p =>
      obtain ⟨f, v⟩ := p
      by_cases h1 : f = ['d', 'a', 't', 'a']
      · subst h1; simp
      · by_cases h2 : f = ['e', 'v', 'e', 'n', 't']
        · subst h2; simp
        · by_cases h3 : f = ['i', 'd']
          · subst h3; simp
          · simp [h1, h2, h3]

theorem parseLines_spec (st : PSt) (ls : List Str) :
    parseLines st ls =
      ⟨st.data ++ ls.filterMap (fieldValue? "data".toList),
       (ls.filterMap (fieldValue? "event".toList)).getLast?.or st.event,
       (ls.filterMap (fieldValue? "id".toList)).getLast?.or st.id⟩ := by
  induction ls generalizing st with
  | nil => simp [parseLines]
  | cons l ls ih =>
    rw [parseLines, ih, parseLine_spec]
    simp only [List.filterMap_cons, List.append_assoc]
    congr 1
    · cases fieldValue? "data".toList l <;> simp
    · cases fieldValue? "event".toList l with
      | none => simp
      | some v => exact (getLast?_cons_or v _ _).symm
    · cases fieldValue? "id".toList l with
      | none => simp
      | some v => exact (getLast?_cons_or v _ _).symm

theorem parseLine_comment (st : PSt) (l : Str) (h : notComment l = false) : parseLine st l = st := by
  simp only [notComment, Bool.not_eq_false'] at h
  simp [parseLine, h]

theorem parseLines_filter_notComment (st : PSt) (ls : List Str) :
    parseLines st (ls.filter notComment) = parseLines st ls := by
  induction ls generalizing st with
  | nil => rfl
  | cons l ls ih =>
    cases h : notComment l
    · simp [h, parseLines, parseLine_comment st l h, ih]
    · simp [h, parseLines, ih]

end Pog
