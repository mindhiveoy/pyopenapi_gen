import Pog.Model.Parser
import Pog.Lemmas.Tracker
/-
  Lemmas about M-parser: frame reasoning.

  `Frame R`: a reflexive, transitive relation on parser states that is closed under every PRIMITIVE
  state change of the model (allocation, mutation, registration, the three tracker events, the
  book-keeping counters).  Every function of the model is a composition of primitive changes and
  callback calls, so `R` relates the state before and after any call (`parse_frame`).
  Instances: the registry only grows (`RegMono`), names whose tracker state is a placeholder are
  registered (`PhReg`).

  Below `parseCore` no function talks to the tracker, so up to `body` closure under allocation,
  mutation and registration is enough (`HeapFrame`).  That matters for the relation "the events
  emitted in between form a shaped word" (`Ext` in `Parser.lean`), which is not closed under a lone
  enter or exit.
-/
namespace Pog.Prs
open Pog Pog.Trk

structure Frame (R : PSt → PSt → Prop) : Prop where
  refl : ∀ s, R s s
  trans : ∀ {a b c}, R a b → R b c → R a c
  alloc : ∀ s o, R s (s.alloc o).2
  modify : ∀ s i f, R s (s.modify i f)
  regSet : ∀ s k i, R s (s.regSet k i)
  enter : ∀ s name allow, R s (s.doEnter name allow).2.2
  exit : ∀ s name, R s (s.doExit name)
  reset : ∀ s n, R s (s.doReset n)
  misc : ∀ (s : PSt) (n m : Nat) (b : Bool), R s { s with nest := n, maxNest := m, oom := b }

structure HeapFrame (R : PSt → PSt → Prop) : Prop where
  refl : ∀ s, R s s
  trans : ∀ {a b c}, R a b → R b c → R a c
  alloc : ∀ s o, R s (s.alloc o).2
  modify : ∀ s i f, R s (s.modify i f)
  regSet : ∀ s k i, R s (s.regSet k i)

def FrameP (R : PSt → PSt → Prop) (P : PFn) : Prop := ∀ name node allow s, R s (P name node allow s).2

variable {R : PSt → PSt → Prop}

theorem Frame.heap (hR : Frame R) : HeapFrame R := ⟨hR.refl, hR.trans, hR.alloc, hR.modify, hR.regSet⟩

theorem fr_ite {c : Prop} [Decidable c] {s : PSt} {a b : Nat × PSt} (ha : R s a.2) (hb : R s b.2) :
    R s (if c then a else b).2 := by
  split <;> assumption

theorem fr_ite_st {c : Prop} [Decidable c] {s a b : PSt} (ha : R s a) (hb : R s b) :
    R s (if c then a else b) := by
  split <;> assumption

theorem resolveRef_frame (hR : HeapFrame R) (decls : Decls) (P : PFn) (hP : FrameP R P) (t : Str) (allow : Bool)
    (s : PSt) : R s (resolveRef decls P t allow s).2 := by
  unfold resolveRef
  simp only []
  split
  · exact hR.alloc _ _
  · split
    · split
      · exact hR.refl s
      · split
        · exact hR.alloc _ _
        · exact hP _ _ _ _
    · split
      · exact hR.alloc _ _
      · exact hP _ _ _ _

theorem parseList_frame (hR : HeapFrame R) (P : PFn) (hP : FrameP R P) (allow : Bool) (ns : List Node) :
    ∀ s, R s (parseList P allow ns s).2 := by
  induction ns with
  | nil => intro s; exact hR.refl s
  | cons n rest ih =>
    intro s
    simp only [parseList]
    exact hR.trans (hP none n allow s) (ih _)

theorem parseOwn_frame (hR : HeapFrame R) (P : PFn) (hP : FrameP R P) (name : Option Str) (allow : Bool)
    (ps : List (Str × Node)) : ∀ mp s, R s (parseOwn P name allow ps mp s).2 := by
  induction ps with
  | nil => intro mp s; exact hR.refl s
  | cons kv rest ih =>
    intro mp s
    obtain ⟨k, p⟩ := kv
    simp only [parseOwn]
    exact hR.trans (hP _ p allow s) (ih _ _)

theorem parseItems_frame (hR : HeapFrame R) (P : PFn) (hP : FrameP R P) (name : Option Str) (items : Node)
    (allow : Bool) (s : PSt) : R s (parseItems P name items allow s).2 := by
  unfold parseItems
  simp only []
  split
  · exact hR.trans (hP _ _ _ _) (hR.alloc _ _)
  · exact hP _ _ _ _

theorem finishReg_frame (hR : HeapFrame R) (decls : Decls) (n : Str) (id : Nat) (s : PSt) :
    R s (finish.finishReg decls n id s).2 := by
  unfold finish.finishReg
  simp only []
  refine fr_ite_st (hR.trans ?_ (hR.modify _ _ _)) ?_
  · exact fr_ite_st (hR.regSet _ _ _) (hR.refl _)
  · exact fr_ite_st (hR.regSet _ _ _) (hR.refl _)

theorem finish_frame (hR : HeapFrame R) (decls : Decls) (name : Option Str) (id : Nat) (s : PSt) :
    R s (finish decls name id s).2 := by
  unfold finish
  split
  · refine fr_ite (hR.refl s) ?_
    split
    · exact fr_ite (hR.refl s) (finishReg_frame hR _ _ _ _)
    · exact finishReg_frame hR _ _ _ _
  · exact hR.refl s

theorem propInline_frame (hR : HeapFrame R) (P : PFn) (hP : FrameP R P) (parent : Option Str) (allow : Bool)
    (k : Str) (p : Node) (s : PSt) : R s (propInline P parent allow k p s).2 := by
  unfold propInline
  simp only []
  refine hR.trans (hP (some (parent.getD [] ++ sanClass k)) p allow s) ?_
  refine fr_ite_st (hR.trans (hR.alloc _ _) (hR.regSet _ _ _)) (hR.alloc _ _)

theorem propOther_frame (hR : HeapFrame R) (P : PFn) (hP : FrameP R P) (parent : Option Str) (allow : Bool)
    (k : Str) (p : Node) (s : PSt) : R s (propOther P parent allow k p s).2 := by
  unfold propOther
  simp only []
  have h := hP (propCtxName parent k p) p allow s
  refine fr_ite ?_ (fr_ite ?_ ?_)
  · exact hR.trans h (hR.alloc _ _)
  · exact hR.trans h (hR.alloc _ _)
  · exact hR.trans h (hR.modify _ _ _)

theorem propStep_frame (hR : HeapFrame R) (decls : Decls) (P : PFn) (hP : FrameP R P) (parent : Option Str)
    (allow : Bool) (k : Str) (p : Node) (s : PSt) : R s (propStep decls P parent allow k p s).2 := by
  unfold propStep
  split
  · exact resolveRef_frame hR decls P hP _ allow s
  · exact fr_ite (propInline_frame hR P hP parent allow k p s) (propOther_frame hR P hP parent allow k p s)

theorem parseProps_frame (hR : HeapFrame R) (decls : Decls) (P : PFn) (hP : FrameP R P) (parent : Option Str)
    (allow : Bool) (ps : List (Str × Node)) :
    ∀ acc s, R s (parseProps decls P parent allow ps acc s).2 := by
  induction ps with
  | nil => intro acc s; exact hR.refl s
  | cons kv rest ih =>
    intro acc s
    obtain ⟨k, p⟩ := kv
    simp only [parseProps]
    split
    · exact ih _ _
    · exact hR.trans (propStep_frame hR decls P hP parent allow k p s) (ih _ _)

/-- every branch of `body` but the alias ends by allocating the result and handing it to `finish` -/
theorem allocFinish_frame (hR : HeapFrame R) (decls : Decls) (name : Option Str) (o : IR) {s s1 : PSt}
    (h : R s s1) : R s (finish decls name (s1.alloc o).1 (s1.alloc o).2).2 :=
  hR.trans h (hR.trans (hR.alloc _ _) (finish_frame hR _ _ _ _))

theorem body_frame (hR : HeapFrame R) (decls : Decls) (P : PFn) (hP : FrameP R P) (name : Option Str)
    (node : Node) (allow : Bool) (s : PSt) : R s (body decls P name node allow s).2 := by
  unfold body
  simp only []
  split
  · have h := resolveRef_frame hR decls P hP ‹Str› allow s
    split
    · exact fr_ite h (fr_ite h (fr_ite (hR.trans h (hR.regSet _ _ _)) h))
    · exact h
  · exact allocFinish_frame hR _ _ _ (hR.refl s)
  · rename_i props req ap _
    cases props <;> cases ap <;> dsimp only
    · exact allocFinish_frame hR _ _ _ (hR.refl s)
    · exact allocFinish_frame hR _ _ _ (hP none _ allow s)
    · exact allocFinish_frame hR _ _ _ (parseProps_frame hR decls P hP _ allow _ _ s)
    · exact allocFinish_frame hR _ _ _ (hR.trans (parseProps_frame hR decls P hP _ allow _ _ s) (hP none _ allow _))
  · refine hR.trans ?_ (finish_frame hR _ _ _ _)
    refine hR.trans ?_ (hR.modify _ _ _)
    refine hR.trans ?_ (parseItems_frame hR P hP name _ allow _)
    exact hR.trans (parseItems_frame hR P hP name _ allow s) (hR.alloc _ _)
  · exact allocFinish_frame hR _ _ _
      (hR.trans (parseList_frame hR P hP allow _ s) (parseOwn_frame hR P hP name allow _ _ _))
  · exact allocFinish_frame hR _ _ _ (parseList_frame hR P hP allow _ s)
  · exact allocFinish_frame hR _ _ _ (parseList_frame hR P hP allow _ s)
  · exact hR.refl s

theorem bodyAndExit_frame (hR : Frame R) (decls : Decls) (P : PFn) (hP : FrameP R P) (name : Option Str)
    (node : Node) (allow : Bool) (s : PSt) : R s (bodyAndExit decls P name node allow s).2 := by
  unfold bodyAndExit
  exact hR.trans (body_frame hR.heap decls P hP name node allow s) (hR.exit _ _)

theorem doEnter_fst (s : PSt) (name : Option Str) (allow : Bool) :
    (s.doEnter name allow).1 = (Trk.enter s.tr name allow).2 := by
  unfold PSt.doEnter
  dsimp only
  split <;> rfl

/-- The ways through `parseCore`, by the tracker's answer to the enter (`x` is the state after the
    enter and the balancing exit): a new placeholder; a known placeholder, looked up or made up; a
    COMPLETED schema found in the registry; one not found, which is parsed again after a reset of
    its state (if it has a name); CONTINUE. -/
theorem parseCore_cases (decls : Decls) (P : PFn) (name : Option Str) (node : Node) (allow : Bool) (s : PSt) :
    let r := (Trk.enter s.tr name allow).2
    let x := (s.doEnter name allow).2.2.doExit name
    let out := (parseCore decls P name node allow s).2
    (r.action = .createPlaceholder ∧ out = x) ∨
    (r.action = .returnPlaceholder ∧ (out = x ∨ ∃ o, out = (x.alloc o).2)) ∨
    (r.action = .returnExisting ∧ out = x ∧ ∃ n, name = some n ∧ x.regHas n = true) ∨
    (r.action = .returnExisting ∧ ∃ s1, out = (bodyAndExit decls P name node allow s1).2 ∧
      ((s1 = x ∧ resetEvs name = []) ∨ ∃ n, name = some n ∧ resetEvs name = [.reset n] ∧ s1 = x.doReset n)) ∨
    (r.action = .continueParsing ∧
      out = (bodyAndExit decls P name node allow (s.doEnter name allow).2.2).2) := by
  -- the goal mentions the result five times: take the definition apart in one copy of it
  generalize hr : parseCore decls P name node allow s = q
  unfold parseCore at hr
  dsimp only at hr
  rw [doEnter_fst] at hr
  split at hr
  · exact .inl ⟨‹_›, by rw [← hr]⟩
  · refine .inr (.inl ⟨‹_›, ?_⟩)
    split at hr
    · split at hr
      · split at hr
        · exact .inl (by rw [← hr])
        · exact .inr ⟨_, by rw [← hr]⟩
      · exact .inr ⟨_, by rw [← hr]⟩
    · exact .inr ⟨_, by rw [← hr]⟩
  · rename_i hact
    refine .inr (.inr ?_)
    split at hr
    · rename_i n
      split at hr
      · rename_i htruthy
        split at hr
        · rename_i id hid
          exact .inl ⟨hact, by rw [← hr], n, rfl, by simp [PSt.regHas, dHas, hid]⟩
        · exact .inr (.inl ⟨hact, _, by rw [← hr], .inr ⟨n, rfl, if_neg (by rintro rfl; cases htruthy), rfl⟩⟩)
      · cases n with
        | nil => exact .inr (.inl ⟨hact, _, by rw [← hr], .inl ⟨rfl, rfl⟩⟩)
        | cons c cs => exact absurd rfl ‹_›
    · exact .inr (.inl ⟨hact, _, by rw [← hr], .inl ⟨rfl, rfl⟩⟩)
  · exact .inr (.inr (.inr (.inr ⟨‹_›, by rw [← hr]⟩)))

theorem parseCore_frame (hR : Frame R) (decls : Decls) (P : PFn) (hP : FrameP R P) (name : Option Str)
    (node : Node) (allow : Bool) (s : PSt) : R s (parseCore decls P name node allow s).2 := by
  have he := hR.enter s name allow
  have hx := hR.trans he (hR.exit _ name)
  rcases parseCore_cases decls P name node allow s with ⟨_, e⟩ | ⟨_, e | ⟨o, e⟩⟩ | ⟨_, e, _⟩ |
    ⟨_, s1, e, ⟨rfl, _⟩ | ⟨n, _, _, rfl⟩⟩ | ⟨_, e⟩ <;> rw [e]
  · exact hx
  · exact hx
  · exact hR.trans hx (hR.alloc _ _)
  · exact hx
  · exact hR.trans hx (bodyAndExit_frame hR decls P hP _ _ _ _)
  · exact hR.trans (hR.trans hx (hR.reset _ _)) (bodyAndExit_frame hR decls P hP _ _ _ _)
  · exact hR.trans he (bodyAndExit_frame hR decls P hP _ _ _ _)

theorem parseStep_frame (hR : Frame R) (decls : Decls) (P : PFn) (hP : FrameP R P) :
    FrameP R (parseStep decls P) := by
  intro name node allow s
  unfold parseStep
  simp only []
  refine hR.trans (hR.misc s (s.nest + 1) (max s.maxNest (s.nest + 1)) s.oom) ?_
  refine hR.trans (parseCore_frame hR decls P hP name node allow _) ?_
  exact hR.misc _ _ _ _

theorem parse_frame (hR : Frame R) (decls : Decls) (fuel : Nat) : FrameP R (parse decls fuel) := by
  induction fuel with
  | zero =>
    intro name node allow s
    exact hR.misc s s.nest s.maxNest true
  | succ n ih => exact parseStep_frame hR decls _ ih

theorem buildLoop_of_parse (hR : HeapFrame R) (decls : Decls) (fuel : Nat)
    (hP : FrameP R (parse decls fuel)) (ds : List (Str × Node)) :
    ∀ s, R s (buildLoop decls fuel ds s) := by
  induction ds with
  | nil => intro s; exact hR.refl s
  | cons d rest ih =>
    intro s
    simp only [buildLoop]
    split
    · exact hR.trans (hP _ _ _ _) (ih _)
    · exact ih _

theorem buildLoop_frame (hR : Frame R) (decls : Decls) (fuel : Nat) (ds : List (Str × Node)) :
    ∀ s, R s (buildLoop decls fuel ds s) :=
  buildLoop_of_parse hR.heap decls fuel (parse_frame hR decls fuel) ds

end Pog.Prs
