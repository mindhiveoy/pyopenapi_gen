import Std.Data.String.ToNat
import Pog.Model.Fresh
import Pog.Lemmas.SanIdem
/-
  Lemmas about the "suffix until unused" loops of `Pog.Model.Fresh`.
-/
namespace Pog

theorem natStr_inj {i j : Nat} (h : natStr i = natStr j) : i = j :=
  Nat.repr_injective (String.toList_injective h)

theorem natStr_eq (k : Nat) : natStr k = Nat.toDigits 10 k := by
  simp [natStr, Nat.repr]

theorem natStr_ne_nil (k : Nat) : natStr k ≠ [] := by
  rw [natStr_eq]; exact Nat.toDigits_ne_nil

theorem natStr_digits (k : Nat) : ∀ c ∈ natStr k, isDigitA c = true := by
  intro c hc
  rw [natStr_eq] at hc
  rw [isDigitA_iff, ← isDigit_iff]
  exact Nat.isDigit_of_mem_toDigits (by decide) (by decide) hc

theorem natStr_snoc (k : Nat) : ∃ ds d, natStr k = ds ++ [d] ∧ isDigitA d = true :=
  ⟨_, _, (List.dropLast_concat_getLast (natStr_ne_nil k)).symm, natStr_digits k _ (List.getLast_mem _)⟩

theorem sufUnderscore_inj (base : Str) (i j : Nat)
    (h : sufUnderscore base i = sufUnderscore base j) : i = j := by
  unfold sufUnderscore at h
  have := List.append_cancel_left h
  exact natStr_inj (List.cons.inj this).2

theorem sufPlain_inj (base : Str) (i j : Nat) (h : sufPlain base i = sufPlain base j) : i = j := by
  unfold sufPlain at h
  exact natStr_inj (List.append_cancel_left h)

theorem classCand_inj (base : Str) (i j : Nat) (h : classCand base i = classCand base j) : i = j := by
  unfold classCand at h
  split at h <;> exact natStr_inj (List.append_cancel_left h)

/-- Pigeonhole: `ghost` holds the taken names the search can still run into, and loses the candidate just tried. -/
theorem findFresh_spec (mk : Nat → Str) (hinj : ∀ i j, mk i = mk j → i = j) (seen : List Str) :
    ∀ (fuel k : Nat) (ghost : List Str), (∀ j, k ≤ j → (mk j ∈ seen ↔ mk j ∈ ghost)) →
      ghost.length < fuel → ∃ k', findFresh mk seen k fuel = some k' ∧ mk k' ∉ seen := by
  intro fuel
  induction fuel with
  | zero => intro k ghost _ h; exact absurd h (Nat.not_lt_zero _)
  | succ fuel ih =>
    intro k ghost hg hlen
    unfold findFresh
    split
    · rename_i hmem
      have hmem : mk k ∈ seen := List.contains_iff_mem.1 hmem
      have hmemg : mk k ∈ ghost := (hg k (Nat.le_refl _)).1 hmem
      apply ih (k + 1) (ghost.filter (fun x => x != mk k))
      · intro j hj
        rw [hg j (Nat.le_of_succ_le hj), List.mem_filter, bne_iff_ne, and_iff_left]
        intro heq
        have := hinj _ _ heq
        omega
      · have : (ghost.filter (fun x => x != mk k)).length < ghost.length := by
          rw [List.length_filter_lt_length_iff_exists]
          exact ⟨mk k, hmemg, by simp⟩
        omega
    · rename_i hmem
      exact ⟨k, rfl, fun h => hmem (List.contains_iff_mem.2 h)⟩

/-- The name a suffix loop hands out: not taken, and the base or a candidate. -/
theorem freshName_spec (mk : Nat → Str) (start : Nat) (seen : List Str) (base : Str)
    (hinj : ∀ i j, mk i = mk j → i = j) :
    ∃ n, freshName mk start seen base = some n ∧ n ∉ seen ∧ (n = base ∨ ∃ k, n = mk k) := by
  unfold freshName
  split
  · obtain ⟨k', hk, hk'⟩ := findFresh_spec mk hinj seen (seen.length + 1) start seen
      (fun _ _ => Iff.rfl) (Nat.lt_succ_self _)
    exact ⟨mk k', by rw [hk]; rfl, hk', .inr ⟨k', rfl⟩⟩
  · rename_i h
    exact ⟨base, rfl, fun hm => h (List.contains_iff_mem.2 hm), .inl rfl⟩

theorem assignAll_spec_aux (mk : Str → Nat → Str) (start : Nat)
    (hinj : ∀ b i j, mk b i = mk b j → i = j) (bases : List Str) :
    ∀ seen, ∃ l, assignAll mk start seen bases = some l ∧ l.Nodup ∧ (∀ x ∈ l, x ∉ seen) ∧
      l.length = bases.length ∧ ∀ n ∈ l, ∃ b ∈ bases, n = b ∨ ∃ k, n = mk b k := by
  induction bases with
  | nil => intro seen; exact ⟨[], rfl, List.nodup_nil, by simp, rfl, by simp⟩
  | cons b bs ih =>
    intro seen
    obtain ⟨n, hn, hns, hsh⟩ := freshName_spec (mk b) start seen b (hinj b)
    obtain ⟨rest, hr, hnd, hfresh, hlen, hshape⟩ := ih (n :: seen)
    refine ⟨n :: rest, ?_, ?_, ?_, ?_, ?_⟩
    · simp only [assignAll, hn, hr]
    · rw [List.nodup_cons]
      exact ⟨fun hmem => hfresh n hmem (by simp), hnd⟩
    · intro x hx
      rcases List.mem_cons.1 hx with rfl | hx
      · exact hns
      · exact fun hm => hfresh x hx (List.mem_cons_of_mem _ hm)
    · simp [hlen]
    · intro x hx
      rcases List.mem_cons.1 hx with rfl | hx
      · exact ⟨b, List.mem_cons_self, hsh⟩
      · obtain ⟨b', hb', hs⟩ := hshape x hx
        exact ⟨b', List.mem_cons_of_mem _ hb', hs⟩

theorem assignAll_spec (mk : Str → Nat → Str) (start : Nat)
    (hinj : ∀ b i j, mk b i = mk b j → i = j) (bases : List Str) :
    ∃ l, assignAll mk start [] bases = some l ∧ l.Nodup ∧ l.length = bases.length := by
  obtain ⟨l, h1, h2, _, h3, _⟩ := assignAll_spec_aux mk start hinj bases []
  exact ⟨l, h1, h2, h3⟩

theorem assignAll_map_spec {α : Type} (mk : Str → Nat → Str) (start : Nat)
    (hinj : ∀ b i j, mk b i = mk b j → i = j) (f : α → Str) (xs : List α) :
    ∃ l, assignAll mk start [] (xs.map f) = some l ∧ l.Nodup ∧ l.length = xs.length := by
  obtain ⟨l, h1, h2, h3⟩ := assignAll_spec mk start hinj (xs.map f)
  exact ⟨l, h1, h2, by rw [h3, List.length_map]⟩

/-- The request is `sanitize_method_name(prop)` unless that is `field`. -/
theorem dcFieldBase_eq (p : Str) :
    dcFieldBase p = if sanMethod p = "field".toList then "field_".toList else sanMethod p := by
  unfold dcFieldBase
  simp only [beq_iff_eq]
  split
  · rename_i h; rw [h]; rfl
  · rfl

theorem dcFieldBase_ne_field (p : Str) : dcFieldBase p ≠ "field".toList := by
  rw [dcFieldBase_eq]
  split
  · decide +kernel
  · assumption

/-- No field identifier of a dataclass is `field`: a requested name never is (`dcFieldBase`), and a suffixed one contains `_`. -/
theorem fieldNames_ne_field (props l : List Str) (h : fieldNames props = some l) : "field".toList ∉ l := by
  intro hm
  obtain ⟨l', h', _, _, _, hshape⟩ := assignAll_spec_aux sufUnderscore 2 sufUnderscore_inj (props.map dcFieldBase) []
  rw [fieldNames, h', Option.some.injEq] at h
  obtain ⟨b, hb, hs⟩ := hshape _ (h ▸ hm)
  obtain ⟨p, _, hp⟩ := List.mem_map.mp hb
  rcases hs with e | ⟨k, e⟩
  · exact dcFieldBase_ne_field p (hp.trans e.symm)
  · have : '_' ∈ "field".toList := by rw [e]; simp [sufUnderscore]
    revert this
    decide

theorem dropBraces_append (a b : Str) : dropBraces (a ++ b) = dropBraces a ++ dropBraces b := by
  simp [dropBraces]

theorem camelSplit1_append_tail (t : Str) (ht : t.all (fun c => !isUpperA c) = true) :
    ∀ (a : Str) (prev : Option Char), camelSplit1 prev (a ++ t) = camelSplit1 prev a ++ t := by
  intro a
  induction a with
  | nil => intro prev; simp only [List.nil_append]; rw [camelSplit1_noUpper t prev ht]; rfl
  | cons c cs ih =>
    intro prev
    simp only [List.cons_append, camelSplit1, ih]
    split <;> (try split) <;> rfl

/-- A tail that has no capital and does not start with a lower-case letter passes through `camelSplit2` untouched and does not
    change what happens before it. -/
theorem camelSplit2_append_tail (t : Str) (ht : t.all (fun c => !isUpperA c) = true)
    (hh : ∀ d, t.head? = some d → isLowerA d = false) :
    ∀ (a : Str) (b : Bool), camelSplit2 b (a ++ t) = camelSplit2 b a ++ t := by
  intro a
  induction a with
  | nil => intro b; simp only [List.nil_append]; rw [camelSplit2_noUpper t b ht]; rfl
  | cons c cs ih =>
    intro b
    cases cs with
    | nil =>
      simp only [List.cons_append, List.nil_append]
      cases t with
      | nil => simp
      | cons d ds =>
        have hl : isLowerA d = false := hh d rfl
        have e : camelSplit2 (isUpperA c) (d :: ds) = d :: ds := camelSplit2_noUpper _ _ ht
        rw [camelSplit2, e]
        simp [hl, camelSplit2]
    | cons d ds =>
      simp only [List.cons_append] at ih ⊢
      unfold camelSplit2
      simp only [ih]
      split <;> rfl

theorem nonId_append (a b : Str) : nonIdToUnderscore (a ++ b) = nonIdToUnderscore a ++ nonIdToUnderscore b := by
  simp [nonIdToUnderscore]

theorem collapse_append_of_head_ne (d : Char) (y : Str) (hd : d ≠ '_') :
    ∀ x : Str, collapseUnderscores (x ++ d :: y) = collapseUnderscores x ++ collapseUnderscores (d :: y) := by
  intro x
  induction x with
  | nil => rfl
  | cons c cs ih =>
    cases cs with
    | nil =>
      simp only [List.cons_append, List.nil_append]
      rw [collapseUnderscores]
      have : (d == '_') = false := by simpa using hd
      simp [this, collapseUnderscores]
    | cons c' rest =>
      simp only [List.cons_append] at ih ⊢
      rw [collapseUnderscores, collapseUnderscores, ih]
      split <;> rfl

theorem collapse_of_no_us (s : Str) (h : s.all (fun c => c != '_') = true) : collapseUnderscores s = s :=
  collapse_id fun hi => by simpa using List.all_eq_true.1 h '_' (hi.subset List.mem_cons_self)

/-- What `methodCore` makes of `id_<digits>`: a prefix that depends on `id` only, followed by the digits. -/
theorem methodCore_suffixed (id : Str) : ∃ q : Str, ∀ ds : Str, ds ≠ [] → ds.all isDigitA = true →
    methodCore (id ++ '_' :: ds) = q ++ ds := by
  refine ⟨(lstripC '_' (collapseUnderscores
    (nonIdToUnderscore (camelSplit2 false (camelSplit1 none (dropBraces id))) ++ ['_']))).map lowerA, ?_⟩
  intro ds hne hds
  have hne_us : ∀ c, isDigitA c = true → c ≠ '_' := fun c h e => by subst e; revert h; decide
  have hlow : ds.all lowId = true := all_imp (fun _ => lowId_of_digit) hds
  have hlow' : ('_' :: ds).all lowId = true := by rw [List.all_cons, lowId_us, hlow]; rfl
  have hidc := all_imp (fun _ => lowId_idChar) hlow'
  have hnu := noUpper_of_lowId hlow'
  have hnus : ds.all (fun c => c != '_') = true := all_imp (fun c h => by simpa using hne_us c h) hds
  obtain ⟨d, ds', rfl⟩ := List.exists_cons_of_ne_nil hne
  have hdne : d ≠ '_' := hne_us d (List.all_eq_true.1 hds d List.mem_cons_self)
  rw [methodCore_eq]
  unfold methodPre
  rw [dropBraces_append, dropBraces_of_idChar hidc, camelSplit1_append_tail _ hnu,
    camelSplit2_append_tail _ hnu (by intro x hx; simp only [List.head?_cons, Option.some.injEq] at hx; subst hx; decide),
    nonId_append, nonId_of_idChar hidc]
  generalize nonIdToUnderscore (camelSplit2 false (camelSplit1 none (dropBraces id))) = A
  rw [List.append_cons A, collapse_append_of_head_ne d ds' hdne, collapse_of_no_us _ hnus]
  generalize collapseUnderscores (A ++ ['_']) = P
  unfold stripC
  rw [lstripC_append_of_head '_' (d :: ds') (by simpa using hdne)]
  rw [rstripC_id_of_last]
  · rw [List.map_append, mapLower_id hlow]
  · rw [List.getLast?_append, List.getLast?_eq_some_getLast (List.cons_ne_nil d ds'), Option.some_or]
    exact fun h => hne_us _ (List.all_eq_true.1 hds _ (List.getLast_mem (List.cons_ne_nil d ds'))) (Option.some.inj h)

/-- Two different suffixes never give the same method name: `sanitize_method_name(f"{id}_{i}")` determines `i`. -/
theorem sufMethod_inj (id : Str) (i j : Nat) (h : sufMethod id i = sufMethod id j) : i = j := by
  unfold sufMethod sufId at h
  have h' := congrArg methodCore h
  rw [sanMethod_eq, sanMethod_eq, methodCore_methodPost (methodCore_clean _),
    methodCore_methodPost (methodCore_clean _)] at h'
  obtain ⟨q, hq⟩ := methodCore_suffixed id
  rw [hq _ (natStr_ne_nil i) (List.all_eq_true.2 (natStr_digits i)),
    hq _ (natStr_ne_nil j) (List.all_eq_true.2 (natStr_digits j))] at h'
  exact natStr_inj (List.append_cancel_left h')

theorem countOf_none_iff (seen : List (Str × Nat)) (k : Str) : countOf seen k = none ↔ k ∉ seenKeys seen := by
  induction seen with
  | nil => simp [countOf, seenKeys]
  | cons p ps ih =>
    obtain ⟨k', n⟩ := p
    rw [countOf, seenKeys, List.map_cons, List.mem_cons, not_or, ← seenKeys, ← ih]
    by_cases h : k' = k
    · simp [h]
    · simp [h, Ne.symm h]

theorem seenKeys_setCount (seen : List (Str × Nat)) (k : Str) (v : Nat) :
    seenKeys (setCount seen k v) = seenKeys seen := by
  induction seen with
  | nil => rfl
  | cons p ps ih =>
    obtain ⟨k', n⟩ := p
    simp only [setCount, seenKeys, List.map_cons] at ih ⊢
    split <;> simp [ih]

theorem seenKeys_snoc (seen : List (Str × Nat)) (k : Str) (n : Nat) : seenKeys (seen ++ [(k, n)]) = seenKeys seen ++ [k] := by
  simp [seenKeys]

/-- The `while` loop of the pass ends within `|seen_methods| + 1` iterations, on a method name that is not taken. -/
theorem dedup_search_ends (seen : List (Str × Nat)) (id : Str) (start : Nat) :
    ∃ k, findFresh (sufMethod id) (seenKeys seen) start (seen.length + 1) = some k ∧
      sufMethod id k ∉ seenKeys seen := by
  apply findFresh_spec (sufMethod id) (sufMethod_inj id) (seenKeys seen) (seen.length + 1) start (seenKeys seen)
    (fun _ _ => Iff.rfl)
  simp [seenKeys]

/-- What the pass owes for `ids` from the state `seen`: one id per operation, method names pairwise different and not taken,
    every id kept or given a numeric suffix. -/
def DedupOk (seen : List (Str × Nat)) (ids out : List Str) : Prop :=
  out.length = ids.length ∧ (out.map sanMethod).Nodup ∧ (∀ x ∈ out, sanMethod x ∉ seenKeys seen) ∧
    (∀ p ∈ ids.zip out, p.2 = p.1 ∨ ∃ n, p.2 = sufId p.1 n)

/-- One operation handed out as `x` and recorded under the new key `sanMethod x` (`seen'` is `seen` up to counters). -/
theorem DedupOk.cons {seen seen' : List (Str × Nat)} {id x : Str} {rest out : List Str}
    (hk : seenKeys seen' = seenKeys seen) (hx : sanMethod x ∉ seenKeys seen) (hs : x = id ∨ ∃ n, x = sufId id n)
    (h : DedupOk (seen' ++ [(sanMethod x, 1)]) rest out) : DedupOk seen (id :: rest) (x :: out) := by
  obtain ⟨hlen, hnd, hfresh, hsh⟩ := h
  simp only [seenKeys_snoc, hk, List.mem_append, List.mem_singleton, not_or] at hfresh
  refine ⟨by simp [hlen], ?_, ?_, ?_⟩
  · rw [List.map_cons, List.nodup_cons]
    refine ⟨fun hm => ?_, hnd⟩
    obtain ⟨y, hy, hye⟩ := List.mem_map.1 hm
    exact (hfresh y hy).2 hye
  · intro y hy
    rcases List.mem_cons.1 hy with rfl | hy
    · exact hx
    · exact (hfresh y hy).1
  · intro p hp
    rcases List.mem_cons.1 (by simpa using hp) with rfl | hp
    · exact hs
    · exact hsh p hp

/-- The pass on every input and from every state of `seen_methods`: it ends (`some`), changes no length, every output id is the
    input id or the input id with a numeric suffix, and the METHOD NAMES of the output are pairwise different and different from
    every name already taken. -/
theorem dedupOpIds?_spec (ids : List Str) :
    ∀ seen, ∃ out, dedupOpIds? seen ids = some out ∧ DedupOk seen ids out := by
  induction ids with
  | nil => intro seen; exact ⟨[], rfl, rfl, List.nodup_nil, by simp, by simp⟩
  | cons id rest ih =>
    intro seen
    cases hc : countOf seen (sanMethod id) with
    | none =>
      obtain ⟨out, ho, h⟩ := ih (seen ++ [(sanMethod id, 1)])
      have hnot : sanMethod id ∉ seenKeys seen := (countOf_none_iff _ _).1 hc
      exact ⟨id :: out, by simp only [dedupOpIds?, hc, ho], DedupOk.cons rfl hnot (.inl rfl) h⟩
    | some n =>
      obtain ⟨k, hk, hknot⟩ := dedup_search_ends seen id (n + 1)
      obtain ⟨out, ho, h⟩ := ih (setCount seen (sanMethod id) k ++ [(sufMethod id k, 1)])
      exact ⟨sufId id k :: out, by simp only [dedupOpIds?, hc, hk, ho],
        DedupOk.cons (seenKeys_setCount _ _ _) hknot (.inr ⟨k, rfl⟩) h⟩

theorem dedupOpIds?_isSome (seen : List (Str × Nat)) (ids : List Str) : (dedupOpIds? seen ids).isSome = true := by
  obtain ⟨out, h, _⟩ := dedupOpIds?_spec ids seen
  rw [h]; rfl

theorem dedupOpIds?_eq_some (seen : List (Str × Nat)) (ids : List Str) :
    dedupOpIds? seen ids = some (dedupOpIds seen ids) := by
  obtain ⟨out, h, _⟩ := dedupOpIds?_spec ids seen
  rw [dedupOpIds, h]; rfl

theorem dedupOpIds_spec (seen : List (Str × Nat)) (ids : List Str) : DedupOk seen ids (dedupOpIds seen ids) := by
  obtain ⟨out, h, hok⟩ := dedupOpIds?_spec ids seen
  rw [dedupOpIds, h]
  exact hok

theorem dedupOpIds?_id (ids : List Str) :
    ∀ seen, (∀ id ∈ ids, sanMethod id ∉ seenKeys seen) → (ids.map sanMethod).Nodup →
      dedupOpIds? seen ids = some ids := by
  induction ids with
  | nil => intro _ _ _; rfl
  | cons id rest ih =>
    intro seen hc hnd
    rw [List.map_cons, List.nodup_cons] at hnd
    have h0 := (countOf_none_iff _ _).2 (hc id List.mem_cons_self)
    have : dedupOpIds? (seen ++ [(sanMethod id, 1)]) rest = some rest := by
      apply ih _ _ hnd.2
      intro id' hid'
      rw [seenKeys_snoc, List.mem_append, List.mem_singleton]
      rintro (h | h)
      · exact hc id' (List.mem_cons_of_mem _ hid') h
      · exact hnd.1 (h ▸ List.mem_map_of_mem hid')
    simp only [dedupOpIds?, h0, this]

theorem dedupOpIds_of_nodup (ids : List Str) (h : (ids.map sanMethod).Nodup) :
    dedupOpIds [] ids = ids ∧ (methodNames ids).Nodup := by
  have := dedupOpIds?_id ids [] (fun _ _ => List.not_mem_nil) h
  have e : dedupOpIds [] ids = ids := by rw [dedupOpIds, this]; rfl
  exact ⟨e, by rw [methodNames, e]; exact h⟩

/-- The pass is idempotent: a second run over its own output (what a second `emit` over the same operation objects does)
    changes nothing - every input. -/
theorem dedupOpIds_idempotent (ids : List Str) : dedupOpIds [] (dedupOpIds [] ids) = dedupOpIds [] ids :=
  (dedupOpIds_of_nodup _ (dedupOpIds_spec [] ids).2.1).1

end Pog
