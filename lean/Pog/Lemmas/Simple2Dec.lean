import Pog.Lemmas.ParserFragments
/-
  `Simple2` as a decision procedure.  The correspondence harness does not trust its own generator about what is
  inside the proved fragment: it hands the document, a rank table and the two limits to the driver, the driver
  evaluates `inFragment2`, and `inFragment2_sound` (Pog/Props/C02b.lean) is the theorem that a `true` answer
  implies the conclusion of `parse_faithful_partial2` for exactly the `buildSchemas maxDepth fuel decls` the
  driver then runs.
-/
namespace Pog.Prs
open Pog

/-- rank function given as a table (absent names have rank 0) -/
def rankOf (rs : List (Str × Nat)) (n : Str) : Nat :=
  match rs.find? (fun r => r.1 == n) with
  | some r => r.2
  | none => 0

theorem simple2_iff (decls : Decls) (rank : Str → Nat) :
    Simple2 decls rank ↔
      ((decls.map (·.1)).Nodup ∧
       (∀ d ∈ decls, simpleNode2 (decls.map (·.1)) d.2 = true) ∧
       (∀ d ∈ decls, d.1 ≠ [] ∧ sanClass d.1 = d.1) ∧
       (∀ d ∈ decls, topCost rank d.2 ≤ rank d.1 ∧ ∀ kv ∈ nodeProps d.2, propCost rank kv.2 ≤ rank d.1) ∧
       (∀ d ∈ decls, ∀ k ∈ mapKeys d.2,
          mapCtx d.1 k ∉ decls.map (·.1) ∧ sanClass (mapCtx d.1 k) = mapCtx d.1 k) ∧
       (∀ d ∈ decls, ∀ d' ∈ decls, ∀ k ∈ mapKeys d.2, ∀ k' ∈ mapKeys d'.2,
          mapCtx d.1 k = mapCtx d'.1 k' → d.1 = d'.1 ∧ k = k')) :=
  ⟨fun h => ⟨h.nodup, h.node, h.name, h.cost, h.ctxFresh, h.ctxInj⟩,
   fun ⟨a, b, c, d, e, f⟩ => ⟨a, b, c, d, e, f⟩⟩

instance (decls : Decls) (rank : Str → Nat) : Decidable (Simple2 decls rank) :=
  decidable_of_iff _ (simple2_iff decls rank).symm

/-- the hypotheses of `parse_faithful_partial2` for `buildSchemas maxDepth fuel decls`, decided -/
def inFragment2 (maxDepth fuel : Nat) (decls : Decls) (rs : List (Str × Nat)) : Bool :=
  decide (Simple2 decls (rankOf rs)) &&
  decls.all (fun d => decide (rankOf rs d.1 + 1 < fuel)) &&
  decls.all (fun d => decide (rankOf rs d.1 + 1 ≤ maxDepth))

end Pog.Prs
