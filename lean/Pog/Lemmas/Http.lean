import Pog.Model.Http
/-
  M-http (`Pog.Model.Http`).  A dict after a sequence of writes is read through the last writer: `lastWrite` for
  `dict.update` (exact keys), `lastWriterCI` / `lastWriteCI` for `merge_headers` (exact key / wire view).  `Applied` says what
  a plug-in that returned has done to headers, params and cookies.  `prepareRequest_spec` and `sendArgs_spec` characterise
  the transport completely; `Pog.Props.C17` reads most of its theorems off them.
-/
namespace Pog

theorem dictGet_dictSet (d : Dict) (k v k' : Str) :
    dictGet (dictSet d k v) k' = if k = k' then some v else dictGet d k' := by
  induction d with
  | nil => simp [dictSet, dictGet]
  | cons kv d ih => grind [dictSet, dictGet]

@[simp] theorem dictUpdate_nil (d : Dict) : dictUpdate d [] = d := rfl

theorem dictUpdate_cons (d : Dict) (kv : Str × Str) (e : Dict) :
    dictUpdate d (kv :: e) = dictUpdate (dictSet d kv.1 kv.2) e := rfl

theorem dictUpdate_single (d : Dict) (k v : Str) : dictUpdate d [(k, v)] = dictSet d k v := rfl

theorem dictUpdate_append (d a b : Dict) : dictUpdate d (a ++ b) = dictUpdate (dictUpdate d a) b := by
  simp [dictUpdate, List.foldl_append]

theorem lastWrite_append (a b : Dict) (k : Str) :
    lastWrite (a ++ b) k = (lastWrite b k).or (lastWrite a k) := by
  induction a with
  | nil => simp [lastWrite]
  | cons kv a ih =>
    obtain ⟨k0, v0⟩ := kv
    simp [lastWrite, ih, Option.or_assoc]

theorem dictGet_dictUpdate (ws d : Dict) (k : Str) :
    dictGet (dictUpdate d ws) k = (lastWrite ws k).or (dictGet d k) := by
  induction ws generalizing d with
  | nil => simp [lastWrite]
  | cons kv ws ih =>
    obtain ⟨k0, v0⟩ := kv
    rw [dictUpdate_cons, ih, dictGet_dictSet]
    simp only [lastWrite, Option.or_assoc]
    by_cases h : k0 = k <;> simp [h]

theorem dictGet_isSome_iff (d : Dict) (k : Str) : (dictGet d k).isSome = true ↔ k ∈ dictKeys d := by
  induction d with
  | nil => simp [dictGet, dictKeys]
  | cons kv d ih => grind [dictGet, dictKeys]

theorem dictGet_eq_none_of_not_mem (d : Dict) (k : Str) (h : k ∉ dictKeys d) : dictGet d k = none :=
  Option.not_isSome_iff_eq_none.mp (mt (dictGet_isSome_iff d k).mp h)

theorem lastWrite_isSome_iff (ws : Dict) (k : Str) : (lastWrite ws k).isSome = true ↔ k ∈ dictKeys ws := by
  induction ws with
  | nil => simp [lastWrite, dictKeys]
  | cons kv ws ih => grind [lastWrite, dictKeys]

theorem lastWrite_eq_none_of_not_mem (ws : Dict) (k : Str) (h : k ∉ dictKeys ws) : lastWrite ws k = none :=
  Option.not_isSome_iff_eq_none.mp (mt (lastWrite_isSome_iff ws k).mp h)

theorem dictKeys_dictSet (d : Dict) (k v : Str) :
    dictKeys (dictSet d k v) = if k ∈ dictKeys d then dictKeys d else dictKeys d ++ [k] := by
  induction d with
  | nil => simp [dictSet, dictKeys]
  | cons kv d ih => grind [dictSet, dictKeys]

theorem mem_dictKeys_dictSet (d : Dict) (k v k' : Str) :
    k' ∈ dictKeys (dictSet d k v) ↔ k' ∈ dictKeys d ∨ k' = k := by
  rw [dictKeys_dictSet]
  split
  · exact ⟨Or.inl, fun h => h.elim id (· ▸ ‹k ∈ dictKeys d›)⟩
  · simp

theorem nodup_dictSet (d : Dict) (k v : Str) (h : (dictKeys d).Nodup) : (dictKeys (dictSet d k v)).Nodup := by
  rw [dictKeys_dictSet]
  split
  · exact h
  · rename_i hk
    exact List.nodup_append.mpr
      ⟨h, List.pairwise_singleton _ k, fun a ha b hb e => hk (List.mem_singleton.mp hb ▸ e ▸ ha)⟩

theorem nodup_dictUpdate (ws d : Dict) (h : (dictKeys d).Nodup) : (dictKeys (dictUpdate d ws)).Nodup := by
  induction ws generalizing d with
  | nil => simpa using h
  | cons kv ws ih => rw [dictUpdate_cons]; exact ih _ (nodup_dictSet d kv.1 kv.2 h)

theorem mem_dictKeys_dictUpdate (ws d : Dict) (k : Str) :
    k ∈ dictKeys (dictUpdate d ws) ↔ k ∈ dictKeys d ∨ k ∈ dictKeys ws := by
  induction ws generalizing d with
  | nil => simp [dictKeys]
  | cons kv ws ih =>
    rw [dictUpdate_cons, ih, mem_dictKeys_dictSet]
    simp only [dictKeys, List.map_cons, List.mem_cons, or_assoc]

theorem ciEq_iff (a b : Str) : ciEq a b = true ↔ a.map lowerA = b.map lowerA := by
  simp [ciEq]

theorem ciEq_refl (a : Str) : ciEq a a = true := by simp [ciEq]

theorem ciEq_comm (a b : Str) : ciEq a b = ciEq b a := Bool.beq_comm

theorem ciEq_congr_left {a b : Str} (h : ciEq a b = true) (c : Str) : ciEq a c = ciEq b c := by
  simp only [ciEq, (ciEq_iff a b).mp h]

theorem ciEq_congr_right {b c : Str} (h : ciEq b c = true) (a : Str) : ciEq a b = ciEq a c := by
  simp only [ciEq, (ciEq_iff b c).mp h]

theorem wireLookup_nil (name : Str) : wireLookup [] name = [] := rfl

theorem wireLookup_cons (k v : Str) (d : Dict) (name : Str) :
    wireLookup ((k, v) :: d) name = if ciEq k name then v :: wireLookup d name else wireLookup d name := by
  simp only [wireLookup, List.filter_cons]
  split <;> simp

theorem wireLookup_of_no_match (d : Dict) (name : Str) (h : ∀ k ∈ dictKeys d, ciEq k name = false) :
    wireLookup d name = [] := by
  induction d with
  | nil => rfl
  | cons kv d ih =>
    obtain ⟨k0, v0⟩ := kv
    rw [wireLookup_cons, h k0 (by simp [dictKeys])]
    exact ih (fun k hk => h k (by simp only [dictKeys, List.map_cons, List.mem_cons]; exact Or.inr hk))

@[simp] theorem dictUpdateCI_nil (d : Dict) : dictUpdateCI d [] = d := rfl

theorem dictUpdateCI_cons (d : Dict) (kv : Str × Str) (e : Dict) :
    dictUpdateCI d (kv :: e) = dictUpdateCI (dictSetCI d kv.1 kv.2) e := rfl

theorem dictUpdateCI_single (d : Dict) (k v : Str) : dictUpdateCI d [(k, v)] = dictSetCI d k v := rfl

theorem dictUpdateCI_append (d a b : Dict) : dictUpdateCI d (a ++ b) = dictUpdateCI (dictUpdateCI d a) b := by
  simp [dictUpdateCI, List.foldl_append]

theorem otherSpelling_self (k : Str) : otherSpelling k k = false := by simp [otherSpelling]

theorem otherSpelling_of_ne {k k' : Str} (h : k' ≠ k) : otherSpelling k k' = ciEq k' k := by
  simp [otherSpelling, h]

theorem dictSetCI_cons_self (d : Dict) (k v0 v : Str) :
    dictSetCI ((k, v0) :: d) k v = (k, v) :: d.filter (fun kv => !otherSpelling k kv.1) := by
  simp [dictSetCI, otherSpelling_self, dictSet]

theorem dictSetCI_cons_variant (d : Dict) (k0 v0 k v : Str) (h1 : k0 ≠ k) (h2 : ciEq k0 k = true) :
    dictSetCI ((k0, v0) :: d) k v = dictSetCI d k v := by
  simp [dictSetCI, otherSpelling_of_ne h1, h2]

theorem dictSetCI_cons_other (d : Dict) (k0 v0 k v : Str) (h : ciEq k0 k = false) :
    dictSetCI ((k0, v0) :: d) k v = (k0, v0) :: dictSetCI d k v := by
  have hne : k0 ≠ k := fun e => by rw [e, ciEq_refl] at h; cases h
  simp [dictSetCI, otherSpelling_of_ne hne, h, dictSet, hne]

theorem dictGet_filter_other (d : Dict) (k k' : Str) :
    dictGet (d.filter (fun kv => !otherSpelling k kv.1)) k' = if otherSpelling k k' then none else dictGet d k' := by
  induction d with
  | nil => simp [dictGet]
  | cons kv d ih => grind [dictGet]

/-- `merge_headers(d, {k: v})` read back by exact key: `k` holds `v`, another spelling of `k` is gone, every other
    key is untouched. -/
theorem dictGet_dictSetCI (d : Dict) (k v k' : Str) :
    dictGet (dictSetCI d k v) k' = if k = k' then some v else if ciEq k k' then none else dictGet d k' := by
  unfold dictSetCI
  rw [dictGet_dictSet, dictGet_filter_other]
  by_cases h : k = k'
  · simp [h]
  · have h' : k' ≠ k := fun e => h e.symm
    simp [h, otherSpelling_of_ne h', ciEq_comm k' k]

theorem lastWriterCI_append (a b : Dict) (name : Str) :
    lastWriterCI (a ++ b) name = (lastWriterCI b name).or (lastWriterCI a name) := by
  induction a with
  | nil => simp [lastWriterCI]
  | cons kv a ih =>
    obtain ⟨k0, v0⟩ := kv
    simp [lastWriterCI, ih, Option.or_assoc]

theorem lastWriteCI_eq_map (ws : Dict) (name : Str) :
    lastWriteCI ws name = (lastWriterCI ws name).map Prod.snd := by
  induction ws with
  | nil => rfl
  | cons kv ws ih =>
    obtain ⟨k0, v0⟩ := kv
    simp only [lastWriteCI, lastWriterCI, ih]
    cases lastWriterCI ws name <;> cases ciEq k0 name <;> simp

theorem ciEq_of_lastWriterCI (ws : Dict) (name : Str) (w : Str × Str) (h : lastWriterCI ws name = some w) :
    ciEq w.1 name = true := by
  induction ws with
  | nil => simp [lastWriterCI] at h
  | cons kv ws ih =>
    obtain ⟨k0, v0⟩ := kv
    rw [lastWriterCI, Option.or_eq_some_iff] at h
    rcases h with h | ⟨_, h⟩
    · exact ih h
    · split at h
      · rename_i hc
        cases h
        exact hc
      · cases h

/-- The dict after a sequence of case-insensitive writes, read by EXACT key: under a written header name (any spelling)
    `k` is present iff the last writer of that name spelled it `k`, and then carries that writer's value; a name no
    write touches reads as before. -/
theorem dictGet_dictUpdateCI (ws d : Dict) (k : Str) :
    dictGet (dictUpdateCI d ws) k =
      match lastWriterCI ws k with
      | some w => if w.1 = k then some w.2 else none
      | none => dictGet d k := by
  induction ws generalizing d with
  | nil => simp [lastWriterCI]
  | cons kv ws ih =>
    obtain ⟨k0, v0⟩ := kv
    rw [dictUpdateCI_cons, ih, dictGet_dictSetCI]
    simp only [lastWriterCI]
    cases lastWriterCI ws k with
    | some w => simp
    | none =>
      by_cases h : k0 = k
      · subst h; simp [ciEq_refl]
      · cases hc : ciEq k0 k <;> simp [h]

theorem wireLookup_filter_other (d : Dict) (k name : Str) (hk : k ∉ dictKeys d) :
    wireLookup (d.filter (fun kv => !otherSpelling k kv.1)) name
      = if ciEq k name then [] else wireLookup d name := by
  induction d with
  | nil => simp [wireLookup]
  | cons kv d ih =>
    obtain ⟨k1, v1⟩ := kv
    have hk' : k1 ≠ k ∧ k ∉ dictKeys d := by
      simp only [dictKeys, List.map_cons, List.mem_cons, not_or] at hk
      exact ⟨fun e => hk.1 e.symm, hk.2⟩
    rw [List.filter_cons, otherSpelling_of_ne hk'.1, wireLookup_cons]
    cases hc : ciEq k1 k with
    | true =>
      simp only [Bool.not_true, Bool.false_eq_true, if_false, ih hk'.2, ciEq_congr_left hc name]
      cases ciEq k name <;> rfl
    | false =>
      simp only [Bool.not_false, if_true, wireLookup_cons, ih hk'.2]
      cases hn : ciEq k name with
      | true => simp [← ciEq_congr_right hn k1, hc]
      | false => simp

/-- On the wire, `merge_headers(d, {k: v})` leaves exactly one line under the name of `k`, carrying `v`, and
    touches no other name. -/
theorem wireLookup_dictSetCI (d : Dict) (hnd : (dictKeys d).Nodup) (k v name : Str) :
    wireLookup (dictSetCI d k v) name = if ciEq k name then [v] else wireLookup d name := by
  induction d with
  | nil => rw [show dictSetCI [] k v = [(k, v)] from rfl, wireLookup_cons, wireLookup_nil]
  | cons kv d ih =>
    obtain ⟨k0, v0⟩ := kv
    have hnd' : k0 ∉ dictKeys d ∧ (dictKeys d).Nodup := by simpa [dictKeys] using hnd
    by_cases h0 : k0 = k
    · subst h0
      rw [dictSetCI_cons_self, wireLookup_cons, wireLookup_filter_other d k0 name hnd'.1, wireLookup_cons]
      cases ciEq k0 name <;> simp
    · cases hc : ciEq k0 k with
      | true =>
        rw [dictSetCI_cons_variant d k0 v0 k v h0 hc, ih hnd'.2, wireLookup_cons, ciEq_congr_left hc name]
        cases ciEq k name <;> rfl
      | false =>
        rw [dictSetCI_cons_other d k0 v0 k v hc, wireLookup_cons, ih hnd'.2, wireLookup_cons]
        cases hn : ciEq k name with
        | true => simp [← ciEq_congr_right hn k0, hc]
        | false => simp

theorem nodup_dictSetCI (d : Dict) (k v : Str) (h : (dictKeys d).Nodup) : (dictKeys (dictSetCI d k v)).Nodup :=
  nodup_dictSet _ k v (List.Nodup.sublist (List.Sublist.map Prod.fst List.filter_sublist) h)

theorem nodup_dictUpdateCI (ws d : Dict) (h : (dictKeys d).Nodup) : (dictKeys (dictUpdateCI d ws)).Nodup := by
  induction ws generalizing d with
  | nil => simpa using h
  | cons kv ws ih => rw [dictUpdateCI_cons]; exact ih _ (nodup_dictSetCI d kv.1 kv.2 h)

/-- On the wire the last writer wins, for every sequence of writes: one line per written name. -/
theorem wireLookup_dictUpdateCI (ws d : Dict) (hnd : (dictKeys d).Nodup) (name : Str) :
    wireLookup (dictUpdateCI d ws) name =
      match lastWriteCI ws name with
      | some v => [v]
      | none => wireLookup d name := by
  induction ws generalizing d with
  | nil => simp [lastWriteCI]
  | cons kv ws ih =>
    obtain ⟨k0, v0⟩ := kv
    rw [dictUpdateCI_cons, ih _ (nodup_dictSetCI d k0 v0 hnd), wireLookup_dictSetCI d hnd]
    simp only [lastWriteCI]
    cases lastWriteCI ws name with
    | some v => simp
    | none => cases ciEq k0 name <;> simp

theorem wireLookup_dictUpdateCI_nil (ws : Dict) (name : Str) :
    wireLookup (dictUpdateCI [] ws) name = (lastWriteCI ws name).toList := by
  rw [wireLookup_dictUpdateCI ws [] (by simp [dictKeys])]
  cases lastWriteCI ws name <;> simp [wireLookup]

theorem lastWriteCI_isSome_of_mem (ws : Dict) (k name : Str) (hk : k ∈ dictKeys ws) (hc : ciEq k name = true) :
    (lastWriteCI ws name).isSome = true := by
  induction ws with
  | nil => simp [dictKeys] at hk
  | cons kv ws ih => grind [lastWriteCI, dictKeys]

theorem lastWriteCI_append (a b : Dict) (name : Str) :
    lastWriteCI (a ++ b) name = (lastWriteCI b name).or (lastWriteCI a name) := by
  simp only [lastWriteCI_eq_map, lastWriterCI_append]
  cases lastWriterCI b name <;> rfl

theorem mem_wireLookup_of_dictGet (d : Dict) (k v : Str) (h : dictGet d k = some v) : v ∈ wireLookup d k := by
  induction d with
  | nil => simp [dictGet] at h
  | cons kv d ih => grind [dictGet, wireLookup_cons, ciEq_refl]

@[simp] theorem authenticate_composite (ps : List Plugin) (a : RequestArgs) :
    authenticate (.composite ps) a = authenticateAll ps a := by
  simp [authenticate]

theorem authenticateAll_eq_foldlM (ps : List Plugin) (a : RequestArgs) :
    authenticateAll ps a = ps.foldlM (fun a p => authenticate p a) a := by
  induction ps generalizing a with
  | nil => simp [authenticateAll, pure, Except.pure]
  | cons p ps ih =>
    simp only [authenticateAll, List.foldlM_cons, bind, Except.bind]
    cases authenticate p a with
    | ok a' => simp [ih]
    | error e => simp

@[simp] theorem firstErr_composite (ps : List Plugin) : firstErr (.composite ps) = firstErrAll ps := by
  simp [firstErr]

@[simp] theorem contrib_composite (ps : List Plugin) : contrib (.composite ps) = contribAll ps := by
  simp [contrib]

@[simp] theorem contribQ_composite (ps : List Plugin) : contribQ (.composite ps) = contribQAll ps := by
  simp [contribQ]

@[simp] theorem contribC_composite (ps : List Plugin) : contribC (.composite ps) = contribCAll ps := by
  simp [contribC]

theorem firstErrAll_cons (p : Plugin) (ps : List Plugin) :
    firstErrAll (p :: ps) = (firstErr p).or (firstErrAll ps) := by
  simp only [firstErrAll]; cases firstErr p <;> simp

theorem firstErrAll_append (a b : List Plugin) : firstErrAll (a ++ b) = (firstErrAll a).or (firstErrAll b) := by
  induction a with
  | nil => simp [firstErrAll]
  | cons p a ih => rw [List.cons_append, firstErrAll_cons, firstErrAll_cons, ih, Option.or_assoc]

theorem contribAll_append (a b : List Plugin) : contribAll (a ++ b) = contribAll a ++ contribAll b := by
  induction a with
  | nil => simp [contribAll]
  | cons p a ih => simp [contribAll, ih]

theorem contribQAll_append (a b : List Plugin) : contribQAll (a ++ b) = contribQAll a ++ contribQAll b := by
  induction a with
  | nil => simp [contribQAll]
  | cons p a ih => simp [contribQAll, ih]

theorem contribCAll_append (a b : List Plugin) : contribCAll (a ++ b) = contribCAll a ++ contribCAll b := by
  induction a with
  | nil => simp [contribCAll]
  | cons p a ih => simp [contribCAll, ih]

theorem locQuery_ne_locHeader : locQuery ≠ locHeader := by decide
theorem locCookie_ne_locHeader : locCookie ≠ locHeader := by decide
theorem locCookie_ne_locQuery : locCookie ≠ locQuery := by decide

@[simp] theorem writeInto_nil (b : Option Dict) : writeInto b [] = b := rfl

theorem writeInto_single (b : Option Dict) (k v : Str) : writeInto b [(k, v)] = some (dictSet (b.getD []) k v) := rfl

theorem writeInto_append (b : Option Dict) (ws1 ws2 : Dict) :
    writeInto (writeInto b ws1) ws2 = writeInto b (ws1 ++ ws2) := by
  cases ws1 with
  | nil => simp
  | cons w1 ws1 =>
    cases ws2 with
    | nil => simp
    | cons w2 ws2 =>
      simp only [writeInto, List.isEmpty_cons, List.cons_append, Bool.false_eq_true, if_false, Option.getD_some]
      rw [← List.cons_append, dictUpdate_append]

/-- `r` is `a` after the header writes `hw` (by `merge_headers`, when `a` has a headers dict), the query-parameter writes
    `qw` and the cookie writes `cw` -/
structure Applied (hw qw cw : Dict) (a r : RequestArgs) : Prop where
  headers : ∀ h, a.headers = some h → r.headers = some (dictUpdateCI h hw)
  params : r.params = writeInto a.params qw
  cookies : r.cookies = writeInto a.cookies cw

theorem Applied.refl (a : RequestArgs) : Applied [] [] [] a a := ⟨fun _ h => h, rfl, rfl⟩

theorem Applied.trans {hw qw cw hw' qw' cw' : Dict} {a b c : RequestArgs} (h1 : Applied hw qw cw a b)
    (h2 : Applied hw' qw' cw' b c) : Applied (hw ++ hw') (qw ++ qw') (cw ++ cw') a c :=
  ⟨fun h ha => by rw [dictUpdateCI_append]; exact h2.headers _ (h1.headers h ha),
   by rw [h2.params, h1.params, writeInto_append], by rw [h2.cookies, h1.cookies, writeInto_append]⟩

theorem Applied.setHeader (a : RequestArgs) (k v : Str) : Applied [(k, v)] [] [] a (a.setHeader k v) :=
  ⟨fun h ha => by simp [RequestArgs.setHeader, ha, dictUpdateCI_single], rfl, rfl⟩

mutual
/-- A plug-in without a wrong `location` returns, and has then performed exactly the writes `contrib p`, `contribQ p`,
    `contribC p`. -/
theorem authenticate_ok : ∀ (p : Plugin) (a : RequestArgs), firstErr p = none →
    ∃ r, authenticate p a = .ok r ∧ Applied (contrib p) (contribQ p) (contribC p) a r
  | .bearer _, a, _ => ⟨_, by rw [authenticate], by simpa [contrib, contribQ, contribC] using Applied.setHeader a _ _⟩
  | .headers hs, a, _ =>
    ⟨_, by rw [authenticate], ⟨fun h ha => by simp [ha, contrib], by simp [contribQ], by simp [contribC]⟩⟩
  | .oauth2 _ _, a, _ => ⟨_, by rw [authenticate], by simpa [contrib, contribQ, contribC] using Applied.setHeader a _ _⟩
  | .apiKey key loc name, a, he => by
    simp only [firstErr] at he
    split at he
    · rename_i hl
      rcases hl with rfl | rfl | rfl
      · refine ⟨a.setHeader name key, by simp [authenticate], ?_⟩
        simpa [contrib, contribQ, contribC, locQuery_ne_locHeader.symm, locCookie_ne_locHeader.symm]
          using Applied.setHeader a name key
      · refine ⟨{ a with params := some (dictSet (a.params.getD []) name key) },
          by simp [authenticate, locQuery_ne_locHeader], fun h ha => ?_, ?_, ?_⟩
        · simp [contrib, locQuery_ne_locHeader, ha]
        · simp [contribQ, writeInto_single]
        · simp [contribC, locCookie_ne_locQuery.symm]
      · refine ⟨{ a with cookies := some (dictSet (a.cookies.getD []) name key) },
          by simp [authenticate, locCookie_ne_locHeader, locCookie_ne_locQuery], fun h ha => ?_, ?_, ?_⟩
        · simp [contrib, locCookie_ne_locHeader, ha]
        · simp [contribQ, locCookie_ne_locQuery]
        · simp [contribC, writeInto_single]
    · cases he
  | .composite ps, a, he => by
    rw [authenticate_composite, contrib_composite, contribQ_composite, contribC_composite]
    exact authenticateAll_ok ps a (by rwa [firstErr_composite] at he)
theorem authenticateAll_ok : ∀ (ps : List Plugin) (a : RequestArgs), firstErrAll ps = none →
    ∃ r, authenticateAll ps a = .ok r ∧ Applied (contribAll ps) (contribQAll ps) (contribCAll ps) a r
  | [], a, _ => ⟨a, by rw [authenticateAll], .refl a⟩
  | p :: ps, a, he => by
    rw [firstErrAll_cons] at he
    cases h1 : firstErr p with
    | some e => rw [h1] at he; cases he
    | none =>
      rw [h1] at he
      obtain ⟨a', ha', hp⟩ := authenticate_ok p a h1
      obtain ⟨r, hr, hps⟩ := authenticateAll_ok ps a' he
      exact ⟨r, by rw [authenticateAll, ha']; exact hr, hp.trans hps⟩
end

mutual
/-- A plug-in raises its `firstErr`: the first wrong `location` met in composition order. -/
theorem authenticate_error : ∀ (p : Plugin) (a : RequestArgs) (e : Err),
    firstErr p = some e → authenticate p a = .error e
  | .bearer _, _, _, he => by simp [firstErr] at he
  | .headers _, _, _, he => by simp [firstErr] at he
  | .oauth2 _ _, _, _, he => by simp [firstErr] at he
  | .apiKey key loc name, a, e, he => by
    simp only [firstErr] at he
    split at he
    · cases he
    · rename_i hn
      simp only [not_or] at hn
      cases he
      simp [authenticate, hn.1, hn.2.1, hn.2.2]
  | .composite ps, a, e, he => by
    rw [authenticate_composite]
    exact authenticateAll_of_firstErr_some ps a e (by rwa [firstErr_composite] at he)
theorem authenticateAll_of_firstErr_some : ∀ (ps : List Plugin) (a : RequestArgs) (e : Err),
    firstErrAll ps = some e → authenticateAll ps a = .error e
  | [], _, _, he => by simp [firstErrAll] at he
  | p :: ps, a, e, he => by
    rw [firstErrAll_cons] at he
    rw [authenticateAll]
    cases h1 : firstErr p with
    | some e1 =>
      rw [h1] at he
      cases he
      rw [authenticate_error p a e h1]
    | none =>
      rw [h1] at he
      obtain ⟨a', ha', _⟩ := authenticate_ok p a h1
      rw [ha']
      exact authenticateAll_of_firstErr_some ps a' e he
end

theorem authenticateAll_of_firstErr_none : ∀ (ps : List Plugin) (a : RequestArgs),
    firstErrAll ps = none → ∃ r, authenticateAll ps a = .ok r
  | ps, a, h =>
    let ⟨r, hr, _⟩ := authenticateAll_ok ps a h
    ⟨r, hr⟩

theorem authenticateAll_applied {ps : List Plugin} {a r : RequestArgs} (hr : authenticateAll ps a = .ok r) :
    Applied (contribAll ps) (contribQAll ps) (contribCAll ps) a r := by
  cases hf : firstErrAll ps with
  | some e => rw [authenticateAll_of_firstErr_some ps a e hf] at hr; cases hr
  | none =>
    obtain ⟨r', hr', hap⟩ := authenticateAll_ok ps a hf
    rw [hr'] at hr
    cases hr
    exact hap

theorem authenticateAll_headers : ∀ (ps : List Plugin) (a r : RequestArgs) (h : Dict), a.headers = some h →
    authenticateAll ps a = .ok r → r.headers = some (dictUpdateCI h (contribAll ps))
  | _, _, _, h, ha, hr => (authenticateAll_applied hr).headers h ha

theorem authenticateAll_params : ∀ (ps : List Plugin) (a r : RequestArgs), authenticateAll ps a = .ok r →
    r.params = writeInto a.params (contribQAll ps) ∧ r.cookies = writeInto a.cookies (contribCAll ps)
  | _, _, _, hr => ⟨(authenticateAll_applied hr).params, (authenticateAll_applied hr).cookies⟩

/-- `if key in authenticated_args: kwargs[key] = authenticated_args[key]` after the writes `ws`. -/
theorem takeBack_writeInto (base : Option Dict) (ws : Dict) :
    (match writeInto base ws with
      | some q => some q
      | none => base) = writeInto base ws := by
  cases h : writeInto base ws with
  | some q => rfl
  | none =>
    cases ws with
    | nil => simpa using h
    | cons w ws => simp [writeInto] at h

/-- Exact-key reading of a `params` / `cookies` argument after the plug-in writes: last writer, else the caller's. -/
theorem dictGet_writeInto (base : Option Dict) (ws : Dict) (k : Str) :
    (writeInto base ws).bind (fun d => dictGet d k) = (lastWrite ws k).or (base.bind (fun d => dictGet d k)) := by
  cases ws with
  | nil => simp [lastWrite]
  | cons w ws =>
    simp only [writeInto, List.isEmpty_cons, Bool.false_eq_true, if_false, Option.bind_some, dictGet_dictUpdate]
    cases base <;> simp [dictGet]

theorem baseHeaders_eq (defaults reqHeaders : Option Dict) :
    baseHeaders defaults reqHeaders = dictUpdateCI [] (defaults.getD [] ++ reqHeaders.getD []) := by
  rw [dictUpdateCI_append]
  rcases defaults with _ | _ | ⟨kv, d⟩ <;> rcases reqHeaders with _ | r <;> simp [baseHeaders]

/-- `_prepare_headers` raises exactly the plug-in's exception, and
    otherwise the returned headers are the empty dict merged with all writes in order
    (defaults, per-request headers, plug-in contributions / bearer token), and the `params` / `cookies`
    it leaves in `kwargs` are the caller's with the plug-ins' query / cookie writes applied. -/
theorem prepareRequest_spec (defaults reqHeaders params cookies : Option Dict) (auth : Option Plugin)
    (bearer : Option Str) :
    prepareRequest defaults reqHeaders params cookies auth bearer =
      match auth.bind firstErr with
      | some e => .error e
      | none => .ok { headers := dictUpdateCI [] (allWrites defaults reqHeaders auth bearer),
                      params := writeInto params (queryWrites auth),
                      cookies := writeInto cookies (cookieWrites auth) } := by
  unfold prepareRequest
  simp only [baseHeaders_eq]
  cases auth with
  | none =>
    cases bearer with
    | none => simp [allWrites, authWrites, queryWrites, cookieWrites]
    | some t => simp [allWrites, authWrites, queryWrites, cookieWrites, dictUpdateCI_append, dictUpdateCI_single]
  | some p =>
    simp only [Option.bind_some]
    cases hf : firstErr p with
    | some e => simp [authenticate_error p _ e hf]
    | none =>
      obtain ⟨r, hr, hap⟩ := authenticate_ok p
        { headers := some (dictUpdateCI [] (defaults.getD [] ++ reqHeaders.getD [])),
          params := params, cookies := cookies } hf
      have hh := hap.headers _ rfl
      have hp := hap.params
      have hc := hap.cookies
      simp only [allWrites, authWrites, queryWrites, cookieWrites, dictUpdateCI_append] at hr hh hp hc ⊢
      simp only [hr, hh, hp, hc, Except.ok.injEq, Prepared.mk.injEq, true_and]
      exact ⟨takeBack_writeInto _ _, takeBack_writeInto _ _⟩

theorem prepareRequest_headers (defaults reqHeaders params cookies : Option Dict) (auth : Option Plugin)
    (bearer : Option Str) :
    (match prepareRequest defaults reqHeaders params cookies auth bearer with
      | .ok r => .ok r.headers
      | .error e => .error e) = prepareHeaders defaults reqHeaders auth bearer := by
  unfold prepareHeaders
  rw [prepareRequest_spec, prepareRequest_spec]
  cases auth.bind firstErr <;> rfl

theorem prepareHeaders_spec (defaults reqHeaders : Option Dict) (auth : Option Plugin) (bearer : Option Str) :
    prepareHeaders defaults reqHeaders auth bearer =
      match auth.bind firstErr with
      | some e => .error e
      | none => .ok (dictUpdateCI [] (allWrites defaults reqHeaders auth bearer)) := by
  unfold prepareHeaders
  rw [prepareRequest_spec]
  cases auth.bind firstErr <;> rfl

/-- A plug-in that neither raises nor writes a header can be taken out of a composite, at any position, without
    changing what `_prepare_headers` returns (headers or exception). -/
theorem prepareHeaders_drop_silent (defaults reqHeaders : Option Dict) (bearer : Option Str) (pre post : List Plugin)
    (p : Plugin) (he : firstErr p = none) (hc : contrib p = []) :
    prepareHeaders defaults reqHeaders (some (.composite (pre ++ [p] ++ post))) bearer
      = prepareHeaders defaults reqHeaders (some (.composite (pre ++ post))) bearer := by
  simp only [prepareHeaders_spec, Option.bind_some, firstErr_composite, allWrites, authWrites,
    contrib_composite, firstErrAll_append, contribAll_append, firstErrAll_cons, contribAll, he, hc]
  simp [firstErrAll]

theorem prepareHeaders_ok {defaults reqHeaders : Option Dict} {auth : Option Plugin} {bearer : Option Str} {res : Dict}
    (h : prepareHeaders defaults reqHeaders auth bearer = .ok res) :
    res = dictUpdateCI [] (allWrites defaults reqHeaders auth bearer) := by
  rw [prepareHeaders_spec] at h
  split at h
  · cases h
  · exact (Except.ok.inj h).symm

/-- What the transport itself (the plug-in, or the bearer token when there is none) writes last under a header name is what
    the request carries under it, spelled as it was written, whatever the defaults and the per-request headers say. -/
theorem prepareHeaders_auth_wins (defaults reqHeaders : Option Dict) (auth : Option Plugin) (bearer : Option Str)
    (k v : Str) (he : auth.bind firstErr = none) (hw : lastWriterCI (authWrites auth bearer) k = some (k, v)) :
    ∃ res, prepareHeaders defaults reqHeaders auth bearer = .ok res
      ∧ dictGet res k = some v ∧ wireLookup res k = [v] := by
  refine ⟨dictUpdateCI [] (allWrites defaults reqHeaders auth bearer), ?_, ?_, ?_⟩
  · rw [prepareHeaders_spec, he]
  · simp [dictGet_dictUpdateCI, allWrites, lastWriterCI_append, hw]
  · simp [wireLookup_dictUpdateCI_nil, lastWriteCI_eq_map, allWrites, lastWriterCI_append, hw]

/-- `request` up to the call of httpx. -/
theorem sendArgs_spec {β : Type} (t : Transport) (c : CallerArgs β) :
    sendArgs t c =
      match t.auth.bind firstErr with
      | some e => .error e
      | none => .ok { headers := dictUpdateCI [] (allWrites t.defaultHeaders c.headers t.auth t.bearerToken),
                      params := writeInto c.params (queryWrites t.auth),
                      cookies := writeInto c.cookies (cookieWrites t.auth),
                      other := c.other } := by
  unfold sendArgs
  rw [prepareRequest_spec]
  cases t.auth.bind firstErr <;> rfl

theorem sendArgs_eq_ok_iff {β : Type} (t : Transport) (c : CallerArgs β) (s : SendArgs β) :
    sendArgs t c = .ok s ↔ t.auth.bind firstErr = none ∧
      s = { headers := dictUpdateCI [] (allWrites t.defaultHeaders c.headers t.auth t.bearerToken),
            params := writeInto c.params (queryWrites t.auth),
            cookies := writeInto c.cookies (cookieWrites t.auth),
            other := c.other } := by
  rw [sendArgs_spec]
  cases t.auth.bind firstErr with
  | some e => simp
  | none => simp [eq_comm]

end Pog
