import Pog.Lemmas.Names
import Pog.Lemmas.Sinks
import Pog.Lemmas.Stream
/-
  The docstring writers (`LineWriter`, `DocumentationWriter`, the `APIClient` docstring): clean text in,
  one triple-quoted literal out — for every `textwrap` that only rearranges characters.

  A string literal is definitionally `String.ofList` of its characters, but evaluating `"…".toList`
  directly decodes UTF-8 inside the kernel (dear, and worse than linear in the length): facts about
  literals are therefore evaluated after `rw [String.toList_ofList]` has exposed the characters.
-/
namespace Pog

/-- Hypothesis on the `textwrap.TextWrapper.wrap` parameter: every character of every output line is a
    character of the input text or a space (observed on every call by `vf/corr/c15.py`). -/
def WrapSafe (W : Wrap) : Prop := ∀ w k t l, l ∈ W w k t → ∀ c ∈ l, c ∈ t ∨ c = ' '

/-- Hypothesis on the `textwrap.dedent` parameter: it only deletes characters. -/
def DedentSafe (D : Dedent) : Prop := ∀ t c, c ∈ D t → c ∈ t

theorem docClean_iff (s : Str) : docClean s = true ↔ ∀ c ∈ s, docChar c = true := by
  simp [docClean, List.all_eq_true]

theorem docClean_nil : docClean [] = true := rfl

theorem docClean_append (a b : Str) : docClean (a ++ b) = (docClean a && docClean b) := by
  simp [docClean, List.all_append]

theorem docClean_cons (c : Char) (s : Str) : docClean (c :: s) = (docChar c && docClean s) := by
  simp [docClean]

theorem docClean_spaces (n : Nat) : docClean (spaces n) = true := by
  rw [docClean_iff, spaces, List.forall_mem_replicate]
  exact Or.inr (by decide)

theorem docClean_of_subset (a b : Str) (hb : docClean b = true) (h : ∀ c ∈ a, c ∈ b ∨ c = ' ') : docClean a = true := by
  rw [docClean_iff] at hb ⊢
  intro c hc
  rcases h c hc with h1 | h1
  · exact hb c h1
  · rw [h1]; decide

theorem docClean_joinWith (ls : List Str) (h : ∀ l ∈ ls, docClean l = true) : docClean (joinWith ['\n'] ls) = true := by
  induction ls with
  | nil => rfl
  | cons x rest ih =>
    rw [List.forall_mem_cons] at h
    cases rest with
    | nil => exact h.1
    | cons y r =>
      simp only [joinWith, docClean_append, Bool.and_eq_true]
      exact ⟨⟨h.1, by decide⟩, ih h.2⟩

theorem lstep_clean (s : LSt) (c : Char) (hs : docClean s.cur = true) (hc : docChar c = true) :
    (∀ l ∈ (lstep s c).1, docClean l = true) ∧ docClean (lstep s c).2.cur = true := by
  fun_cases lstep s c <;> simp [docClean_cons, docClean_append, docClean_nil, hs, hc]

theorem lrun_clean (s : LSt) (t : Str) (hs : docClean s.cur = true) (ht : docClean t = true) :
    (∀ l ∈ (lrun s t).1, docClean l = true) ∧ docClean (lrun s t).2.cur = true := by
  induction t generalizing s with
  | nil => simp [lrun, hs]
  | cons c cs ih =>
    rw [docClean_cons, Bool.and_eq_true] at ht
    have h1 := lstep_clean s c hs ht.1
    have h2 := ih (lstep s c).2 h1.2 ht.2
    exact ⟨List.forall_mem_append.mpr ⟨h1.1, h2.1⟩, h2.2⟩

theorem splitLines_clean (t : Str) (ht : docClean t = true) : ∀ l ∈ splitLines t, docClean l = true := by
  have h := lrun_clean LSt.init t rfl ht
  refine List.forall_mem_append.mpr ⟨h.1, ?_⟩
  unfold lfinish
  split
  · simpa using h.2
  · split
    · simp
    · simpa using h.2

structure LW.Clean (w : LW) : Prop where
  done : ∀ l ∈ w.done, docClean l = true
  cur : docClean w.cur = true

theorem LW.clean_new (width level : Nat) : (LW.new width level).Clean :=
  ⟨by simp [LW.new], rfl⟩

theorem LW.clean_append (w : LW) (t : Str) (h : w.Clean) (ht : docClean t = true) : (w.append t).Clean := by
  unfold LW.append
  split
  · exact ⟨h.done, by simp [docClean_append, docClean_spaces, ht]⟩
  · exact ⟨h.done, by simp [docClean_append, h.cur, ht]⟩

theorem LW.clean_lines (w : LW) (h : w.Clean) : ∀ l ∈ w.lines, docClean l = true :=
  List.forall_mem_append.mpr ⟨h.done, List.forall_mem_singleton.mpr h.cur⟩

theorem LW.clean_newline (w : LW) (h : w.Clean) : w.newline.Clean :=
  ⟨LW.clean_lines w h, rfl⟩

theorem LW.clean_moveTo (w : LW) (col : Nat) (h : w.Clean) : (w.moveTo col).Clean := by
  unfold LW.moveTo
  split
  · exact ⟨h.done, by simp [docClean_append, h.cur, docClean_spaces]⟩
  · exact h

theorem LW.clean_putLines (w : LW) (ls : List Str) (h : w.Clean) (hl : ∀ l ∈ ls, docClean l = true) :
    (w.putLines ls).Clean := by
  induction ls generalizing w with
  | nil => exact h
  | cons l rest ih =>
    rw [List.forall_mem_cons] at hl
    exact ih _ ⟨(LW.clean_newline w h).done, hl.1⟩ hl.2

theorem LW.clean_appendWrapped (W : Wrap) (hW : WrapSafe W) (w : LW) (text : Str) (h : w.Clean)
    (ht : docClean text = true) : (LW.appendWrapped W w text).Clean := by
  unfold LW.appendWrapped
  split
  · exact h
  · have h1 : (if w.width ≤ w.column then w.newline else w).Clean := by
      split
      · exact LW.clean_newline w h
      · exact h
    generalize (if w.width ≤ w.column then w.newline else w) = w1 at h1
    simp only []
    -- every wrapped line consists of characters of the clean text handed to `wrap`
    have hall : ∀ l ∈ W w1.width w1.column (w1.cur ++ spaces (w1.column - w1.cur.length) ++ text), docClean l = true :=
      fun l hl => docClean_of_subset l _ (by simp [docClean_append, h1.cur, docClean_spaces, ht]) (hW _ _ _ l hl)
    split
    · exact h1
    · rename_i l ls heq
      rw [heq, List.forall_mem_cons] at hall
      exact LW.clean_putLines _ ls ⟨h1.done, hall.1⟩ hall.2

theorem LW.clean_valueLines (w : LW) (h : w.Clean) : ∀ l ∈ splitLines w.getvalue, docClean l = true :=
  splitLines_clean _ (docClean_joinWith _ (LW.clean_lines w h))

structure DocArg.Clean (a : DocArg) : Prop where
  name : docClean a.name = true
  typ : ∀ t, a.typ = some t → docClean t = true
  desc : docClean a.desc = true

structure DocBlock.Clean (d : DocBlock) : Prop where
  summary : docClean d.summary = true
  description : docClean d.description = true
  args : ∀ a ∈ d.args, a.Clean
  returns : ∀ r, d.returns = some r → docClean r.1 = true ∧ docClean r.2 = true
  raises : ∀ r ∈ d.raises, docClean r.1 = true ∧ docClean r.2 = true

theorem DocArg.clean_mk (name typ desc : Str) (hn : docClean name = true) (ht : docClean typ = true)
    (hd : docClean desc = true) : (⟨name, some typ, desc⟩ : DocArg).Clean :=
  ⟨hn, fun _ h => by cases h; exact ht, hd⟩

/-- A block that has only a summary and `Args:` (the class docstrings). -/
theorem DocBlock.clean_mk (summary : Str) (args : List DocArg) (hs : docClean summary = true)
    (ha : ∀ a ∈ args, a.Clean) : (⟨summary, [], args, none, []⟩ : DocBlock).Clean :=
  ⟨hs, rfl, ha, fun _ h => (nomatch h), fun _ h => (nomatch h)⟩

theorem fmtWrap_clean (W : Wrap) (hW : WrapSafe W) (text : Str) (indent : Nat) (ht : docClean text = true) :
    ∀ l ∈ fmtWrap W text indent, docClean l = true := by
  unfold fmtWrap
  split
  · simp
  · exact LW.clean_valueLines _ (LW.clean_appendWrapped W hW _ _ (LW.clean_new _ _) ht)

theorem argPrefix_clean (a : DocArg) (h : a.Clean) : docClean (argPrefix a) = true := by
  unfold argPrefix
  split
  · rename_i t ht
    rw [docClean_append, docClean_append, docClean_append, h.name, h.typ t ht]
    decide
  · exact h.name

theorem renderArg_clean (W : Wrap) (hW : WrapSafe W) (indent : Nat) (a : DocArg) (h : a.Clean) :
    ∀ l ∈ renderArg W indent a, docClean l = true := by
  unfold renderArg
  simp only []
  apply LW.clean_valueLines
  apply LW.clean_appendWrapped W hW _ _ _ h.desc
  apply LW.clean_append _ _ _ (by decide)
  apply LW.clean_moveTo
  have h0 := LW.clean_append _ (argPrefix a) (LW.clean_new docWidth (indent / 4)) (argPrefix_clean a h)
  split
  · exact h0
  · exact LW.clean_newline _ h0

theorem renderReturns_clean (W : Wrap) (hW : WrapSafe W) (indent : Nat) (r : Str × Str)
    (h1 : docClean r.1 = true) (h2 : docClean r.2 = true) : ∀ l ∈ renderReturns W indent r, docClean l = true := by
  unfold renderReturns
  simp only []
  apply LW.clean_valueLines
  apply LW.clean_appendWrapped W hW _ _ _ h2
  apply LW.clean_append _ _ _ (by decide)
  apply LW.clean_append _ _ (LW.clean_new _ _)
  rw [docClean_append, h1]
  rfl

theorem raisesLoop_clean (W : Wrap) (hW : WrapSafe W) (w : LW) (rs : List (Str × Str)) (h : w.Clean)
    (hr : ∀ r ∈ rs, docClean r.1 = true ∧ docClean r.2 = true) : (raisesLoop W w rs).Clean := by
  induction rs generalizing w with
  | nil => exact h
  | cons r rest ih =>
    obtain ⟨code, desc⟩ := r
    rw [List.forall_mem_cons] at hr
    simp only [raisesLoop]
    apply ih _ _ hr.2
    have h1 : (w.newline.append ("    ".toList ++ code ++ [':'])).Clean := by
      apply LW.clean_append _ _ (LW.clean_newline w h)
      rw [docClean_append, docClean_append, hr.1.1]
      decide
    split
    · exact h1
    · exact LW.clean_appendWrapped W hW _ _ (LW.clean_append _ _ h1 (by decide)) hr.1.2

theorem renderRaises_clean (W : Wrap) (hW : WrapSafe W) (indent : Nat) (rs : List (Str × Str))
    (hr : ∀ r ∈ rs, docClean r.1 = true ∧ docClean r.2 = true) : ∀ l ∈ renderRaises W indent rs, docClean l = true := by
  unfold renderRaises
  apply LW.clean_valueLines
  apply raisesLoop_clean W hW _ _ _ hr
  exact LW.clean_append _ _ (LW.clean_new _ _) (by rw [String.toList_ofList]; decide)

/-- The lines between the opening and the closing `"""` line of `render_docstring`. -/
def docMid (W : Wrap) (d : DocBlock) (indent : Nat) : List Str :=
  (if d.summary.isEmpty then [] else fmtWrap W d.summary indent)
  ++ ((if d.description.isEmpty then []
      else (if d.summary.isEmpty then [] else [[]]) ++ fmtWrap W d.description indent)
  ++ ((if d.args.isEmpty then [] else [[], "Args:".toList] ++ d.args.flatMap (renderArg W (indent + 4)))
  ++ ((match d.returns with
      | some r => [[], "Returns:".toList] ++ renderReturns W (indent + 4) r
      | none => [])
  ++ (if d.raises.isEmpty then [] else [[], "Raises:".toList] ++ renderRaises W (indent + 4) d.raises))))

theorem docstringLines_eq (W : Wrap) (d : DocBlock) (indent : Nat) :
    docstringLines W d indent = tq3 :: (docMid W d indent ++ [tq3]) := by
  unfold docstringLines docMid
  cases d.returns <;> simp only [List.append_assoc, List.cons_append, List.nil_append, List.append_nil]

theorem docMid_clean (W : Wrap) (hW : WrapSafe W) (d : DocBlock) (hd : d.Clean) (indent : Nat) :
    ∀ l ∈ docMid W d indent, docClean l = true := by
  simp only [docMid, List.forall_mem_append]
  repeat rw [String.toList_ofList]
  refine ⟨forall_mem_ite_nil _ _ (fmtWrap_clean W hW _ _ hd.summary),
    forall_mem_ite_nil _ _ (List.forall_mem_append.mpr
      ⟨forall_mem_ite_nil _ _ (by decide), fmtWrap_clean W hW _ _ hd.description⟩),
    forall_mem_ite_nil _ _ (List.forall_mem_append.mpr ⟨by decide, List.forall_mem_flatMap.mpr
      fun a ha => renderArg_clean W hW _ a (hd.args a ha)⟩), ?_,
    forall_mem_ite_nil _ _ (List.forall_mem_append.mpr ⟨by decide, renderRaises_clean W hW _ _ hd.raises⟩)⟩
  split
  · rename_i r hr
    exact List.forall_mem_append.mpr
      ⟨by decide, renderReturns_clean W hW _ r (hd.returns r hr).1 (hd.returns r hr).2⟩
  · simp

def linesNl (ls : List Str) : Str := ls.flatMap (· ++ ['\n'])

theorem joinWith_snoc (x : Str) (ys : List Str) (z : Str) :
    joinWith ['\n'] (x :: (ys ++ [z])) = x ++ '\n' :: (linesNl ys ++ z) := by
  induction ys generalizing x with
  | nil => simp [joinWith, linesNl]
  | cons y r ih =>
    simp only [List.cons_append, joinWith]
    rw [ih y]
    simp [linesNl, List.flatMap_cons, List.append_assoc]

theorem linesNl_clean (ls : List Str) (h : ∀ l ∈ ls, docClean l = true) : docClean (linesNl ls) = true := by
  rw [docClean_iff, linesNl, List.forall_mem_flatMap]
  intro l hl
  rw [← docClean_iff, docClean_append, h l hl]
  decide

theorem lstep_nl_state (s : LSt) : (lstep s '\n').2 = LSt.init := by
  unfold lstep
  split <;> rfl

theorem lrun_linesNl_state (ls : List Str) : (lrun LSt.init (linesNl ls)).2 = LSt.init := by
  induction ls with
  | nil => rfl
  | cons x r ih =>
    simp only [linesNl, List.flatMap_cons]
    rw [lrun_append, lrun_concat]
    simp only [lstep_nl_state]
    exact ih

/-- After complete lines, `splitlines` starts afresh. -/
theorem splitLines_linesNl_append (ls : List Str) (t : Str) :
    splitLines (linesNl ls ++ t) = splitLines (linesNl ls) ++ splitLines t := by
  simp only [splitLines]
  rw [lrun_append, lrun_linesNl_state]
  simp [lfinish, LSt.init, List.append_assoc]

theorem splitLines_block (mid : List Str) :
    splitLines (joinWith ['\n'] (tq3 :: (mid ++ [tq3]))) = tq3 :: (splitLines (linesNl mid) ++ [tq3]) := by
  rw [joinWith_snoc, splitLines_break tq3 _ '\n' (by decide) (by decide) (by decide),
    splitLines_linesNl_append, show splitLines tq3 = [tq3] by decide]

theorem dropIndent_spaces (n : Nat) (rest : Str) : dropIndent (spaces n ++ tq3 ++ rest) = tq3 ++ rest := by
  induction n with
  | zero => simp [spaces, dropIndent, tq3]
  | succ k ih =>
    simp only [spaces, List.replicate_succ, List.cons_append, dropIndent] at ih ⊢
    simpa using ih

theorem frame_inert (n : Nat) (L : List Str) (hL : ∀ l ∈ L, docClean l = true) :
    isOneTripleQuoted (dropIndent (joinWith ['\n'] ((spaces n ++ tq3) :: (L ++ [spaces n ++ tq3])))) = true := by
  rw [joinWith_snoc, dropIndent_spaces, ← List.append_assoc, ← List.cons_append]
  apply tq_of_clean
  rw [docClean_cons, docClean_append, docClean_spaces, linesNl_clean L hL]
  decide

/-- The same when `CodeWriter` re-indents every line of the block. -/
theorem block_inert (level : Nat) (L : List Str) (hL : ∀ l ∈ L, docClean l = true) :
    isOneTripleQuoted (dropIndent (joinWith ['\n'] ((tq3 :: (L ++ [tq3])).map (spaces (4 * level) ++ ·)))) = true := by
  simp only [List.map_cons, List.map_append, List.map_nil]
  apply frame_inert
  rw [List.forall_mem_map]
  intro l hl
  rw [docClean_append, docClean_spaces, hL l hl]
  rfl

theorem emitDoc_inert (W : Wrap) (hW : WrapSafe W) (d : DocBlock) (hd : d.Clean) (level : Nat) :
    isOneTripleQuoted (dropIndent (emitDoc level (renderDocstring W d))) = true := by
  unfold emitDoc renderDocstring
  rw [docstringLines_eq, splitLines_block]
  apply block_inert
  apply splitLines_clean
  exact linesNl_clean _ (docMid_clean W hW d hd 0)

theorem tagPropDoc_inert (tag : Str) (h : docClean tag = true) : isOneTripleQuoted (renderTagPropDoc tag) = true := by
  have e : renderTagPropDoc tag = tq3 ++ (("Client for '".toList ++ tag ++ "' endpoints.".toList) ++ tq3) := by
    unfold renderTagPropDoc
    repeat rw [String.toList_ofList]
    simp [tq3]
  rw [e]
  apply tq_of_clean
  repeat rw [String.toList_ofList]
  rw [docClean_append, docClean_append, h]
  decide

theorem tagClassDoc_inert (tag : Str) (h : docClean tag = true) : isOneTripleQuoted (renderTagClassDoc tag) = true := by
  have e : renderTagClassDoc tag = tq3 ++ (("Client for ".toList ++ tag
      ++ " endpoints. Uses HttpTransport for all HTTP and header management.".toList) ++ tq3) := by
    unfold renderTagClassDoc
    repeat rw [String.toList_ofList]
    simp [tq3]
  rw [e]
  apply tq_of_clean
  repeat rw [String.toList_ofList]
  rw [docClean_append, docClean_append, h]
  decide

theorem dataclassBlock_clean (className desc : Str) (fields : List (Str × Str × Str))
    (hn : docClean className = true) (hd : docClean desc = true)
    (hf : ∀ f ∈ fields, docClean f.1 = true ∧ docClean f.2.1 = true ∧ docClean f.2.2 = true) :
    (dataclassBlock className desc fields).Clean := by
  refine DocBlock.clean_mk _ _ ?_ (List.forall_mem_map.mpr fun f hfm =>
    DocArg.clean_mk _ _ _ (hf f hfm).1 (hf f hfm).2.1 (hf f hfm).2.2)
  split
  · rw [docClean_append, hn, String.toList_ofList]
    decide
  · exact hd

theorem enumBlock_clean (enumName desc baseType : Str) (members : List (Str × Str))
    (hn : docClean enumName = true) (hd : docClean desc = true) (hb : docClean baseType = true)
    (hm : ∀ m ∈ members, docClean m.1 = true ∧ docClean m.2 = true) :
    (enumBlock enumName desc baseType members).Clean := by
  refine DocBlock.clean_mk _ _ ?_ (List.forall_mem_map.mpr fun m hmm =>
    DocArg.clean_mk _ _ _ (hm m hmm).2 hb ?_)
  · split
    · rw [docClean_append, hn]
      decide
    · exact hd
  · rw [docClean_append, (hm m hmm).1, String.toList_ofList]
    decide

theorem rstripC_clean (ch : Char) (s : Str) (h : docClean s = true) : docClean (rstripC ch s) = true := by
  rw [docClean_iff] at h ⊢
  exact fun c hc => h c ((rstripC_prefix ch s).subset hc)

theorem lstripWs_mem (s : Str) (c : Char) (h : c ∈ lstripWs s) : c ∈ s := by
  induction s with
  | nil => simp [lstripWs] at h
  | cons d ds ih =>
    simp only [lstripWs] at h
    split at h
    · exact List.mem_cons_of_mem _ (ih h)
    · exact h

theorem stripWs_mem (s : Str) (c : Char) (h : c ∈ stripWs s) : c ∈ s := by
  simp only [stripWs, rstripWs, List.mem_reverse] at h
  have := lstripWs_mem _ c h
  simp only [List.mem_reverse] at this
  exact lstripWs_mem s c this

/-- The invariant of `str.replace(ch * 3, rep)` on clean text: the `q` pending copies of `ch` were read off the input. -/
theorem replace3Run_clean (ch : Char) (rep : Str) (q : Nat) (s : Str) (hr : docClean rep = true)
    (hs : docClean s = true) (hq : docClean (List.replicate q ch) = true) :
    docClean (replace3Run ch rep q s) = true := by
  induction s generalizing q with
  | nil => exact hq
  | cons d ds ih =>
    rw [docClean_cons, Bool.and_eq_true] at hs
    by_cases hd : d = ch
    · subst hd
      rw [replace3Run_eq]
      split
      · rw [docClean_append, hr, ih 0 hs.2 rfl]
        rfl
      · refine ih (q + 1) hs.2 ?_
        rw [List.replicate_succ, docClean_cons, hs.1, hq]
        rfl
    · rw [replace3Run_ne _ _ _ _ _ (beq_eq_false_iff_ne.mpr hd), docClean_append, docClean_cons, hq, hs.1,
        ih 0 hs.2 rfl]
      rfl

theorem replace3_clean (ch : Char) (rep s : Str) (hr : docClean rep = true) (hs : docClean s = true) :
    docClean (replace3 ch rep s) = true :=
  replace3Run_clean ch rep 0 s hr hs rfl

/-- Clean text has no backslash to double. -/
theorem replace1_clean (rep s : Str) (hs : docClean s = true) : replace1 '\\' rep s = s := by
  induction s with
  | nil => rfl
  | cons c cs ih =>
    rw [docClean_cons, Bool.and_eq_true] at hs
    have hc : (c == '\\') = false := by
      have := hs.1
      simp only [docChar, Bool.not_eq_true', Bool.or_eq_false_iff] at this
      exact this.1.2
    rw [replace1_cons, ih hs.2, hc]
    rfl

theorem cleanClientDesc_clean (D : Dedent) (hD : DedentSafe D) (desc : Str) (h : docClean desc = true) :
    docClean (cleanClientDesc D desc) = true := by
  unfold cleanClientDesc
  have h1 := replace3_clean '"' ['\''] desc (by decide) h
  have h2 := replace3_clean '\'' ['\''] _ (by decide) h1
  rw [replace1_clean _ _ h2]
  rw [docClean_iff] at h2 ⊢
  exact fun c hc => h2 c (stripWs_mem _ c (hD _ c hc))

theorem clientBlock_clean (tags : List (Str × Str × Str))
    (ht : ∀ t ∈ tags, docClean t.1 = true ∧ docClean t.2.1 = true ∧ docClean t.2.2 = true) :
    (clientBlock tags).Clean := by
  unfold clientBlock clientSummary
  repeat rw [String.toList_ofList]
  refine DocBlock.clean_mk _ _ (by decide) ?_
  simp only [List.cons_append, List.nil_append, List.forall_mem_cons, List.forall_mem_map]
  refine ⟨DocArg.clean_mk _ _ _ (by decide) (by decide) (by decide),
    DocArg.clean_mk _ _ _ (by decide) (by decide) (by decide),
    fun t htm => DocArg.clean_mk _ _ _ (ht t htm).2.2 (ht t htm).2.1 ?_⟩
  simp only [docClean_cons, docClean_append, (ht t htm).1]
  decide

theorem clientDoc_inert (W : Wrap) (hW : WrapSafe W) (D : Dedent) (hD : DedentSafe D)
    (title version desc : Str) (tags : List (Str × Str × Str))
    (h1 : docClean title = true) (h2 : docClean version = true) (h3 : docClean desc = true)
    (ht : ∀ t ∈ tags, docClean t.1 = true ∧ docClean t.2.1 = true ∧ docClean t.2.2 = true) :
    isOneTripleQuoted (dropIndent (renderClientDoc W D title version desc tags)) = true := by
  unfold renderClientDoc
  simp only [List.singleton_append]
  apply frame_inert
  rw [List.forall_mem_map]
  unfold clientDocLines
  rw [renderDocstring, docstringLines_eq, splitLines_block]
  simp only [List.forall_mem_append, List.forall_mem_cons, List.not_mem_nil, false_imp_iff, implies_true, and_true]
  -- `rstrip('"')` erases the inner renderer's own `"""` lines and leaves clean lines clean
  refine ⟨⟨⟨rstripC_clean _ _ ?_, forall_mem_ite_nil _ _ ?_⟩, by decide⟩, by decide,
    fun l hl => rstripC_clean _ _ (splitLines_clean _
      (linesNl_clean _ (docMid_clean W hW _ (clientBlock_clean tags ht) 0)) l hl), by decide⟩
  · rw [docClean_append, docClean_append, docClean_append, h1, h2, String.toList_ofList]
    decide
  · exact List.forall_mem_cons.mpr ⟨by decide,
      List.forall_mem_singleton.mpr (rstripC_clean _ _ (cleanClientDesc_clean D hD desc h3))⟩

/-! ### `write_block`: a second `splitlines()` over finished code -/

def noLineBreak (s : Str) : Bool := s.all (fun c => !isLineBreak c)

theorem noLineBreak_append (a b : Str) : noLineBreak (a ++ b) = (noLineBreak a && noLineBreak b) := by
  simp [noLineBreak, List.all_append]

/-- A non-empty line without any `str.splitlines` boundary is only re-indented. -/
theorem writeBlock_line (level : Nat) (line : Str) (hne : line ≠ []) (h : noLineBreak line = true) :
    writeBlock level line = spaces (4 * level) ++ line := by
  simp [writeBlock, emitDoc, splitLines_noBreak line hne h, joinWith]

theorem renderLit_noLineBreak (s : Str) (h : noLineBreak s = true) : noLineBreak (renderLit s) = true := by
  have e : renderLit s = ['"'] ++ (s ++ ['"']) := rfl
  rw [e, noLineBreak_append, noLineBreak_append, h]
  decide

theorem dictKey_noLineBreak (s var : Str) (h1 : noLineBreak s = true) (h2 : noLineBreak var = true) :
    noLineBreak (renderDictKey s var) = true := by
  unfold renderDictKey
  repeat rw [String.toList_ofList]
  simp only [noLineBreak_append, renderLit_noLineBreak s h1, h2, Bool.and_true]
  decide

end Pog
