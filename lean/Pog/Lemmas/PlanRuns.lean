import Pog.Model.Plan
import Pog.Model.Fresh
/-
  The demonstration projects of C09: a plan specification whose endpoint texts record how many de-duplication
  passes the operation ids have seen, generated with `--force` into an empty project and then once more without
  `--force`.  The force run, the tree the diff path builds and the re-run of the three projects are evaluated
  together, once; the theorems of `Pog.Props.C09` about them are the parts of that result.  It is a module of its own,
  beside `Pog/Props/C09.lean`, because a Props file holds exactly the theorems claimed for its property
  (`props_index.json` is rebuilt from them), and `demo_runs` is a shared evaluation, not a claim.
-/
namespace Pog.C09
open Pog Pog.Diff Pog.Plan

/-- `n` applications of the de-duplication pass -/
def dedupPasses : Nat → List Str → List Str
  | 0, ids => ids
  | n + 1, ids => dedupOpIds [] (dedupPasses n ids)

/-- A `PlanSpec` whose endpoint module and mock module list the method names after the number of
    de-duplication passes that have happened when the file is written; every other text is fixed. -/
def opsSpec (ids : List Str) : PlanSpec where
  aliases := "A".toList
  registry := "R".toList
  runtime := [(["auth".toList], "base.py".toList, "B".toList), ([], "utils.py".toList, "U".toList)]
  coreInit := "CI".toList
  authInit := "AI".toList
  readme := "RM".toList
  config := "CF".toList
  models := [("pet".toList, "P".toList)]
  modelsInit := "MI".toList
  endpoints := fun k => [("default".toList, joinWith ['\n'] ((dedupPasses (k + 1) ids).map sanMethod))]
  endpointsInit := fun _ => "EI".toList
  client := "C".toList
  mocks := fun k => [("default".toList, joinWith ['\n'] ((dedupPasses k ids).map sanMethod))]
  mockEndpointsInit := fun _ => "MEI".toList
  mockClient := fun _ => "MC".toList
  mocksInit := fun _ => "MKI".toList
  richInit := "# Client package __init__.py\\n# Re-exports from core and local client.\\n".toList

def demoCfg (out : String) (core : Option String) : PlanCfg where
  root := ["srv".toList, "proj".toList]
  outputPackage := out.toList
  corePackage := core.map String.toList
  force := true
  outExists := false
  noPostprocess := true
  tmpDir := ["tmp".toList]
  tmpName := "tmpab12".toList

/-- the paths at which two trees disagree (present in one only, or different text) -/
def treeDiff (a b : Tree) : List (List Str) :=
  (a.filter (fun e => b.lookup e.1 != some e.2)).map (·.1) ++
  (b.filter (fun e => (a.lookup e.1).isNone)).map (·.1)

/-- the file system after a force generation into an empty project (root and temp dir exist) -/
def afterForce (c : PlanCfg) (sp : PlanSpec) : FS :=
  let c := { c with force := true, outExists := false }
  (execOps id (planOps c sp) ⟨[], pathPrefixes c.root ++ pathPrefixes c.tmpDir⟩ (planOps c sp).length).1

/-- `generate(force=True)` followed by `generate(force=False)`, both without faults (the fault position `1000000` lies
    beyond the end of every plan used here): the outcome of the second call. -/
def rerunOutcome (c : PlanCfg) (sp : PlanSpec) : Outcome :=
  (runGenerate id { c with force := false } sp (afterForce c sp) 1000000).2

/-- The three demonstration projects: operation ids `foo, foo, foo_2` with the core embedded in the package; ids
    `foo, bar` with the core embedded; ids `foo, bar` with an explicit `core_package`.  They stand in ONE declaration
    because the kernel keeps what it has reduced only while it checks one declaration: together the projects share the
    decoding of every file name and the stages of the plan that do not depend on the operation ids. -/
theorem demo_runs :
    (let sp := opsSpec ["foo".toList, "foo".toList, "foo_2".toList]
     let c := demoCfg "client" none
     (treeDiff (forceTree id c sp) (diffTree id c sp) = [] ∧
      (forceTree id c sp).lookup ["endpoints".toList, "default.py".toList] = some "foo\nfoo_2\nfoo_2_2".toList ∧
      showDiffs (forceTree id c sp) (diffTree id c sp) = false) ∧
     rerunOutcome c sp = Outcome.success) ∧
    (let sp := opsSpec ["foo".toList, "bar".toList]
     let c := demoCfg "client" none
     (treeDiff (forceTree id c sp) (diffTree id c sp) = [] ∧
      (forceTree id c sp).length = 22 ∧
      showDiffs (forceTree id c sp) (diffTree id c sp) = false) ∧
     rerunOutcome c sp = Outcome.success) ∧
    (let sp := opsSpec ["foo".toList, "bar".toList]
     let c := demoCfg "pkg.client" (some "pkg.core")
     (treeDiff (forceTree id c sp) (diffTree id c sp) = [["__init__.py".toList]] ∧
      (diffTree id c sp).lookup ["__init__.py".toList] = some [] ∧
      (forceTree id c sp).lookup ["__init__.py".toList] = some sp.richInit ∧
      pyLines sp.richInit = [sp.richInit] ∧
      showDiffs (forceTree id c sp) (diffTree id c sp) = true) ∧
     rerunOutcome c sp = Outcome.raisedDiff) := by
  decide +kernel

end Pog.C09
