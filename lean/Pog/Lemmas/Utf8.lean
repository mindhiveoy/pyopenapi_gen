import Pog.Lemmas.Stream
/-
  The incremental UTF-8 decoder model: chunk by chunk is the same as all at once (`utf8Chunks_flatten`), and it
  inverts `utf8Encode`.
-/
namespace Pog

theorem utf8Run_append (p : List Byte) (a b : List Byte) :
    utf8Run p (a ++ b) =
      (utf8Run p a).bind (fun r => (utf8Run r.2 b).map (fun r' => (r.1 ++ r'.1, r'.2))) := by
  induction a generalizing p with
  | nil =>
    simp only [List.nil_append, utf8Run, Option.bind_some]
    cases utf8Run p b <;> simp
  | cons b0 a ih =>
    simp only [List.cons_append, utf8Run]
    cases utf8Seq (p ++ [b0]) with
    | complete c =>
      simp only
      rw [ih]
      cases utf8Run [] a with
      | none => simp
      | some r =>
        obtain ⟨t, p'⟩ := r
        simp only [Option.bind_some]
        cases utf8Run p' b <;> simp
    | pending => simp only; rw [ih]
    | invalid => simp

theorem utf8Chunks_flatten (p : List Byte) (chs : List (List Byte)) :
    (utf8Chunks p chs).map (fun r => (r.1.flatten, r.2)) = utf8Run p chs.flatten := by
  induction chs generalizing p with
  | nil => simp [utf8Chunks, utf8Run]
  | cons ch chs ih =>
    simp only [utf8Chunks, List.flatten_cons, utf8Run_append]
    cases utf8Run p ch with
    | none => simp
    | some r =>
      obtain ⟨t, p'⟩ := r
      simp only [Option.bind_some]
      rw [← ih p']
      cases utf8Chunks p' chs <;> simp

/-! ### decode ∘ encode = id

  `utf8EncodeChar` writes the base-64 digits of the code point behind fixed marker bits.  The decoder is
  followed on digits that are variables (`a`, `b`, `e`, `d` below, most significant first); the digits
  of a concrete `n` are put in at the end, so that no step but `digits3`/`digits4` sees a division. -/

theorem digits3 (n : Nat) : n / 4096 * 4096 + n / 64 % 64 * 64 + n % 64 = n := by
  rw [show n / 4096 = n / 64 / 64 from (Nat.div_div_eq_div_mul n 64 64).symm,
    show (4096 : Nat) = 64 * 64 from rfl, ← Nat.mul_assoc, ← Nat.add_mul, Nat.div_add_mod', Nat.div_add_mod']
theorem digits4 (n : Nat) : n / 262144 * 262144 + n / 4096 % 64 * 4096 + n / 64 % 64 * 64 + n % 64 = n := by
  have h := Nat.div_add_mod' n 64
  rw [← digits3 (n / 64)] at h
  simpa only [Nat.div_div_eq_div_mul, Nat.add_mul, Nat.mul_assoc, Nat.reduceMul] using h

theorem utf8Run_seq1 (n : Nat) (h : n < 0x80) (rest : List Byte) :
    utf8Run [] (n :: rest) = (utf8Run [] rest).map (fun r => (Char.ofNat n :: r.1, r.2)) := by
  simp only [utf8Run, List.nil_append, utf8Seq, h, if_true]
  cases utf8Run [] rest <;> rfl

theorem utf8Run_seq2 (a d : Nat) (h2 : 2 ≤ a) (ha : a < 32) (hd : d < 64) (rest : List Byte) :
    utf8Run [] ([0xC0 + a, 0x80 + d] ++ rest)
      = (utf8Run [] rest).map (fun r => (Char.ofNat (a * 64 + d) :: r.1, r.2)) := by
  have : ¬ 0xC0 + a < 0x80 := by omega
  have : 0xC2 ≤ 0xC0 + a := by omega
  have : 0xC0 + a ≤ 0xF4 := by omega
  have : 0xC0 + a ≤ 0xDF := by omega
  have : 0x80 + d ≤ 0xBF := by omega
  simp [List.cons_append, utf8Run, utf8Seq, isCont, *]
  cases utf8Run [] rest <;> rfl

/-- The second byte after a 3-byte lead: no overlong form (`a = 0`), no surrogate (`a = 13`). -/
theorem second3_digits (a b : Nat) (hb : b < 64) (h0 : a = 0 → 32 ≤ b) (h13 : a = 13 → b < 32) :
    second3 (0xE0 + a) (0x80 + b) = true := by
  have : 0x80 ≤ 0x80 + b := by omega
  have : 0x80 + b ≤ 0xBF := by omega
  have : a = 0 → 0xA0 ≤ 0x80 + b := by omega
  have : a = 13 → 0x80 + b ≤ 0x9F := by omega
  unfold second3 isCont
  by_cases ha : a = 0
  · simp [*]
  · by_cases hb' : a = 13
    · simp [*]
    · have : ¬ 0xE0 + a = 0xE0 := by omega
      have : ¬ 0xE0 + a = 0xED := by omega
      simp [*]

theorem utf8Run_seq3 (a b d : Nat) (ha : a < 16) (hd : d < 64)
    (hs : second3 (0xE0 + a) (0x80 + b) = true) (rest : List Byte) :
    utf8Run [] ([0xE0 + a, 0x80 + b, 0x80 + d] ++ rest)
      = (utf8Run [] rest).map (fun r => (Char.ofNat (a * 4096 + b * 64 + d) :: r.1, r.2)) := by
  have : ¬ 0xE0 + a < 0x80 := by omega
  have : 0xC2 ≤ 0xE0 + a := by omega
  have : 0xE0 + a ≤ 0xF4 := by omega
  have : ¬ 0xE0 + a ≤ 0xDF := by omega
  have : 0xE0 + a ≤ 0xEF := by omega
  have : 0x80 + d ≤ 0xBF := by omega
  simp [List.cons_append, utf8Run, utf8Seq, isCont, *]
  cases utf8Run [] rest <;> rfl

/-- The second byte after a 4-byte lead: no overlong form (`a = 0`), nothing above U+10FFFF (`a = 4`). -/
theorem second4_digits (a b : Nat) (hb : b < 64) (h0 : a = 0 → 16 ≤ b) (h4 : a = 4 → b < 16) :
    second4 (0xF0 + a) (0x80 + b) = true := by
  have : 0x80 ≤ 0x80 + b := by omega
  have : 0x80 + b ≤ 0xBF := by omega
  have : a = 0 → 0x90 ≤ 0x80 + b := by omega
  have : a = 4 → 0x80 + b ≤ 0x8F := by omega
  unfold second4 isCont
  by_cases ha : a = 0
  · simp [*]
  · by_cases hb' : a = 4
    · simp [*]
    · have : ¬ 0xF0 + a = 0xF0 := by omega
      have : ¬ 0xF0 + a = 0xF4 := by omega
      simp [*]

theorem utf8Run_seq4 (a b e d : Nat) (ha : a < 5) (he : e < 64) (hd : d < 64)
    (hs : second4 (0xF0 + a) (0x80 + b) = true) (rest : List Byte) :
    utf8Run [] ([0xF0 + a, 0x80 + b, 0x80 + e, 0x80 + d] ++ rest)
      = (utf8Run [] rest).map (fun r => (Char.ofNat (a * 262144 + b * 4096 + e * 64 + d) :: r.1, r.2)) := by
  have : ¬ 0xF0 + a < 0x80 := by omega
  have : 0xC2 ≤ 0xF0 + a := by omega
  have : 0xF0 + a ≤ 0xF4 := by omega
  have : ¬ 0xF0 + a ≤ 0xDF := by omega
  have : ¬ 0xF0 + a ≤ 0xEF := by omega
  have : 0x80 + e ≤ 0xBF := by omega
  have : 0x80 + d ≤ 0xBF := by omega
  simp [List.cons_append, utf8Run, utf8Seq, isCont, *]
  cases utf8Run [] rest <;> rfl

theorem utf8Run_encodeChar (c : Char) (rest : List Byte) :
    utf8Run [] (utf8EncodeChar c ++ rest) = (utf8Run [] rest).map (fun r => (c :: r.1, r.2)) := by
  have hv : c.toNat < 0xd800 ∨ (0xdfff < c.toNat ∧ c.toNat < 0x110000) := c.valid
  have hc : Char.ofNat c.toNat = c := Char.ofNat_toNat c
  unfold utf8EncodeChar
  simp only
  generalize c.toNat = n at hv hc
  have hd : n % 64 < 64 := Nat.mod_lt n (by decide)
  have he : n / 64 % 64 < 64 := Nat.mod_lt _ (by decide)
  have hb : n / 4096 % 64 < 64 := Nat.mod_lt _ (by decide)
  split
  · rename_i h1
    rw [List.singleton_append, utf8Run_seq1 n h1, hc]
  split
  · rename_i h1 h2
    have key := Nat.div_add_mod' n 64
    have ha : n / 64 < 32 := Nat.div_lt_of_lt_mul h2
    generalize n / 64 = a, n % 64 = d at *
    rw [utf8Run_seq2 a d (by omega) ha hd, key, hc]
  split
  · rename_i h1 h2 h3
    have key := digits3 n
    have ha : n / 4096 < 16 := Nat.div_lt_of_lt_mul h3
    generalize n / 4096 = a, n / 64 % 64 = b, n % 64 = d at *
    rw [utf8Run_seq3 a b d ha hd (second3_digits a b he (by omega) (by omega)), key, hc]
  · rename_i h1 h2 h3
    have key := digits4 n
    have ha : n / 262144 < 5 := Nat.div_lt_of_lt_mul (by omega)
    generalize n / 262144 = a, n / 4096 % 64 = b, n / 64 % 64 = e, n % 64 = d at *
    rw [utf8Run_seq4 a b e d ha he hd (second4_digits a b hb (by omega) (by omega)), key, hc]

theorem utf8Run_encode (s : Str) : utf8Run [] (utf8Encode s) = some (s, []) := by
  induction s with
  | nil => rfl
  | cons c cs ih => simp [utf8Encode, utf8Run_encodeChar, ih]

theorem utf8Decode_encode (s : Str) : utf8Decode (utf8Encode s) = some s := by
  simp [utf8Decode, utf8Run_encode]

/-- Byte chunks in, lines out: decode the concatenated bytes, then `splitlines` (`none` on both sides for
    ill-formed or truncated input). -/
theorem linesOfBytes_eq (chs : List (List Byte)) :
    linesOfBytes chs = (utf8Decode chs.flatten).map splitLines := by
  unfold linesOfBytes utf8Decode
  rw [← utf8Chunks_flatten [] chs]
  cases utf8Chunks [] chs with
  | none => rfl
  | some r =>
    obtain ⟨ts, p⟩ := r
    cases p <;> simp [linesOf_eq_splitLines]

end Pog
