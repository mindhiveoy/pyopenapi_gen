import Pog.Lemmas.ConvRound
/-
  C03's tolerance: a conforming document and its normal form `normaliseF` (what decode-then-encode returns) differ only
  by the order of object keys and by added keys holding `null`, `[]` or `{}` (`tolerated_normalise`).
-/
namespace Pog

theorem toleratedKvs_of (sub out : List (Str × JsonV))
    (h : ∀ kv ∈ sub, ∃ v', aget out kv.1 = some v' ∧ tolerated kv.2 v' = true) : toleratedKvs sub out = true := by
  induction sub with
  | nil => simp [toleratedKvs]
  | cons kv rest ih =>
    obtain ⟨k, v⟩ := kv
    obtain ⟨v', h1, h2⟩ := h (k, v) (by simp)
    simp only [toleratedKvs, h1, h2, Bool.true_and]
    exact ih (fun kv hkv => h kv (by simp [hkv]))

theorem toleratedList_map (xs : List JsonV) (f : JsonV → JsonV) (h : ∀ x ∈ xs, tolerated x (f x) = true) :
    toleratedList xs (xs.map f) = true := by
  induction xs with
  | nil => simp [toleratedList]
  | cons x xs ih =>
    simp only [List.map_cons, toleratedList, h x (by simp), Bool.true_and]
    exact ih (fun y hy => h y (by simp [hy]))

/-- An object against an output that is the image of a list under distinct keys: every entry of the object has a
    tolerated counterpart, and an entry of the output without counterpart holds `null`, `[]` or `{}`. -/
theorem tolerated_obj_map {β : Type} (kvs : List (Str × JsonV)) (l : List β) (key : β → Str) (val : β → JsonV)
    (hnd : (l.map key).Nodup)
    (hin : ∀ kv ∈ kvs, ∃ g ∈ l, key g = kv.1 ∧ tolerated kv.2 (val g) = true)
    (hout : ∀ g ∈ l, (aget kvs (key g)).isSome = true ∨ (val g).isEmptyish = true) :
    tolerated (.obj kvs) (.obj (l.map (fun g => (key g, val g)))) = true := by
  simp only [tolerated, Bool.and_eq_true, List.all_eq_true, Bool.or_eq_true]
  refine ⟨toleratedKvs_of kvs _ fun kv hkv => ?_, fun kv hkv => ?_⟩
  · obtain ⟨g, hg, hk, ht⟩ := hin kv hkv
    exact ⟨val g, hk ▸ aget_map_of_nodup l key val hnd g hg, ht⟩
  · obtain ⟨g, hg, rfl⟩ := List.mem_map.mp hkv
    exact hout g hg

theorem tolerated_obj_mapVals (kvs : List (Str × JsonV)) (f : JsonV → JsonV) (hnd : (akeys kvs).Nodup)
    (h : ∀ kv ∈ kvs, tolerated kv.2 (f kv.2) = true) :
    tolerated (.obj kvs) (.obj (kvs.map (fun kv => (kv.1, f kv.2)))) = true :=
  tolerated_obj_map kvs kvs Prod.fst (fun kv => f kv.2) hnd (fun kv hkv => ⟨kv, hkv, rfl, h kv hkv⟩)
    (fun kv hkv => .inl (by rw [aget_of_mem_nodup kvs kv.1 kv.2 hnd hkv]; rfl))

theorem tolerated_scalar_refl (j : JsonV) (h : (match j with | .arr _ => false | .obj _ => false | _ => true) = true) :
    tolerated j j = true := by
  cases j with
  | arr _ => cases h
  | obj _ => cases h
  | _ => simp [tolerated]

theorem tolerated_refl_of_fits (n : Nat) (j : JsonV) (h : jsonFits n j = true) : tolerated j j = true := by
  induction n generalizing j with
  | zero => simp [jsonFits] at h
  | succ n ih =>
    cases j with
    | arr xs =>
      simp only [jsonFits, List.all_eq_true] at h
      simpa [tolerated] using toleratedList_map xs id (fun x hx => ih x (h x hx))
    | obj kvs =>
      simp only [jsonFits, List.all_eq_true, Bool.and_eq_true, decide_eq_true_eq] at h
      simpa using tolerated_obj_mapVals kvs id h.1 (fun kv hkv => ih kv.2 (h.2 kv hkv))
    | _ => exact tolerated_scalar_refl _ rfl

theorem dfltJson_emptyish (d : Dflt) : (dfltJson d).isEmptyish = true := by
  cases d <;> rfl

theorem tolerated_leaf (c : Codecs) (l : Leaf) (j : JsonV) (h : leafConforms c l j = true) : tolerated j j = true := by
  apply tolerated_scalar_refl
  cases j with
  | arr xs => cases l <;> cases h
  | obj kvs => cases l <;> cases h
  | _ => rfl

theorem tolerated_enum_member (members : List JsonV) (hok : enumOk members = true) (j : JsonV) (hj : j ∈ members) :
    tolerated j j = true := by
  apply tolerated_scalar_refl
  simp only [enumOk, Bool.or_eq_true, List.all_eq_true] at hok
  rcases hok with h | h <;> cases j <;> first | rfl | cases h _ hj

/-- C03's tolerance holds between a conforming document and its normal form. -/
theorem tolerated_normalise (c : Codecs) (decls : Decls) (hwf : declsOk decls = true) :
    ∀ n t j, conformsF c n decls t j = true → tolerated j (normaliseF n decls t j) = true := by
  apply conformsF_induct
  case leaf => intro n l j _ _ h; exact tolerated_leaf c l j h
  case any => intro n j h; exact tolerated_refl_of_fits n j h
  case null => intro n t; rfl
  case enum => intro n name ms j hok hmem; exact tolerated_enum_member ms hok j (by simpa using hmem)
  case optional =>
    intro n t j hj _ ih
    simpa only [normaliseF, beq_iff_eq, hj, if_false] using ih
  case list =>
    intro n t xs _ ih
    simp only [normaliseF, tolerated]
    exact toleratedList_map xs _ ih
  case dict =>
    intro n t kvs _ hnd ih
    exact tolerated_obj_mapVals kvs _ hnd ih
  case dc =>
    intro n name cd kvs hcd hnd hkeys _ hfields
    obtain ⟨_, hdk, hld⟩ := classOk_spec cd (declsOk_get decls name cd hwf hcd)
    simp only [normaliseF, hcd]
    -- a key of the document is the wire key of a field, whose entry of the output is the normal form of the value;
    -- a field without a key in the document appears with the JSON of its default
    refine tolerated_obj_map kvs cd.fields (dumpKey cd) _ hdk (fun kv hkv => ?_) (fun f hf => ?_)
    · obtain ⟨f, hf, hfk⟩ := hkeys kv.1 (List.mem_map_of_mem (f := Prod.fst) hkv)
      have hget : aget kvs (loadKey cd f) = some kv.2 := hfk ▸ aget_of_mem_nodup kvs kv.1 kv.2 hnd hkv
      have hc := hfields f hf
      rw [hget] at hc
      exact ⟨f, hf, (hld f hf).symm.trans hfk, by rw [hget]; exact hc⟩
    · cases hk : aget kvs (loadKey cd f) with
      | some x => exact .inl (by rw [← hld f hf, hk]; rfl)
      | none => exact .inr (dfltJson_emptyish f.dflt)

end Pog
