import Pog.Model.Ops
import Pog.Lemmas.Fresh
import Pog.Lemmas.SurfaceGroup
/-
  The operations parser of `Pog.Model.Ops` (what is parsed, dropped or skipped, and why), the operation-id choice,
  the de-duplication passes, and the grouping of operations into tag clients.
-/
namespace Pog.Ops
open Pog

theorem parseOne_of_not_recognised (u : UInfo) (s : Naming) (path key : Str) (op : RawOp)
    (h : recognised u key = false) : parseOne u s path key op = .skipped := by
  unfold recognised at h
  unfold parseOne
  cases h1 : skipKeys.contains key
  · cases h2 : httpMethods.contains (u.upperS key)
    · simp only [h2, Bool.false_eq_true, if_false, Bool.not_false, if_true]
    · rw [h1, h2] at h; cases h
  · simp only [if_true]

theorem recognised_mem (u : UInfo) (key : Str) (h : recognised u key = true) :
    u.upperS key ∈ httpMethods := by
  unfold recognised at h
  simp only [Bool.and_eq_true] at h
  simpa using h.2

theorem mem_lstripC (ch c : Char) (s : Str) (hc : c ∈ s) (hne : c ≠ ch) : c ∈ lstripC ch s := by
  induction s with
  | nil => cases hc
  | cons d ds ih =>
    simp only [lstripC]
    split
    · rename_i hd
      have hd : d = ch := by simpa using hd
      rcases List.mem_cons.1 hc with h | h
      · exact absurd (h.trans hd) hne
      · exact ih h
    · exact hc

theorem mem_stripC (ch c : Char) (s : Str) (hc : c ∈ s) (hne : c ≠ ch) : c ∈ stripC ch s := by
  unfold stripC rstripC
  rw [List.mem_reverse]
  apply mem_lstripC _ _ _ _ hne
  rw [List.mem_reverse]
  exact mem_lstripC _ _ _ hc hne

theorem httpMethods_have_alnum :
    httpMethods.all (fun m => m.any (fun c => isAlnumA c && c != '/')) = true := by decide

theorem deriveOpIdU_any_alnum (mu path : Str) (h : mu ∈ httpMethods) :
    (stripC '/' (mu ++ '_' :: path)).any isAlnumA = true := by
  have := List.all_eq_true.1 httpMethods_have_alnum mu h
  obtain ⟨c, hc, hp⟩ := List.any_eq_true.1 this
  simp only [Bool.and_eq_true, bne_iff_ne, ne_eq] at hp
  exact List.any_eq_true.2 ⟨c, mem_stripC _ _ _ (List.mem_append_left _ hc) hp.2, hp.1⟩

theorem deriveOpIdU_ne_nil (mu path : Str) (h : mu ∈ httpMethods) : deriveOpIdU mu path ≠ [] := by
  intro h0
  have := (sanMethod_empty_iff _).1 h0
  rw [deriveOpIdU_any_alnum mu path h] at this
  cases this

theorem deriveOpIdU_valid (mu path : Str) (h : mu ∈ httpMethods) :
    isPyIdent (deriveOpIdU mu path) = true ∧ isKeyword (deriveOpIdU mu path) = false :=
  sanMethod_valid _ (deriveOpIdU_any_alnum mu path h)

/-- A sanitised name is its own sanitisation, so it is empty exactly when it has no ASCII alphanumeric. -/
theorem sanMethod_any_alnum (s : Str) (h : s.any isAlnumA = true) : (sanMethod s).any isAlnumA = true := by
  cases ha : (sanMethod s).any isAlnumA with
  | true => rfl
  | false =>
    rw [← sanMethod_empty_iff, sanMethod_idempotent, sanMethod_empty_iff, h] at ha
    cases ha

theorem deriveOpIdU_has_alnum (mu path : Str) (h : mu ∈ httpMethods) :
    (deriveOpIdU mu path).any isAlnumA = true :=
  sanMethod_any_alnum _ (deriveOpIdU_any_alnum mu path h)

theorem cleanOpId_nil (m p : Str) : cleanOpId [] m p = [] := by
  simp [cleanOpId, endsWith, lowerAscii]

theorem cleanOpId_ne_nil (id m p : Str) (h : id ≠ []) : cleanOpId id m p ≠ [] := by
  fun_cases cleanOpId id m p
  case case4 hpre => exact fun h0 => hpre (h0 ▸ rfl)
  all_goals exact h

theorem declaredId_some {d : Option Str} {id : Str} (h : declaredId d = some id) : d = some id ∧ id ≠ [] := by
  cases d with
  | none => cases h
  | some x =>
    simp only [declaredId] at h
    split at h
    · cases h
    · rename_i hx
      cases h
      exact ⟨rfl, by simpa using hx⟩

theorem declaredId_of_ne_nil {id : Str} (h : id ≠ []) : declaredId (some id) = some id := by
  cases id with
  | nil => exact absurd rfl h
  | cons c cs => rfl

/-- F44 repaired: the id handed to the response parser is never empty (an empty declared id is replaced by the derived one, the
    cleaner keeps a non-empty id non-empty, a derived id has an ASCII alphanumeric). -/
theorem chooseOpId_ne_nil (s : Naming) (mu path : Str) (d : Option Str) (h : mu ∈ httpMethods) :
    chooseOpId s mu path d ≠ [] := by
  have hd := deriveOpIdU_ne_nil mu path h
  unfold chooseOpId
  cases hdi : declaredId d with
  | none => cases s <;> exact hd
  | some id =>
    obtain ⟨_, hne⟩ := declaredId_some hdi
    cases s
    · exact hne
    · exact cleanOpId_ne_nil _ _ _ hne
    · exact hd

def StatusKey.isBad : StatusKey → Bool
  | .badKey _ => true
  | .intKey _ => false
  | .strKey _ => false

theorem respError_nil (opId : Str) : respError opId [] = none := rfl

/-- With a non-empty id, `parse_response` raises only for a status key that is neither a string nor an integer. -/
theorem respError_of_ne_nil (opId : Str) (ks : List StatusKey) (hne : opId ≠ []) :
    respError opId ks = if ks.any StatusKey.isBad then some .codeNotStr else none := by
  have he : opId.isEmpty = false := by cases opId <;> simp_all
  induction ks with
  | nil => rfl
  | cons k rest ih =>
    cases k with
    | badKey r => rfl
    | strKey _ | intKey _ =>
      simp only [respError, he, ih, List.any_cons, StatusKey.isBad, Bool.false_or, Bool.false_eq_true, if_false]

theorem respError_ne_none_iff (opId : Str) (ks : List StatusKey) :
    respError opId ks ≠ none ↔ ks.any StatusKey.isBad = true ∨ (opId = [] ∧ ks ≠ []) := by
  by_cases ho : opId = []
  · subst ho
    cases ks with
    | nil => simp [respError]
    | cons k rest => cases k <;> simp [respError]
  · rw [respError_of_ne_nil opId ks ho]
    cases ks.any StatusKey.isBad <;> simp [ho]

/-- The loop body for a method key.  The id handed to the response parser is never empty (`chooseOpId_ne_nil`), so of the two
    `raise`s of `parse_response` only `code must be a string` is left. -/
theorem parseOne_of_recognised (u : UInfo) (s : Naming) (path key : Str) (op : RawOp)
    (h : recognised u key = true) :
    parseOne u s path key op =
      if op.parseRaises then .dropped ⟨u.upperS key, path, .other⟩ else
      if op.responses.any StatusKey.isBad then .dropped ⟨u.upperS key, path, .codeNotStr⟩ else
      .parsed ⟨path, u.upperS key, chooseOpId s (u.upperS key) path op.operationId, tagsList op.tags⟩ := by
  have hne := chooseOpId_ne_nil s _ path op.operationId (recognised_mem u key h)
  unfold recognised at h
  simp only [Bool.and_eq_true, Bool.not_eq_true'] at h
  unfold parseOne
  simp only [h.1, h.2, Bool.false_eq_true, if_false, Bool.not_true, respError_of_ne_nil _ _ hne]
  cases op.responses.any StatusKey.isBad <;> rfl

theorem parseOne_recognised_cases (u : UInfo) (s : Naming) (path key : Str) (op : RawOp)
    (h : recognised u key = true) :
    (∃ r, parseOne u s path key op = .dropped ⟨u.upperS key, path, r⟩) ∨
    parseOne u s path key op =
      .parsed ⟨path, u.upperS key, chooseOpId s (u.upperS key) path op.operationId, tagsList op.tags⟩ := by
  rw [parseOne_of_recognised u s path key op h]
  split
  · exact .inl ⟨.other, rfl⟩
  · split
    · exact .inl ⟨.codeNotStr, rfl⟩
    · exact .inr rfl

theorem parseOne_parsed_fields (u : UInfo) (s : Naming) (path key : Str) (op : RawOp) (o : IROp)
    (h : parseOne u s path key op = .parsed o) :
    recognised u key = true ∧
    o = ⟨path, u.upperS key, chooseOpId s (u.upperS key) path op.operationId, tagsList op.tags⟩ := by
  cases hr : recognised u key with
  | false => rw [parseOne_of_not_recognised u s path key op hr] at h; cases h
  | true =>
    refine ⟨rfl, ?_⟩
    rcases parseOne_recognised_cases u s path key op hr with ⟨r, h1⟩ | h1
    · rw [h1] at h; cases h
    · rw [h1] at h; injection h with h; exact h.symm

theorem parseOne_bad_key (u : UInfo) (s : Naming) (path key : Str) (op : RawOp)
    (h : op.responses.any StatusKey.isBad = true) (o : IROp) :
    parseOne u s path key op ≠ .parsed o := by
  intro hp
  rw [parseOne_of_recognised u s path key op (parseOne_parsed_fields u s path key op o hp).1, h] at hp
  split at hp <;> cases hp

def OpResult.op? : OpResult → Option IROp
  | .parsed o => some o
  | _ => none

def OpResult.warn? : OpResult → Option OpWarning
  | .dropped w => some w
  | _ => none

theorem parseItem_eq (u : UInfo) (s : Naming) (path : Str) (item : PathItem) :
    parseItem u s path item =
      (item.filterMap (fun e => (parseOne u s path e.1 e.2).op?),
       item.filterMap (fun e => (parseOne u s path e.1 e.2).warn?)) := by
  induction item with
  | nil => rfl
  | cons e rest ih =>
    obtain ⟨k, op⟩ := e
    simp only [parseItem, ih, List.filterMap_cons]
    cases h : parseOne u s path k op <;> simp [OpResult.op?, OpResult.warn?]

/-- The recognised pairs of one path item. -/
def itemPairs (u : UInfo) (path : Str) (item : PathItem) : List (Str × Str) :=
  item.filterMap (fun e => if recognised u e.1 then some (path, u.upperS e.1) else none)

theorem allPairs_cons (u : UInfo) (path : Str) (item : PathItem) (rest : Paths) :
    allPairs u ((path, item) :: rest) = itemPairs u path item ++ allPairs u rest := rfl

/-- Every recognised pair is accounted for: it is an IR operation or a warning. -/
theorem parseItem_partition (u : UInfo) (s : Naming) (path : Str) (item : PathItem) :
    (parseItem u s path item).1.length + (parseItem u s path item).2.length
      = (itemPairs u path item).length := by
  induction item with
  | nil => rfl
  | cons e rest ih =>
    obtain ⟨k, op⟩ := e
    simp only [parseItem, itemPairs, List.filterMap_cons] at ih ⊢
    cases hr : recognised u k with
    | false =>
      rw [parseOne_of_not_recognised u s path k op hr]
      simpa using ih
    | true =>
      rcases parseOne_recognised_cases u s path k op hr with ⟨r, h1⟩ | h1 <;>
        rw [h1] <;> simp only [if_true, List.length_cons] <;> omega

theorem parseOps_partition (u : UInfo) (s : Naming) (paths : Paths) :
    (parseOps u s paths).1.length + (parseOps u s paths).2.length = (allPairs u paths).length := by
  induction paths with
  | nil => rfl
  | cons p rest ih =>
    obtain ⟨path, item⟩ := p
    have := parseItem_partition u s path item
    simp only [parseOps, allPairs_cons, List.length_append]
    omega

/-- When nothing raises, a path item yields exactly its recognised pairs, in order. -/
theorem parseItem_keeps_all (u : UInfo) (s : Naming) (path : Str) (item : PathItem)
    (h : item.all (fun e => !opRaises u s path e.1 e.2) = true) :
    (parseItem u s path item).1.map IROp.key = itemPairs u path item ∧ (parseItem u s path item).2 = [] := by
  induction item with
  | nil => exact ⟨rfl, rfl⟩
  | cons e rest ih =>
    obtain ⟨k, op⟩ := e
    simp only [List.all_cons, Bool.and_eq_true, Bool.not_eq_true'] at h
    have ih := ih h.2
    have h1 := h.1
    simp only [parseItem, itemPairs, List.filterMap_cons] at ih ⊢
    cases hr : recognised u k with
    | false =>
      rw [parseOne_of_not_recognised u s path k op hr]
      simpa using ih
    | true =>
      rcases parseOne_recognised_cases u s path k op hr with ⟨r, h2⟩ | h2
      · simp [opRaises, h2] at h1
      · rw [h2]
        simp only [if_true, List.map_cons, IROp.key, ih.1, ih.2, and_self]

theorem parseOps_keeps_all (u : UInfo) (s : Naming) (paths : Paths)
    (h : parseSucceeds u s paths = true) :
    (parseOps u s paths).1.map IROp.key = allPairs u paths ∧ (parseOps u s paths).2 = [] := by
  induction paths with
  | nil => exact ⟨rfl, rfl⟩
  | cons p rest ih =>
    obtain ⟨path, item⟩ := p
    simp only [parseSucceeds, List.all_cons, Bool.and_eq_true] at h
    have h1 := parseItem_keeps_all u s path item h.1
    have h2 := ih (by simpa [parseSucceeds] using h.2)
    simp only [parseOps, allPairs_cons, List.map_append, h1.1, h1.2, h2.1, h2.2, List.append_nil, and_self]

def hasBadKey (op : RawOp) : Bool := op.responses.any StatusKey.isBad

/-- The document with every operation that has a non-string status key removed. -/
def eraseBadKeyOps (paths : Paths) : Paths :=
  paths.map (fun p => (p.1, p.2.filter (fun e => !hasBadKey e.2)))

theorem parseItem_erase (u : UInfo) (s : Naming) (path : Str) (item : PathItem) :
    (parseItem u s path (item.filter (fun e => !hasBadKey e.2))).1 = (parseItem u s path item).1 := by
  rw [parseItem_eq, parseItem_eq, List.filterMap_filter]
  apply filterMap_congr_mem
  intro e _
  cases hk : hasBadKey e.2 with
  | false => rfl
  | true =>
    cases hp : parseOne u s path e.1 e.2 with
    | parsed o => exact absurd hp (parseOne_bad_key u s path e.1 e.2 hk o)
    | _ => rfl

theorem parseOps_erase (u : UInfo) (s : Naming) (paths : Paths) :
    (parseOps u s (eraseBadKeyOps paths)).1 = (parseOps u s paths).1 := by
  induction paths with
  | nil => rfl
  | cons p rest ih =>
    obtain ⟨path, item⟩ := p
    simp only [eraseBadKeyOps, List.map_cons, parseOps] at ih ⊢
    rw [parseItem_erase, ih]

/-- EXACTLY the operations that are dropped: a recognised method key whose node makes the parser raise, or has a status key
    that is neither a string nor an integer.  (F44 repaired: the empty operationId no longer is a reason.) -/
theorem opRaises_iff (u : UInfo) (s : Naming) (path key : Str) (op : RawOp) :
    opRaises u s path key op = true ↔
      recognised u key = true ∧ (op.parseRaises = true ∨ hasBadKey op = true) := by
  unfold opRaises
  cases hr : recognised u key with
  | false => simp [parseOne_of_not_recognised u s path key op hr]
  | true =>
    rw [parseOne_of_recognised u s path key op hr]
    cases op.parseRaises <;> cases hb : op.responses.any StatusKey.isBad <;> simp [hasBadKey, hb]

/-- The `ValueError("operation_id_for_promo must be provided")` of the response parser is unreachable from the operations
    parser: no warning carries that reason. -/
theorem parseOne_never_emptyOpId (u : UInfo) (s : Naming) (path key : Str) (op : RawOp) (w : OpWarning)
    (h : parseOne u s path key op = .dropped w) : w.reason ≠ .emptyOpId := by
  cases hr : recognised u key with
  | false => rw [parseOne_of_not_recognised u s path key op hr] at h; cases h
  | true =>
    rw [parseOne_of_recognised u s path key op hr] at h
    split at h
    · cases h; simp
    · split at h
      · cases h; simp
      · cases h

/-- The JSON reading of a status key: JSON object keys are strings. -/
def quoteKey : StatusKey → StatusKey
  | .strKey t => .strKey t
  | .intKey i => .strKey (toString i).toList
  | .badKey r => .strKey r

def quoteOp (op : RawOp) : RawOp := { op with responses := op.responses.map quoteKey }

/-- The document as JSON (or as YAML with every status code quoted). -/
def quoteKeys (paths : Paths) : Paths :=
  paths.map (fun p => (p.1, p.2.map (fun e => (e.1, quoteOp e.2))))

/-- Quoting does not change what the response loop does when no key is a non-string, non-integer one: an integer key takes
    the same path as the string key it is read as (F16 repaired). -/
theorem respError_quote (opId : Str) (ks : List StatusKey) (h : ks.any StatusKey.isBad = false) :
    respError opId (ks.map quoteKey) = respError opId ks := by
  induction ks with
  | nil => rfl
  | cons k rest ih =>
    cases k with
    | badKey r => simp [StatusKey.isBad] at h
    | strKey _ | intKey _ =>
      simp only [List.any_cons, StatusKey.isBad, Bool.false_or] at h
      simp only [List.map_cons, quoteKey, respError, ih h]

theorem parseOne_quote (u : UInfo) (s : Naming) (path key : Str) (op : RawOp) (h : hasBadKey op = false) :
    parseOne u s path key (quoteOp op) = parseOne u s path key op := by
  unfold parseOne quoteOp
  simp only [respError_quote _ _ h]

theorem parseItem_quote (u : UInfo) (s : Naming) (path : Str) (item : PathItem)
    (h : item.all (fun e => !hasBadKey e.2) = true) :
    parseItem u s path (item.map (fun e => (e.1, quoteOp e.2))) = parseItem u s path item := by
  induction item with
  | nil => rfl
  | cons e rest ih =>
    obtain ⟨k, op⟩ := e
    simp only [List.all_cons, Bool.and_eq_true, Bool.not_eq_true'] at h
    simp only [List.map_cons, parseItem, parseOne_quote u s path k op h.1, ih h.2]

/-- The JSON reading and the unquoted-YAML reading of a document give the same operations and the same warnings,
    as long as no status key is a float / bool / null. -/
theorem parseOps_quote (u : UInfo) (s : Naming) (paths : Paths)
    (h : paths.all (fun p => p.2.all (fun e => !hasBadKey e.2)) = true) :
    parseOps u s (quoteKeys paths) = parseOps u s paths := by
  induction paths with
  | nil => rfl
  | cons p rest ih =>
    obtain ⟨path, item⟩ := p
    simp only [List.all_cons, Bool.and_eq_true] at h
    simp only [quoteKeys, List.map_cons, parseOps] at ih ⊢
    rw [parseItem_quote u s path item h.1, ih h.2]

theorem parseItem_quote_sublist (u : UInfo) (s : Naming) (path : Str) (item : PathItem) :
    (parseItem u s path item).1.Sublist (parseItem u s path (item.map (fun e => (e.1, quoteOp e.2)))).1 := by
  induction item with
  | nil => exact List.Sublist.refl _
  | cons e rest ih =>
    obtain ⟨k, op⟩ := e
    simp only [List.map_cons, parseItem]
    cases hk : hasBadKey op with
    | true =>
      -- the unquoted entry is no operation; the quoted one may be
      cases hp : parseOne u s path k op with
      | parsed o => exact absurd hp (parseOne_bad_key u s path k op hk o)
      | skipped | dropped _ =>
        cases parseOne u s path k (quoteOp op) with
        | parsed o' => exact List.Sublist.cons _ ih
        | skipped | dropped _ => exact ih
    | false =>
      rw [parseOne_quote u s path k op hk]
      cases parseOne u s path k op with
      | parsed o => exact List.Sublist.cons_cons _ ih
      | skipped | dropped _ => exact ih

theorem parseOps_quote_sublist (u : UInfo) (s : Naming) (paths : Paths) :
    (parseOps u s paths).1.Sublist (parseOps u s (quoteKeys paths)).1 := by
  induction paths with
  | nil => exact List.Sublist.refl _
  | cons p rest ih =>
    obtain ⟨path, item⟩ := p
    simp only [quoteKeys, List.map_cons, parseOps] at ih ⊢
    exact List.Sublist.append (parseItem_quote_sublist u s path item) ih

theorem parseItem_path_alnum (u : UInfo) (path : Str) (item : PathItem) :
    ∀ o ∈ (parseItem u .path path item).1, o.opId.any isAlnumA = true := by
  intro o ho
  rw [parseItem_eq] at ho
  obtain ⟨e, _, he⟩ := List.mem_filterMap.1 ho
  cases hp : parseOne u .path path e.1 e.2 with
  | parsed o' =>
    rw [hp] at he
    cases he
    obtain ⟨hr, rfl⟩ := parseOne_parsed_fields u .path path e.1 e.2 o hp
    have : chooseOpId .path (u.upperS e.1) path e.2.operationId = deriveOpIdU (u.upperS e.1) path := by
      cases e.2.operationId <;> rfl
    simp only [this]
    exact deriveOpIdU_has_alnum _ _ (recognised_mem u e.1 hr)
  | _ => rw [hp] at he; cases he

theorem parseOps_path_alnum (u : UInfo) (paths : Paths) :
    ∀ o ∈ (parseOps u .path paths).1, o.opId.any isAlnumA = true := by
  induction paths with
  | nil => intro o ho; cases ho
  | cons p rest ih =>
    obtain ⟨path, item⟩ := p
    intro o ho
    simp only [parseOps, List.mem_append] at ho
    rcases ho with h | h
    · exact parseItem_path_alnum u path item o h
    · exact ih o h

theorem dedupOpIds_all_alnum (ids : List Str) (seen : List (Str × Nat))
    (h : ∀ id ∈ ids, id.any isAlnumA = true) : ∀ x ∈ dedupOpIds seen ids, x.any isAlnumA = true := by
  intro x hx
  obtain ⟨hlen, _, _, hsh⟩ := dedupOpIds_spec seen ids
  rw [← List.map_snd_zip (Nat.le_of_eq hlen)] at hx
  obtain ⟨p, hp, rfl⟩ := List.mem_map.1 hx
  have hid := h _ (List.of_mem_zip hp).1
  rcases hsh p hp with e | ⟨n, e⟩
  · rw [e]; exact hid
  · rw [e, sufId, List.any_append, hid, Bool.true_or]

theorem dedupPasses_of_nodup (n : Nat) (ids : List Str) (h : (ids.map sanMethod).Nodup) :
    dedupPasses n ids = ids := by
  induction n with
  | zero => rfl
  | succ n ih => simp only [dedupPasses, (dedupOpIds_of_nodup ids h).1, ih]

/-- One pass or several: the pass is idempotent, so every further `emit` over the same operation objects changes nothing. -/
theorem dedupPasses_succ (n : Nat) (ids : List Str) : dedupPasses (n + 1) ids = dedupOpIds [] ids := by
  rw [dedupPasses, dedupPasses_of_nodup n _ (dedupOpIds_spec [] ids).2.1]

theorem finalMethodNames_eq (direct : Bool) (ops : List IROp) :
    finalMethodNames direct ops = (dedupOpIds [] (ops.map (·.opId))).map sanMethod := by
  unfold finalMethodNames emitPasses
  cases direct <;> simp only [Bool.false_eq_true, if_false, if_true] <;> rw [dedupPasses_succ]

theorem finalMethodNames_length (direct : Bool) (ops : List IROp) :
    (finalMethodNames direct ops).length = ops.length := by
  rw [finalMethodNames_eq, List.length_map, (dedupOpIds_spec [] _).1, List.length_map]

theorem finalMethodNames_of_nodup (direct : Bool) (ops : List IROp)
    (h : (ops.map (fun o => sanMethod o.opId)).Nodup) :
    finalMethodNames direct ops = ops.map (fun o => sanMethod o.opId) := by
  have h' : ((ops.map (·.opId)).map sanMethod).Nodup := by simpa [List.map_map, Function.comp_def] using h
  rw [finalMethodNames_eq, (dedupOpIds_of_nodup _ h').1, List.map_map]
  rfl

/-- The final method names are pairwise different - every list of operations, one emit pass or two. -/
theorem finalMethodNames_nodup (direct : Bool) (ops : List IROp) : (finalMethodNames direct ops).Nodup := by
  rw [finalMethodNames_eq]
  exact (dedupOpIds_spec [] _).2.1

/-- Operation `i` gets the method name of its own id, or of its id with a numeric suffix. -/
theorem finalMethodNames_shape (direct : Bool) (ops : List IROp) :
    ∀ p ∈ ops.zip (finalMethodNames direct ops),
      p.2 = sanMethod p.1.opId ∨ ∃ n, p.2 = sanMethod (sufId p.1.opId n) := by
  intro p hp
  rw [finalMethodNames_eq, List.zip_map_right] at hp
  obtain ⟨⟨o, x⟩, hq, rfl⟩ := List.mem_map.1 hp
  have := (dedupOpIds_spec [] (ops.map (·.opId))).2.2.2 (o.opId, x)
    (by rw [List.zip_map_left]; exact List.mem_map.2 ⟨(o, x), hq, rfl⟩)
  simp only [Prod.map, id] at this ⊢
  rcases this with h | ⟨n, h⟩
  · exact Or.inl (congrArg sanMethod h)
  · exact Or.inr ⟨n, congrArg sanMethod h⟩

theorem finalMethodNames_valid (direct : Bool) (ops : List IROp)
    (h : ∀ o ∈ ops, o.opId.any isAlnumA = true) :
    ∀ n ∈ finalMethodNames direct ops, isPyIdent n = true ∧ isKeyword n = false := by
  intro n hn
  rw [finalMethodNames_eq] at hn
  obtain ⟨x, hx, rfl⟩ := List.mem_map.1 hn
  apply sanMethod_valid
  apply dedupOpIds_all_alnum _ [] _ x hx
  intro id hid
  obtain ⟨o, ho, rfl⟩ := List.mem_map.1 hid
  exact h o ho

/-! `appendAt` is `tagAddMulti` of the Surface model under another name; the grouping loop is a `gfold`, and what is
  needed about it comes from the lemmas about `gfold`. -/

/-- `dict.get(key, [])` on the association list. -/
def findKey {α : Type} (g : List (Str × List α)) (key : Str) : List α :=
  match g with
  | [] => []
  | (k, l) :: rest => if k == key then l else findKey rest key

theorem appendAt_eq {α : Type} (g : List (Str × List α)) (k : Str) (x : α) : appendAt g k x = tagAddMulti g k x := by
  induction g with
  | nil => rfl
  | cons e rest ih =>
    obtain ⟨k', l⟩ := e
    simp only [appendAt, tagAddMulti, ih]

theorem findKey_eq {α : Type} (g : List (Str × List α)) (key : Str) : findKey g key = (tagDictGet g key).getD [] := by
  induction g with
  | nil => rfl
  | cons e rest ih =>
    obtain ⟨k, l⟩ := e
    simp only [findKey, tagDictGet, List.find?_cons, ih]
    split <;> simp [*]

/-- The keys of one operation's tags with repetitions dropped, first occurrence kept (`keys_of_op`). -/
def firstKeys : List Str → List Str → List Str
  | _, [] => []
  | seen, k :: ks => if seen.contains k then firstKeys seen ks else k :: firstKeys (k :: seen) ks

theorem mem_firstKeys (k : Str) (ks seen : List Str) : k ∈ firstKeys seen ks ↔ k ∈ ks ∧ k ∉ seen := by
  fun_induction firstKeys seen ks with
  | case1 => simp
  | case2 seen x xs h ih =>
    have hx : x ∈ seen := List.contains_iff_mem.1 h
    rw [ih, List.mem_cons]
    exact ⟨fun h => ⟨.inr h.1, h.2⟩, fun ⟨h1, h2⟩ => ⟨h1.resolve_left fun e => h2 (e ▸ hx), h2⟩⟩
  | case3 seen x xs h ih =>
    have hx : x ∉ seen := fun hm => h (List.contains_iff_mem.2 hm)
    rw [List.mem_cons, ih, List.mem_cons, List.mem_cons]
    by_cases hk : k = x
    · simp [hk, hx]
    · simp [hk]

theorem firstKeys_nodup (ks seen : List Str) : (firstKeys seen ks).Nodup := by
  fun_induction firstKeys seen ks with
  | case1 => exact List.nodup_nil
  | case2 seen x xs h ih => exact ih
  | case3 seen x xs h ih =>
    exact List.nodup_cons.2 ⟨fun hm => ((mem_firstKeys x xs (x :: seen)).1 hm).2 List.mem_cons_self, ih⟩

/-- The inner loop appends the item under the operation's distinct keys. -/
theorem addOpTags_eq {α : Type} (u : UInfo) (it : α) : ∀ (ts seen : List Str) (g : List (Str × List α)),
    addOpTags u it seen ts g = gfold (fun k => k) (fun _ => it) (firstKeys seen (ts.map (normTagKey u))) g := by
  intro ts
  induction ts with
  | nil => intro _ _; rfl
  | cons t ts ih =>
    intro seen g
    simp only [addOpTags, List.map_cons, firstKeys]
    split
    · exact ih seen g
    · rw [ih, appendAt_eq]; rfl

/-- The normalised keys of an operation's tags (or of `default`), each once, in order of first occurrence. -/
def opKeys (u : UInfo) (o : IROp) : List Str := firstKeys [] ((opTags o).map (normTagKey u))

theorem mem_opKeys (u : UInfo) (o : IROp) (k : Str) : k ∈ opKeys u o ↔ k ∈ (opTags o).map (normTagKey u) := by
  unfold opKeys; rw [mem_firstKeys]; simp

theorem opKeys_nodup (u : UInfo) (o : IROp) : (opKeys u o).Nodup := firstKeys_nodup _ _

/-- The grouping loop is the `setdefault/append` fold over the (key, item) incidences. -/
theorem groupByTag_eq (u : UInfo) (items : List (IROp × Str)) :
    groupByTag u items = gfold (·.1) (·.2) (items.flatMap fun it => (opKeys u it.1).map (·, it)) [] := by
  unfold groupByTag gfold
  rw [List.foldl_flatMap]
  congr
  funext g it
  rw [addOpTags_eq, List.foldl_map]
  rfl

/-- The method names defined by the client of a normalised tag key (`[]` if there is no such client). -/
def clientMethods (u : UInfo) (direct : Bool) (ops : List IROp) (key : Str) : List Str :=
  findKey (clients u direct ops) key

theorem clientMethods_eq (u : UInfo) (direct : Bool) (ops : List IROp) (key : Str) :
    clientMethods u direct ops key =
      (ops.zip (finalMethodNames direct ops)).flatMap
        (fun it => ((opKeys u it.1).filter (fun k => k == key)).map (fun _ => it.2)) := by
  show findKey (mapVals (·.2) (groupByTag u _)) key = _
  rw [groupByTag_eq, gfold_mapVals, findKey_eq]
  show (tagDictGet (gfold _ _ _ []) key).getD [] = _
  rw [getD_dictGet_gfold]
  simp [List.filter_flatMap, List.filter_map, List.map_flatMap, Function.comp_def]

/-- Each normalised tag key names one client. -/
theorem clients_keys_nodup (u : UInfo) (direct : Bool) (ops : List IROp) :
    ((clients u direct ops).map (·.1)).Nodup := by
  unfold clients
  rw [List.map_map, groupByTag_eq]
  exact gfold_keys_nodup _ _ _ [] List.nodup_nil

/-- The client of `key` defines the final method name of an operation exactly ONCE when the operation has a tag that normalises
    to `key` (however many spellings of it), and not at all otherwise - every list of operations (the names are pairwise
    different, `finalMethodNames_nodup`). -/
theorem clientMethods_count_zip (u : UInfo) (direct : Bool) (ops : List IROp) (key : Str)
    (p : IROp × Str) (hp : p ∈ ops.zip (finalMethodNames direct ops)) :
    (clientMethods u direct ops key).count p.2 = if key ∈ (opTags p.1).map (normTagKey u) then 1 else 0 := by
  have hnd : ((ops.zip (finalMethodNames direct ops)).map (·.2)).Nodup := by
    rw [List.map_snd_zip (Nat.le_of_eq (finalMethodNames_length direct ops))]
    exact finalMethodNames_nodup direct ops
  -- only the summand of `p` itself counts: the other items carry other names
  rw [clientMethods_eq, List.count_flatMap, sum_map_single _ _ p (nodup_of_nodup_map _ _ hnd) hp]
  · simp only [Function.comp_def, List.map_const', List.count_replicate_self]
    rw [← List.count_eq_length_filter, (opKeys_nodup u p.1).count]
    simp only [mem_opKeys]
  · intro b hb hne
    have : ¬ b.2 = p.2 := fun e => hne (inj_of_nodup_map (·.2) hnd hb hp e)
    simp [List.map_const', List.count_replicate, this]

/-- With pairwise distinct sanitised ids, the client of `key` defines the method of `o` once when `o` has a tag that
    normalises to `key`. -/
theorem clientMethods_count (u : UInfo) (direct : Bool) (ops : List IROp) (key : Str)
    (hnd : (ops.map (fun o => sanMethod o.opId)).Nodup) (o : IROp) (ho : o ∈ ops) :
    (clientMethods u direct ops key).count (sanMethod o.opId)
      = if key ∈ (opTags o).map (normTagKey u) then 1 else 0 := by
  have hz : (o, sanMethod o.opId) ∈ ops.zip (finalMethodNames direct ops) := by
    have hzip := List.zip_map' (f := fun o : IROp => o) (g := fun o => sanMethod o.opId) (l := ops)
    rw [List.map_id'] at hzip
    rw [finalMethodNames_of_nodup direct ops hnd, hzip]
    exact List.mem_map.2 ⟨o, ho, rfl⟩
  -- the name is made a variable first: unifying `(o, sanMethod o.opId).2` would unfold the sanitiser
  generalize sanMethod o.opId = n at hz ⊢
  exact clientMethods_count_zip u direct ops key (o, n) hz

end Pog.Ops
