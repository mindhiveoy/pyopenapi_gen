import Pog.Model.ConvSer
import Pog.Lemmas.ConvEq
/-
  C16 `serializer_no_null_keys`: `_remove_none_values` leaves no `None`-valued key (`PV.removeNone_noNull`) and every branch of
  `_serialize_with_tracking` ends in it or collects results that have none (`serF_track_noNull`); the heaps of the recorded
  serializer defects.
-/
namespace Pog

/-! `PV` is a nested inductive: its decidable equality, for the concrete witnesses, is written by hand. -/

mutual
def PV.beq : PV → PV → Bool
  | .null, .null => true
  | .bool a, .bool b => a == b
  | .int a, .int b => a == b
  | .str a, .str b => a == b
  | .arr a, .arr b => PV.beqList a b
  | .obj a, .obj b => PV.beqKvs a b
  | .leak a, .leak b => a == b
  | .opaque k a, .opaque l b => k == l && a == b
  | _, _ => false
def PV.beqList : List PV → List PV → Bool
  | [], [] => true
  | x :: xs, y :: ys => PV.beq x y && PV.beqList xs ys
  | _, _ => false
def PV.beqKvs : List (Str × PV) → List (Str × PV) → Bool
  | [], [] => true
  | (k, x) :: xs, (l, y) :: ys => k == l && PV.beq x y && PV.beqKvs xs ys
  | _, _ => false
end

mutual
theorem PV.beq_iff : ∀ a b : PV, PV.beq a b = true ↔ a = b
  | .arr xs, b => by cases b <;> simp [PV.beq, PV.beqList_iff xs]
  | .obj xs, b => by cases b <;> simp [PV.beq, PV.beqKvs_iff xs]
  | .null, b => by cases b <;> simp [PV.beq]
  | .bool _, b => by cases b <;> simp [PV.beq]
  | .int _, b => by cases b <;> simp [PV.beq]
  | .str _, b => by cases b <;> simp [PV.beq]
  | .leak _, b => by cases b <;> simp [PV.beq]
  | .opaque _ _, b => by cases b <;> simp [PV.beq]
theorem PV.beqList_iff : ∀ a b : List PV, PV.beqList a b = true ↔ a = b
  | [], b => by cases b <;> simp [PV.beqList]
  | x :: xs, b => by cases b <;> simp [PV.beqList, PV.beq_iff x, PV.beqList_iff xs]
theorem PV.beqKvs_iff : ∀ a b : List (Str × PV), PV.beqKvs a b = true ↔ a = b
  | [], b => by cases b <;> simp [PV.beqKvs]
  | (k, x) :: xs, b => by
    cases b with
    | nil => simp [PV.beqKvs]
    | cons y ys => obtain ⟨l, y⟩ := y; simp [PV.beqKvs, PV.beq_iff x, PV.beqKvs_iff xs, and_assoc]
end

instance : DecidableEq PV := fun a b => decidable_of_iff _ (PV.beq_iff a b)

mutual
theorem PV.removeNone_noNull : ∀ p : PV, (PV.removeNone p).noNullKeys = true
  | .null => rfl
  | .bool _ => rfl
  | .int _ => rfl
  | .str _ => rfl
  | .leak _ => rfl
  | .opaque _ _ => rfl
  | .arr xs => by simp only [PV.removeNone, PV.noNullKeys]; exact PV.removeNoneList_noNull xs
  | .obj kvs => by simp only [PV.removeNone, PV.noNullKeys]; exact PV.removeNoneKvs_noNull kvs
theorem PV.removeNoneList_noNull : ∀ xs : List PV, PV.noNullKeysList (PV.removeNoneList xs) = true
  | [] => rfl
  | x :: xs => by
    simp only [PV.removeNoneList, PV.noNullKeysList, Bool.and_eq_true]
    exact ⟨PV.removeNone_noNull x, PV.removeNoneList_noNull xs⟩
theorem PV.removeNoneKvs_noNull : ∀ kvs : List (Str × PV), PV.noNullKeysKvs (PV.removeNoneKvs kvs) = true
  | [] => rfl
  | (k, v) :: rest => by
    simp only [PV.removeNoneKvs]
    cases hv : v.isNull with
    | true => simp only [if_true]; exact PV.removeNoneKvs_noNull rest
    | false =>
      simp only [Bool.false_eq_true, if_false, PV.noNullKeysKvs, Bool.and_eq_true, Bool.not_eq_true']
      refine ⟨⟨?_, PV.removeNone_noNull v⟩, PV.removeNoneKvs_noNull rest⟩
      cases v <;> simp_all [PV.removeNone, PV.isNull]
end

theorem mapSt_noNull {α : Type} (f : List Str → α → Except UErr (PV × List Str))
    (hf : ∀ reg x y reg', f reg x = .ok (y, reg') → y.noNullKeys = true) :
    ∀ (xs : List α) (reg : List Str) (ps : List PV) (reg' : List Str),
      mapSt f reg xs = .ok (ps, reg') → PV.noNullKeysList ps = true := by
  intro xs
  induction xs with
  | nil => intro reg ps reg' h; cases h; rfl
  | cons x xs ih =>
    intro reg ps reg' h
    simp only [mapSt] at h
    split at h
    · cases h
    · split at h
      · cases h
      · cases h
        simp only [PV.noNullKeysList, Bool.and_eq_true]
        exact ⟨hf reg x _ _ (by assumption), ih _ _ _ (by assumption)⟩

theorem mapStKvs_noNull {α : Type} (f : List Str → α → Except UErr (PV × List Str))
    (hf : ∀ reg x y reg', f reg x = .ok (y, reg') → y.noNullKeys = true) :
    ∀ (kvs : List (Str × α)) (reg : List Str) (ps : List (Str × PV)) (reg' : List Str),
      mapStKvs f reg kvs = .ok (ps, reg') → PV.noNullKeysKvs ps = true := by
  intro kvs
  induction kvs with
  | nil => intro reg ps reg' h; cases h; rfl
  | cons kv rest ih =>
    intro reg ps reg' h
    simp only [mapStKvs] at h
    split at h
    · cases h
    · rename_i p _ _
      split at h
      · cases h
      · cases h
        have hrest := ih _ _ _ (by assumption)
        cases hp : p.isNull with
        | true => simpa using hrest
        | false =>
          simp only [Bool.false_eq_true, if_false, PV.noNullKeysKvs, Bool.and_eq_true, Bool.not_eq_true']
          exact ⟨⟨hp, hf reg kv.2 p _ (by assumption)⟩, hrest⟩

/-- Every dict in the value `_serialize_with_tracking` returns is free of `None` values. -/
theorem serF_track_noNull (c : Codecs) : ∀ (n : Nat) (heap : Heap) (decls : Decls) (visited : List Nat)
    (reg : List Str) (v : HVal) (out : PV) (reg' : List Str),
    serF c n heap decls visited reg v = .ok (out, reg') → out.noNullKeys = true := by
  intro n
  induction n with
  | zero => intro heap decls visited reg v out reg' h; cases h
  | succ n ih =>
    intro heap decls visited reg v out reg' h
    cases v with
    | none | bool _ | int _ | str _ | bytearray _ => cases h; rfl
    | enum cls m => cases h; cases m <;> rfl
    | ref id =>
      simp only [serF] at h
      -- a guarded object is `None`; a list and a dict collect tracked results; an instance ends in `_remove_none_values`
      repeat' split at h
      all_goals first | cases h | skip
      · rfl
      · exact mapSt_noNull _ (fun r x y r' hxy => ih heap decls _ r x y r' hxy) _ reg _ _ (by assumption)
      · exact PV.removeNone_noNull _
      · exact mapStKvs_noNull _ (fun r x y r' hxy => ih heap decls _ r x y r' hxy) _ reg _ _ (by assumption)
    | _ =>
      -- everything else is cattrs' result after `_remove_none_values`
      simp only [serF] at h
      split at h
      · cases h
      · cases h; exact PV.removeNone_noNull _

/-! ## the graphs that used to exhaust every budget (F26, repaired) -/

/-- `class N: name: str; nxt: Optional[N] = None` — the annotation of `nxt` either resolved to the class
    (`resolved = true`) or left as `Optional["N"]`, a forward reference cattrs does not resolve. -/
def NodeDecl (resolved : Bool) : ClassDecl :=
  { fields := [⟨"name".toList, .leaf .str, .required⟩,
               ⟨"nxt".toList, .optional (if resolved then .dc "N".toList else .fwd "N".toList), .none⟩],
    loadMap := none, dumpMap := none }
def nodeDecls (resolved : Bool) : Decls := [("N".toList, NodeDecl resolved)]

/-- `a.nxt = b`, `b.nxt = a`. -/
def cycle2 : Heap :=
  [(0, .inst "N".toList [("name".toList, .str "a".toList), ("nxt".toList, .ref 1)]),
   (1, .inst "N".toList [("name".toList, .str "b".toList), ("nxt".toList, .ref 0)])]

/-- `d = {}; d["x"] = d` -/
def dictSelf : Heap := [(0, .dict [("x".toList, .ref 0)])]

/-- `class A: other: Any = None`, `a.other = a`. -/
def anyDecls : Decls := [("A".toList, { fields := [⟨"other".toList, .any, .none⟩], loadMap := none, dumpMap := none })]
def anySelf : Heap := [(0, .inst "A".toList [("other".toList, .ref 0)])]

end Pog
