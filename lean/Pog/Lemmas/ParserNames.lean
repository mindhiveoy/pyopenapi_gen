import Pog.Lemmas.Parser
import Pog.Lemmas.Names
/-
  Which names end up in the registry.  A top-level `_parse_schema(n, …)` leaves `n` or
  `sanClass (sanClass n)` registered (`toplevel_registers`).  An alias (`$ref`) really is not
  registered; a top-level array is, but the proof does not cover it (`TopOk`);
  the two `Frame`s `RegMono` (no key is ever removed) and `PhReg` (a name whose tracker state is a
  placeholder is registered) carry that through the loop of `build_schemas`.
-/
namespace Pog.Prs
open Pog Pog.Trk

theorem sanClass_ne_nil (s : Str) : sanClass s ≠ [] := by
  intro h
  have := sanClass_isPyIdent s
  rw [h] at this
  simp [isPyIdent] at this

theorem truthy_sanClass (s : Str) : truthy (some (sanClass s)) = true := by
  cases h : sanClass s with
  | nil => exact absurd h (sanClass_ne_nil s)
  | cons c cs => rfl

def RegMono (s s' : PSt) : Prop := ∀ k, s.regHas k = true → s'.regHas k = true

/-- The one write of `doEnter` to the registry: a stored placeholder, under the entered name. -/
theorem doEnter_reg (s : PSt) (name : Option Str) (allow : Bool) :
    (∃ k n, (Trk.enter s.tr name allow).2.placeholder = some k ∧ name = some n ∧
      (Trk.enter s.tr name allow).2.stored = true ∧
      (s.doEnter name allow).2.2.reg = dSet n s.heap.length s.reg) ∨
    (((Trk.enter s.tr name allow).2.placeholder = none ∨ name = none ∨
        (Trk.enter s.tr name allow).2.stored = false) ∧
      (s.doEnter name allow).2.2.reg = s.reg) := by
  unfold PSt.doEnter
  dsimp only
  cases name with
  | none => split <;> exact .inr ⟨.inr (.inl rfl), rfl⟩
  | some n =>
    cases hp : (Trk.enter s.tr (some n) allow).2.placeholder with
    | none => exact .inr ⟨.inl rfl, rfl⟩
    | some k =>
      dsimp only [PSt.alloc]
      split
      · exact .inl ⟨k, n, rfl, rfl, ‹_›, rfl⟩
      · exact .inr ⟨.inr (.inr (Bool.eq_false_iff.mpr ‹_›)), rfl⟩

theorem regMono_frame : Frame RegMono where
  refl := fun _ _ h => h
  trans := fun h1 h2 k h => h2 k (h1 k h)
  alloc := fun _ _ _ h => h
  modify := fun _ _ _ _ h => h
  regSet := fun s k' i k h => dHas_dSet_mono k k' i s.reg h
  enter := by
    intro s name allow k h
    unfold PSt.regHas
    rcases doEnter_reg s name allow with ⟨_, n, _, _, _, e⟩ | ⟨_, e⟩ <;> rw [e]
    · exact dHas_dSet_mono k n _ s.reg h
    · exact h
  exit := fun _ _ _ h => h
  reset := fun _ _ _ h => h
  misc := fun _ _ _ _ _ h => h

def PhRegI (s : PSt) : Prop :=
  ∀ n v, dGet n s.tr.states = some v → isPh v = true → s.regHas n = true

def PhReg (s s' : PSt) : Prop := PhRegI s → PhRegI s'

/-- What the answer of `enter` tells about the state it was given in, and about what comes with it. -/
theorem enter_answer (t : TrSt) (n : Str) (a : Bool) :
    ((Trk.enter t (some n) a).2.action = .returnExisting → (Trk.enter t (some n) a).2.placeholder = none) ∧
    ((Trk.enter t (some n) a).2.action = .returnPlaceholder → isPh (t.stateOf n) = true) ∧
    ((Trk.enter t (some n) a).2.action = .createPlaceholder →
      (Trk.enter t (some n) a).2.stored = true ∨ n ∈ t.stack) ∧
    ((Trk.enter t (some n) a).2.stored = true → ∃ k, (Trk.enter t (some n) a).2.placeholder = some k) := by
  rw [enter_snd]
  rcases check_cases { t with allowSelf := a, depth := t.depth + 1 } n with
    ⟨_, e⟩ | ⟨h, e⟩ | ⟨_, _, e⟩ | ⟨_, _, h, _, _, _, _, _, _, e⟩ | ⟨_, _, _, e⟩
  all_goals rw [e]
  · exact ⟨fun _ => rfl, nofun, nofun, nofun⟩
  · exact ⟨nofun, fun _ => h, nofun, nofun⟩
  · exact ⟨nofun, nofun, fun _ => .inl rfl, fun _ => ⟨_, rfl⟩⟩
  · exact ⟨nofun, nofun, fun _ => .inr h, fun _ => ⟨_, rfl⟩⟩
  · exact ⟨nofun, nofun, nofun, nofun⟩

/-- A placeholder state after `enter` was there before, or is that of the entered name, stored. -/
theorem enter_states_ph (s : TrSt) (name : Option Str) (allow : Bool) (k : Str) (v : SchemaState)
    (h : dGet k (enter s name allow).1.states = some v) (hv : isPh v = true) :
    dGet k s.states = some v ∨ (name = some k ∧ (enter s name allow).2.stored = true) := by
  cases name with
  | none => exact Or.inl h
  | some n =>
    rw [enter_states] at h
    rw [enter_snd]
    obtain ⟨_, _, _, _, e, rfl | ⟨v', rfl, hst⟩⟩ := check_fst { s with allowSelf := allow, depth := s.depth + 1 } n
      <;> rw [e] at h
    · exact Or.inl h
    · by_cases hk : k = n
      · subst hk
        rw [dGet_dSet_self] at h
        cases h
        exact Or.inr ⟨rfl, hst hv⟩
      · rw [dGet_dSet_ne _ _ _ _ hk] at h
        exact Or.inl h

theorem exit_states_ph (s : TrSt) (name : Option Str) (k : Str) (v : SchemaState)
    (h : dGet k (exit s name).states = some v) (hv : isPh v = true) : dGet k s.states = some v := by
  rcases exit_states s name with e | ⟨_, _, _, e⟩ <;> rw [e] at h
  · exact h
  · exact dGet_of_dGet_dSet h (by rintro rfl; cases hv)

theorem reset_states_ph (s : TrSt) (n k : Str) (v : SchemaState)
    (h : dGet k (reset s n).states = some v) (hv : isPh v = true) : dGet k s.states = some v :=
  dGet_of_dGet_dSet h (by rintro rfl; cases hv)

theorem doEnter_stored_reg (s : PSt) (n : Str) (allow : Bool)
    (h : (Trk.enter s.tr (some n) allow).2.stored = true) :
    (s.doEnter (some n) allow).2.2.regHas n = true := by
  obtain ⟨k, hk⟩ := (enter_answer s.tr n allow).2.2.2 h
  unfold PSt.regHas
  rcases doEnter_reg s (some n) allow with ⟨_, _, _, hn, _, e⟩ | ⟨h' | h' | h', _⟩
  · cases hn
    rw [e]
    exact dHas_dSet_self _ _ _
  · rw [hk] at h'; cases h'
  · cases h'
  · rw [h] at h'; cases h'

theorem phReg_frame : Frame PhReg where
  refl := fun _ h => h
  trans := fun h1 h2 h => h2 (h1 h)
  alloc := fun _ _ h => h
  modify := fun _ _ _ h => h
  regSet := fun s k' i h n v hn hv => dHas_dSet_mono n k' i s.reg (h n v hn hv)
  enter := by
    intro s name allow hI k v hk hv
    rw [(Replay.enter s name allow).2.1] at hk
    rcases enter_states_ph s.tr name allow k v hk hv with h1 | ⟨h1, h2⟩
    · exact regMono_frame.enter s name allow k (hI k v h1 hv)
    · subst h1
      exact doEnter_stored_reg s k allow h2
  exit := by
    intro s name hI k v hk hv
    exact hI k v (exit_states_ph s.tr name k v hk hv) hv
  reset := by
    intro s n hI k v hk hv
    exact hI k v (reset_states_ph s.tr n k v hk hv) hv
  misc := fun _ _ _ _ h => h

/-- Top-level nodes covered by `toplevel_registers`.  An alias is excluded because it is not
    registered under its own name; an array only because `body` parses the items a second time
    between allocation and `finish`, which `body_registers` does not follow.  The `.nullable` arm is
    never reached: `core` strips every wrapper. -/
def TopOk (nd : Node) : Bool :=
  match nd.core with
  | .ref _ => false
  | .arr _ => false
  | .nullable _ => false
  | _ => true

theorem get_alloc (s : PSt) (o : IR) : (s.alloc o).2.get (s.alloc o).1 = o := by
  simp [PSt.alloc, PSt.get]

theorem finishReg_registers (decls : Decls) (n m : Str) (id : Nat) (s : PSt)
    (hd : dHas n decls = true) (hname : (s.get id).name = some m) (hm : truthy (some m) = true) :
    (finish.finishReg decls n id s).2.regHas n = true ∨ (finish.finishReg decls n id s).2.regHas m = true := by
  have key : regKey s (s.get id) n id = n ∨ regKey s (s.get id) n id = m := by
    unfold regKey
    simp only [hname, hm, if_true, Option.getD_some]
    split
    · split
      · exact Or.inl rfl
      · exact Or.inr rfl
    · exact Or.inr rfl
  -- a declared name is never a synthetic primitive, and marking a cycle leaves the registry alone
  have hreg : (finish.finishReg decls n id s).2.reg = dSet (regKey s (s.get id) n id) id s.reg := by
    unfold finish.finishReg
    simp only [hd, Bool.not_true, Bool.and_false, Bool.not_false, if_true]
    split <;> rfl
  unfold PSt.regHas
  rw [hreg]
  rcases key with k | k <;> rw [k]
  · exact .inl (dHas_dSet_self _ _ _)
  · exact .inr (dHas_dSet_self _ _ _)

theorem finish_registers (decls : Decls) (n m : Str) (id : Nat) (s : PSt) (hn : truthy (some n) = true)
    (hd : dHas n decls = true) (hname : (s.get id).name = some m) (hm : truthy (some m) = true) :
    (finish decls (some n) id s).2.regHas n = true ∨ (finish decls (some n) id s).2.regHas m = true := by
  unfold finish
  simp only [hn, Bool.not_true, Bool.false_eq_true, if_false]
  split
  · rename_i ex hex
    split
    · exact Or.inl (by simp [PSt.regHas, dHas, hex])
    · exact finishReg_registers decls n m id s hd hname hm
  · exact finishReg_registers decls n m id s hd hname hm

theorem alloc_finish_registers (decls : Decls) (n : Str) (s : PSt) (o : IR) (hn : truthy (some n) = true)
    (hd : dHas n decls = true) (ho : o.name = some (sanClass n)) :
    (finish decls (some n) (s.alloc (mkIR o)).1 (s.alloc (mkIR o)).2).2.regHas n = true ∨
    (finish decls (some n) (s.alloc (mkIR o)).1 (s.alloc (mkIR o)).2).2.regHas (sanClass (sanClass n)) = true := by
  refine finish_registers decls n (sanClass (sanClass n)) _ _ hn hd ?_ (truthy_sanClass _)
  rw [get_alloc]
  unfold mkIR
  simp [ho, truthy_sanClass]

theorem body_registers (decls : Decls) (P : PFn) (n : Str) (nd : Node) (allow : Bool) (s : PSt)
    (hn : truthy (some n) = true) (hd : dHas n decls = true) (hok : TopOk nd = true) :
    (body decls P (some n) nd allow s).2.regHas n = true ∨
    (body decls P (some n) nd allow s).2.regHas (sanClass (sanClass n)) = true := by
  unfold TopOk at hok
  unfold body
  simp only [hn, if_true, Option.map_some]
  split
  · rename_i h; rw [h] at hok; cases hok
  · exact alloc_finish_registers decls n _ _ hn hd rfl
  · exact alloc_finish_registers decls n _ _ hn hd rfl
  · rename_i h; rw [h] at hok; cases hok
  · exact alloc_finish_registers decls n _ _ hn hd rfl
  · exact alloc_finish_registers decls n _ _ hn hd rfl
  · exact alloc_finish_registers decls n _ _ hn hd rfl
  · rename_i h; rw [h] at hok; cases hok

theorem bodyAndExit_registers (decls : Decls) (P : PFn) (n : Str) (nd : Node) (allow : Bool) (s : PSt)
    (hn : truthy (some n) = true) (hd : dHas n decls = true) (hok : TopOk nd = true) :
    (bodyAndExit decls P (some n) nd allow s).2.regHas n = true ∨
    (bodyAndExit decls P (some n) nd allow s).2.regHas (sanClass (sanClass n)) = true := by
  unfold bodyAndExit
  exact body_registers decls P n nd allow s hn hd hok

theorem parseStep_regHas (decls : Decls) (P : PFn) (name : Option Str) (nd : Node) (allow : Bool) (s : PSt)
    (k : Str) : (parseStep decls P name nd allow s).2.regHas k =
      (parseCore decls P name nd allow
        { s with nest := s.nest + 1, maxNest := max s.maxNest (s.nest + 1) }).2.regHas k := by
  unfold parseStep
  rfl

theorem parseCore_registers (decls : Decls) (P : PFn) (n : Str) (nd : Node) (allow : Bool) (s : PSt)
    (hn : truthy (some n) = true) (hd : dHas n decls = true) (hok : TopOk nd = true)
    (hstack : s.tr.stack = []) (hI : PhRegI s) (hnot : s.regHas n = false) :
    (parseCore decls P (some n) nd allow s).2.regHas n = true ∨
    (parseCore decls P (some n) nd allow s).2.regHas (sanClass (sanClass n)) = true := by
  obtain ⟨_, hph, hcr, _⟩ := enter_answer s.tr n allow
  rcases parseCore_cases decls P (some n) nd allow s with ⟨hact, e⟩ | ⟨hact, _⟩ |
    ⟨_, e, _, hn', h⟩ | ⟨_, _, e, _⟩ | ⟨_, e⟩
  · -- CREATE_PLACEHOLDER: with an empty stack it is stored under `n`
    rw [e]
    exact .inl (doEnter_stored_reg s n allow ((hcr hact).resolve_right (by rw [hstack]; nofun)))
  · -- RETURN_PLACEHOLDER: the name would be registered already
    have hv := hph hact
    unfold TrSt.stateOf at hv
    cases hg : dGet n s.tr.states with
    | none => rw [hg] at hv; cases hv
    | some v =>
      rw [hg] at hv
      rw [hI n v hg hv] at hnot
      cases hnot
  · cases hn'
    rw [e]
    exact .inl h
  · rw [e]
    exact bodyAndExit_registers decls _ n nd allow _ hn hd hok
  · rw [e]
    exact bodyAndExit_registers decls _ n nd allow _ hn hd hok

/-- A top-level `_parse_schema(n, node, allow_self_reference=True)` on a node that satisfies `TopOk`,
    started with an empty tracker stack, leaves `n` or the twice-sanitized class name of `n` in
    the registry. -/
theorem toplevel_registers (decls : Decls) (fuel : Nat) (n : Str) (nd : Node) (allow : Bool) (s : PSt)
    (hn : truthy (some n) = true) (hd : dHas n decls = true) (hok : TopOk nd = true)
    (hstack : s.tr.stack = []) (hI : PhRegI s) (hnot : s.regHas n = false) :
    (parse decls (fuel + 1) (some n) nd allow s).2.regHas n = true ∨
    (parse decls (fuel + 1) (some n) nd allow s).2.regHas (sanClass (sanClass n)) = true := by
  rw [show parse decls (fuel + 1) = parseStep decls (parse decls fuel) from rfl, parseStep_regHas,
    parseStep_regHas]
  exact parseCore_registers decls _ n nd allow _ hn hd hok hstack hI hnot

/-- a declaration covered by `all_names_present_partial` -/
def GoodDecl (d : Str × Node) : Prop :=
  truthy (some d.1) = true ∧ TopOk d.2 = true ∧ sanClass (sanClass d.1) = sanClass d.1

instance (d : Str × Node) : Decidable (GoodDecl d) := by unfold GoodDecl; infer_instance

theorem parse_stack_nil (decls : Decls) (fuel : Nat) (name : Option Str) (node : Node) (allow : Bool) (s : PSt)
    (h : s.tr.stack = []) : (parse decls fuel name node allow s).2.tr.stack = [] := by
  obtain ⟨w, _, hs, hr, _⟩ := parse_ext decls fuel name node allow s
  rw [hr]
  have := shaped_stack_sublist hs s.tr
  rw [h] at this
  exact List.eq_nil_of_sublist_nil this

theorem buildLoop_registers (decls : Decls) (fuel : Nat) (ds : List (Str × Node)) :
    ∀ s : PSt, s.tr.stack = [] → PhRegI s → (∀ d ∈ ds, d ∈ decls ∧ GoodDecl d) →
      ∀ d ∈ ds, (buildLoop decls (fuel + 1) ds s).regHas d.1 = true ∨
                (buildLoop decls (fuel + 1) ds s).regHas (sanClass d.1) = true := by
  induction ds with
  | nil => intro s _ _ _ d hd; cases hd
  | cons d0 rest ih =>
    intro s hs hI hgood d hd
    obtain ⟨n, nd⟩ := d0
    obtain ⟨hmem, hn, hok, hidem⟩ := hgood (n, nd) (List.mem_cons_self ..)
    have hrest : ∀ d ∈ rest, d ∈ decls ∧ GoodDecl d := fun d hd => hgood d (List.mem_cons_of_mem _ hd)
    -- the loop goes on from a state at rest in which the head is registered
    have step : ∃ s1, buildLoop decls (fuel + 1) ((n, nd) :: rest) s = buildLoop decls (fuel + 1) rest s1 ∧
        s1.tr.stack = [] ∧ PhRegI s1 ∧ (s1.regHas n = true ∨ s1.regHas (sanClass n) = true) := by
      simp only [buildLoop]
      split
      · rename_i hcond
        simp only [Bool.and_eq_true, Bool.not_eq_eq_eq_not, Bool.not_true] at hcond
        have := toplevel_registers decls fuel n nd true s hn (dHas_of_mem decls (n, nd) hmem) hok hs hI hcond.1
        rw [hidem] at this
        exact ⟨_, rfl, parse_stack_nil decls _ _ nd true s hs, parse_frame phReg_frame decls _ _ nd true s hI, this⟩
      · rename_i hcond
        refine ⟨s, rfl, hs, hI, ?_⟩
        cases h : s.regHas n with
        | true => exact .inl rfl
        | false => exact .inr (by simpa [h] using hcond)
    obtain ⟨s1, e, hs1, hI1, hreg⟩ := step
    rw [e]
    rcases List.mem_cons.mp hd with rfl | hd
    · -- and stays so through the rest of the loop
      have hmono := buildLoop_frame regMono_frame decls (fuel + 1) rest s1
      exact hreg.imp (hmono _) (hmono _)
    · exact ih s1 hs1 hI1 hrest d hd

theorem missing_eq_nil (decls : Decls) (s : PSt)
    (h : ∀ d ∈ decls, s.regHas d.1 = true ∨ s.regHas (sanClass d.1) = true) : missing decls s = [] := by
  unfold missing
  rw [List.filter_eq_nil_iff]
  intro n hn
  obtain ⟨d, hd, rfl⟩ := List.mem_map.mp hn
  rcases h d hd with h | h <;> simp [h]

theorem buildSchemas_missing_nil (maxDepth fuel : Nat) (decls : Decls) (hgood : ∀ d ∈ decls, GoodDecl d) :
    missing decls (buildSchemas maxDepth (fuel + 1) decls) = [] :=
  missing_eq_nil decls _ (buildLoop_registers decls fuel decls { tr := { maxDepth := maxDepth } } rfl
    (fun n v hv _ => by simp [dGet] at hv) (fun d hd => ⟨hd, hgood d hd⟩))

end Pog.Prs
