import Pog.Model.Imports
/-
  Lemmas about dotted names, CPython's relative-name resolution, `make_relative_import`,
  `calculate_relative_path_for_internal_module`, and the module text `RenderContext.add_import` hands on (`ModuleFrom`,
  `topLevel_fixModule`: what C12 uses).
-/
namespace Pog.Imp
open Pog

/-- a well-formed component: non-empty, no dot -/
def CompOK (p : Str) : Prop := p ≠ [] ∧ '.' ∉ p

instance (p : Str) : Decidable (CompOK p) := by unfold CompOK; infer_instance

/-! ## `split(".")` / `".".join` -/

theorem splitDot_ne_nil (s : Str) : splitDot s ≠ [] := by
  induction s with
  | nil => simp [splitDot]
  | cons c cs ih =>
    unfold splitDot
    split
    · simp
    · split <;> simp

theorem splitDot_nodot (p : Str) (h : '.' ∉ p) : splitDot p = [p] := by
  induction p with
  | nil => simp [splitDot]
  | cons c cs ih =>
    have hc : c ≠ '.' := by intro e; exact h (by simp [e])
    have hcs : '.' ∉ cs := by intro e; exact h (by simp [e])
    unfold splitDot
    rw [if_neg hc, ih hcs]

theorem splitDot_cons_dot (cs : Str) : splitDot ('.' :: cs) = [] :: splitDot cs := by
  rw [splitDot]; simp

theorem splitDot_cons_ne (c : Char) (cs : Str) (hc : c ≠ '.') :
    splitDot (c :: cs) = ((splitDot cs).headD [] |>.cons c) :: (splitDot cs).tail := by
  rw [splitDot, if_neg hc]
  cases hs : splitDot cs with
  | nil => exact absurd hs (splitDot_ne_nil cs)
  | cons h t => simp

theorem splitDot_append_dot (a b : Str) : splitDot (a ++ '.' :: b) = splitDot a ++ splitDot b := by
  induction a with
  | nil => simp [splitDot_cons_dot, splitDot]
  | cons c cs ih =>
    by_cases hc : c = '.'
    · subst hc
      rw [List.cons_append, splitDot_cons_dot, splitDot_cons_dot, ih]; rfl
    · rw [List.cons_append, splitDot_cons_ne c _ hc, splitDot_cons_ne c _ hc, ih]
      cases hs : splitDot cs with
      | nil => exact absurd hs (splitDot_ne_nil cs)
      | cons h t => simp

theorem joinDots_cons_cons (p q : Str) (r : List Str) :
    joinDots (p :: q :: r) = p ++ '.' :: joinDots (q :: r) := by
  simp [joinDots, joinWith]

theorem joinDots_singleton (p : Str) : joinDots [p] = p := by simp [joinDots, joinWith]
theorem joinDots_nil : joinDots [] = [] := by simp [joinDots, joinWith]

theorem splitDot_joinDots (ps : List Str) (hne : ps ≠ []) (h : ∀ p ∈ ps, '.' ∉ p) :
    splitDot (joinDots ps) = ps := by
  induction ps with
  | nil => exact absurd rfl hne
  | cons p rest ih =>
    cases rest with
    | nil => rw [joinDots_singleton]; exact splitDot_nodot p (h p (by simp))
    | cons q r =>
      rw [joinDots_cons_cons, splitDot_append_dot, splitDot_nodot p (h p (by simp)),
        ih (by simp) (fun x hx => h x (by simp [hx]))]
      rfl

theorem joinDots_append (a b : List Str) (ha : a ≠ []) (hb : b ≠ []) :
    joinDots (a ++ b) = joinDots a ++ '.' :: joinDots b := by
  induction a with
  | nil => exact absurd rfl ha
  | cons p rest ih =>
    cases rest with
    | nil =>
      cases b with
      | nil => exact absurd rfl hb
      | cons q r => simp [joinDots_cons_cons, joinDots_singleton]
    | cons q r =>
      rw [List.cons_append, List.cons_append, joinDots_cons_cons, joinDots_cons_cons, ← List.cons_append,
        ih (by simp)]
      simp

theorem joinDots_head_ne_dot (ps : List Str) (h : ∀ p ∈ ps, CompOK p) :
    ∀ c rest, joinDots ps = c :: rest → c ≠ '.' := by
  intro c rest he hc
  cases ps with
  | nil => simp [joinDots_nil] at he
  | cons p r =>
    obtain ⟨hne, hnd⟩ := h p (by simp)
    cases p with
    | nil => exact hne rfl
    | cons x xs =>
      have : c = x := by
        cases r with
        | nil => rw [joinDots_singleton] at he; simp at he; exact he.1.symm
        | cons q r' => rw [joinDots_cons_cons] at he; simp at he; exact he.1.symm
      subst this
      exact hnd (by simp [hc])

theorem countDots_replicate (n : Nat) (s : Str) (hs : ∀ c rest, s = c :: rest → c ≠ '.') :
    countDots (List.replicate n '.' ++ s) = (n, s) := by
  induction n with
  | zero =>
    cases s with
    | nil => simp [countDots]
    | cons c rest => simp [countDots, hs c rest rfl]
  | succ k ih =>
    rw [List.replicate_succ, List.cons_append]
    simp only [countDots, if_true, ih]

/-- `n + 1` dots followed by the joined well-formed components `parts` resolve, inside package `pkg`,
    to `pkg` minus its last `n` components plus `parts`. -/
theorem pyResolveRel_render (pkg parts : List Str) (n : Nat) (hn : n + 1 ≤ pkg.length)
    (hp : ∀ p ∈ parts, CompOK p) :
    pyResolveRel pkg (List.replicate (n + 1) '.' ++ joinDots parts)
      = some (pkg.take (pkg.length - n) ++ parts) := by
  unfold pyResolveRel
  rw [countDots_replicate (n + 1) _ (joinDots_head_ne_dot parts hp)]
  have hne : pkg ≠ [] := by intro e; simp [e] at hn
  simp only [hne, if_false]
  rw [if_neg (by omega)]
  cases parts with
  | nil => simp [joinDots_nil]
  | cons p r =>
    have hj : joinDots (p :: r) ≠ [] := by
      obtain ⟨hpne, _⟩ := hp p (by simp)
      cases r with
      | nil => rw [joinDots_singleton]; exact hpne
      | cons q r' => rw [joinDots_cons_cons]; cases p <;> simp_all
    rw [if_neg hj, splitDot_joinDots (p :: r) (by simp) (fun x hx => (hp x hx).2)]

theorem commonLen_le (a b : List Str) : commonLen a b ≤ a.length ∧ commonLen a b ≤ b.length := by
  induction a generalizing b with
  | nil => simp [commonLen]
  | cons x xs ih =>
    cases b with
    | nil => simp [commonLen]
    | cons y ys =>
      unfold commonLen
      split
      · have := ih ys; simp; omega
      · simp

theorem commonLen_le_left (a b : List Str) : commonLen a b ≤ a.length := (commonLen_le a b).1

theorem commonLen_le_right (a b : List Str) : commonLen a b ≤ b.length := (commonLen_le a b).2

theorem take_commonLen (a b : List Str) : a.take (commonLen a b) = b.take (commonLen a b) := by
  induction a generalizing b with
  | nil => simp [commonLen]
  | cons x xs ih =>
    cases b with
    | nil => simp [commonLen]
    | cons y ys =>
      unfold commonLen
      split
      · rename_i h; subst h; simp [ih ys]
      · simp

theorem commonLen_append_left (p a b : List Str) :
    commonLen (p ++ a) (p ++ b) = p.length + commonLen a b := by
  induction p with
  | nil => simp
  | cons x xs ih => simp only [List.cons_append, commonLen, if_true, ih, List.length_cons]; omega

theorem commonLen_prefix (a b : List Str) : commonLen a (a ++ b) = a.length := by
  have h := commonLen_append_left a [] b
  rw [List.append_nil] at h
  exact h

theorem commonLen_le_of_not_mem (a b1 b2 : List Str) (y : Str) (hy : y ∉ a) :
    commonLen a (b1 ++ y :: b2) ≤ b1.length := by
  induction a generalizing b1 with
  | nil => simp [commonLen]
  | cons x xs ih =>
    cases b1 with
    | nil =>
      have : x ≠ y := by intro e; exact hy (by simp [e])
      simp [commonLen, this]
    | cons z zs =>
      rw [List.cons_append]
      unfold commonLen
      split
      · have := ih zs (by intro e; exact hy (by simp [e])); simp; omega
      · simp

theorem commonLen_eq_of_take (a b b' : List Str) (k : Nat) (h : commonLen a b ≤ k) (hk : b.take (k+1) = b'.take (k+1)) :
    commonLen a b' = commonLen a b := by
  induction a generalizing b b' k with
  | nil => simp [commonLen]
  | cons x xs ih =>
    cases b with
    | nil =>
      cases b' with
      | nil => rfl
      | cons y' ys' => simp at hk
    | cons y ys =>
      cases b' with
      | nil => simp at hk
      | cons y' ys' =>
        simp only [List.take_succ_cons, List.cons.injEq] at hk
        obtain ⟨h1, h2⟩ := hk
        subst h1
        unfold commonLen at h ⊢
        split
        · rename_i hxy
          rw [if_pos hxy] at h
          cases k with
          | zero => omega
          | succ k' =>
            rw [ih ys ys' k' (by omega) h2]
        · rfl

/-! ## `make_relative_import` -/

/-- a well-formed dotted path: at least one component, every component non-empty and dot-free -/
def PathOK (ps : List Str) : Prop := ps ≠ [] ∧ ∀ p ∈ ps, CompOK p

instance (ps : List Str) : Decidable (PathOK ps) := by unfold PathOK; infer_instance

theorem PathOK.split {ps : List Str} (h : PathOK ps) : splitDot (joinDots ps) = ps :=
  splitDot_joinDots ps h.1 (fun p hp => (h.2 p hp).2)

/-- `target.startswith(current + ".")` on well-formed paths: the target lies strictly below the current module. -/
theorem startsWith_joinDots_iff (cp tp : List Str) (hc : PathOK cp) (ht : PathOK tp) :
    startsWith (joinDots tp) (joinDots cp ++ ['.']) = true ↔ ∃ r, r ≠ [] ∧ tp = cp ++ r := by
  unfold startsWith
  rw [List.isPrefixOf_iff_prefix]
  constructor
  · rintro ⟨rest, hrest⟩
    have h1 : splitDot (joinDots tp) = splitDot (joinDots cp ++ '.' :: rest) := by
      rw [← hrest]; simp
    rw [ht.split, splitDot_append_dot, hc.split] at h1
    exact ⟨splitDot rest, splitDot_ne_nil rest, h1⟩
  · rintro ⟨r, hr, rfl⟩
    rw [joinDots_append cp r hc.1 hr]
    exact ⟨joinDots r, by simp⟩

theorem relImport_not_direct (cp tp : List Str) (hc : PathOK cp) (ht : PathOK tp)
    (hnd : ¬ ∃ r, r ≠ [] ∧ tp = cp ++ r) :
    relImport (joinDots cp) (joinDots tp) =
      List.replicate (cp.dropLast.length - commonLen cp.dropLast tp + 1) '.'
        ++ joinDots (tp.drop (commonLen cp.dropLast tp)) := by
  unfold relImport
  simp only [hc.split, ht.split]
  have hd : startsWith (joinDots tp) (joinDots cp ++ ['.']) = false :=
    Bool.eq_false_iff.mpr fun h => hnd ((startsWith_joinDots_iff cp tp hc ht).mp h)
  split
  · rename_i h0
    rw [h0]
    simp [hd, List.replicate]
  · rfl

/-- The importing file is a REGULAR MODULE (its `__package__` is its directory): the relative name
    resolves to the target whenever the directory is non-empty, shares its first component with the target,
    and the target is not a strict descendant of the current module. -/
theorem relImport_resolves_parts (cp tp : List Str) (hc : PathOK cp) (ht : PathOK tp)
    (htop : 1 ≤ commonLen cp.dropLast tp) (hnd : ¬ ∃ r, r ≠ [] ∧ tp = cp ++ r) :
    pyResolveRel cp.dropLast (relImport (joinDots cp) (joinDots tp)) = some tp := by
  rw [relImport_not_direct cp tp hc ht hnd]
  have hL := commonLen_le_left cp.dropLast tp
  have hdrop : ∀ p ∈ tp.drop (commonLen cp.dropLast tp), CompOK p :=
    fun p hp => ht.2 p (List.mem_of_mem_drop hp)
  rw [pyResolveRel_render cp.dropLast _ _ (by omega) hdrop]
  have h1 : cp.dropLast.length - (cp.dropLast.length - commonLen cp.dropLast tp) = commonLen cp.dropLast tp := by
    omega
  rw [h1, take_commonLen, List.take_append_drop]

/-! ## `calculate_relative_path_for_internal_module` -/

theorem CompOK.ne_dotdot {p : Str} (h : CompOK p) : p ≠ dotdot := by
  intro e; exact h.2 (by rw [e]; decide)
theorem CompOK.ne_dot1 {p : Str} (h : CompOK p) : p ≠ dot1 := by
  intro e; exact h.2 (by rw [e]; decide)

theorem fold_dotdots (first : Str) (k n : Nat) (ps : List Str) :
    (List.replicate n dotdot).foldl (relLoopStep first) ⟨k, ps, false⟩ = ⟨k + n, ps, false⟩ := by
  induction n generalizing k with
  | zero => rfl
  | succ m ih =>
    rw [List.replicate_succ, List.foldl_cons]
    have : relLoopStep first ⟨k, ps, false⟩ dotdot = ⟨k + 1, ps, false⟩ := by simp [relLoopStep]
    rw [this, ih]; congr 1; omega

theorem fold_real (first : Str) (k : Nat) (ps qs : List Str) (f : Bool) (hq : ∀ q ∈ qs, CompOK q) :
    qs.foldl (relLoopStep first) ⟨k, ps, f⟩ = ⟨k, ps ++ qs, f || !qs.isEmpty⟩ := by
  induction qs generalizing ps f with
  | nil => simp
  | cons q rest ih =>
    have hq1 := hq q (by simp)
    have : relLoopStep first ⟨k, ps, f⟩ q = ⟨k, ps ++ [q], true⟩ := by
      simp [relLoopStep, hq1.ne_dotdot, hq1.ne_dot1]
    rw [List.foldl_cons, this, ih _ _ (fun x hx => hq x (by simp [hx]))]
    simp

/-- the shape of a normalised `relpath` result and what the second half of the function makes of it -/
theorem relToDotted_std (n : Nat) (qs : List Str) (hq : ∀ q ∈ qs, CompOK q) :
    relToDotted (if n = 0 ∧ qs = [] then [dot1] else List.replicate n dotdot ++ qs)
      = List.replicate (n + 1) '.' ++ joinDots qs := by
  by_cases h0 : n = 0 ∧ qs = []
  · obtain ⟨rfl, rfl⟩ := h0
    simp [relToDotted, joinDots_nil]
  · rw [if_neg h0]
    unfold relToDotted
    rw [List.foldl_append, fold_dotdots, fold_real _ _ _ _ _ hq]
    have hd : dot1 ∉ qs := fun hm => (hq _ hm).ne_dot1 rfl
    have hne1 : List.replicate n dotdot ++ qs ≠ [dot1] := by
      intro e
      have hm : dot1 ∈ List.replicate n dotdot ++ qs := e ▸ List.mem_singleton.mpr rfl
      rcases List.mem_append.mp hm with h | h
      · exact absurd (List.eq_of_mem_replicate h) (by decide)
      · exact hd h
    simp only [hne1, if_false, Nat.zero_add, List.nil_append]
    have hc : (n = 0 && (decide (qs = []) || decide (qs = [dot1]))) = false := by
      by_cases hn : n = 0
      · have hqs : qs ≠ [] := fun e => h0 ⟨hn, e⟩
        have hqd : qs ≠ [dot1] := fun e => hd (e ▸ List.mem_singleton.mpr rfl)
        simp [hqs, hqd]
      · simp [hn]
    rw [hc]
    simp only [Bool.false_eq_true, if_false]
    rw [List.filter_eq_self.mpr fun a ha => by simp [(hq a ha).1]]

theorem endsWith_append (y suf : Str) : endsWith (y ++ suf) suf = true := by
  unfold endsWith
  rw [List.reverse_append, List.isPrefixOf_iff_prefix]
  exact List.prefix_append _ _

theorem stripPyLast_snoc (xs : List Str) (y : Str) : stripPyLast (xs ++ [y ++ pySuffix]) = xs ++ [y] := by
  induction xs with
  | nil =>
    simp only [List.nil_append, stripPyLast, endsWith_append, if_true]
    simp [pySuffix]
  | cons x rest ih =>
    cases rest with
    | nil =>
      simp only [List.cons_append, List.nil_append, stripPyLast] at ih ⊢
      rw [ih]
    | cons z zs =>
      simp only [List.cons_append, stripPyLast] at ih ⊢
      rw [ih]

theorem targetAbs_file (root init : List Str) (y : Str) :
    targetAbs root (init ++ [y]) false = root ++ init ++ [y ++ pySuffix] := by
  simp [targetAbs]

theorem relpathC_eq (P C T' : List Str) :
    relpathC (P ++ C) (P ++ T') =
      (if C.length - commonLen C T' = 0 ∧ T'.drop (commonLen C T') = [] then [dot1]
       else List.replicate (C.length - commonLen C T') dotdot ++ T'.drop (commonLen C T')) := by
  unfold relpathC
  simp only [commonLen_append_left, List.drop_length_add_append, List.length_append]
  have h : P.length + C.length - (P.length + commonLen C T') = C.length - commonLen C T' := by omega
  rw [h]
  by_cases h0 : C.length - commonLen C T' = 0 ∧ T'.drop (commonLen C T') = []
  · rw [if_pos h0, h0.1, h0.2]; simp
  · rw [if_neg h0, if_neg]
    intro e
    rw [List.append_eq_nil_iff, List.replicate_eq_nil_iff] at e
    exact h0 e

/-- The `relpath` components of `calculate_relative_path_for_internal_module` when the current file
    `P/rootc/sub/fname` lies inside the package `P/rootc` and the target is `rootc.tparts`. -/
theorem relComponents_std (P rootc sub tparts : List Str) (fname : Str) (isDir : Bool)
    (ht : PathOK tparts) (hC : ∀ c ∈ rootc ++ sub, CompOK c) :
    ∃ l, rootc.length ≤ l ∧ l ≤ (rootc ++ sub).length ∧
      (rootc ++ sub).take l = (rootc ++ tparts).take l ∧
      relComponents (P ++ rootc ++ sub ++ [fname]) (P ++ rootc) tparts isDir =
        (if (rootc ++ sub).length - l = 0 ∧ (rootc ++ tparts).drop l = [] then [dot1]
         else List.replicate ((rootc ++ sub).length - l) dotdot ++ (rootc ++ tparts).drop l) := by
  have hcur : (P ++ rootc ++ sub ++ [fname]).dropLast = P ++ (rootc ++ sub) := by
    rw [List.dropLast_concat, List.append_assoc]
  cases isDir with
  | true =>
    refine ⟨commonLen (rootc ++ sub) (rootc ++ tparts), ?_, commonLen_le_left _ _, take_commonLen _ _, ?_⟩
    · rw [commonLen_append_left]; omega
    · unfold relComponents targetAbs
      simp only [if_true, Bool.not_true, Bool.false_eq_true, if_false, hcur]
      rw [List.append_assoc P rootc tparts, relpathC_eq]
  | false =>
    obtain ⟨init, y, rfl⟩ : ∃ init y, tparts = init ++ [y] := ⟨_, _, (List.dropLast_concat_getLast ht.1).symm⟩
    -- the target's last component `y.py` holds a dot, so it is no component of the current directory: the common
    -- prefix ends before it, and up to there target file and target module agree
    have hnm : y ++ pySuffix ∉ rootc ++ sub := fun hm => (hC _ hm).2 (by simp [pySuffix])
    have hle := commonLen_le_of_not_mem (rootc ++ sub) (rootc ++ init) [] _ hnm
    refine ⟨commonLen (rootc ++ sub) (rootc ++ init ++ [y ++ pySuffix]), ?_, commonLen_le_left _ _, ?_, ?_⟩
    · rw [List.append_assoc rootc, commonLen_append_left]; omega
    · rw [take_commonLen, ← List.append_assoc, List.take_append_of_le_length hle, List.take_append_of_le_length hle]
    · unfold relComponents
      simp only [Bool.not_false, if_true, hcur, targetAbs_file]
      rw [List.append_assoc P, List.append_assoc P, relpathC_eq, ← List.append_assoc rootc,
        List.drop_append_of_le_length hle, List.drop_append_of_le_length hle,
        if_neg (by simp), if_neg (by simp), ← List.append_assoc, stripPyLast_snoc, List.append_assoc]

theorem relToDotted_head (rel : List Str) : ∃ rest, relToDotted rel = '.' :: rest := by
  unfold relToDotted
  split
  · exact ⟨_, rfl⟩
  · dsimp only
    split <;> exact ⟨_, rfl⟩

/-! ## `RenderContext.add_import` -/

/-- the module text of an import request, if it has one, is `lm` or a relative name -/
def ModuleFrom (lm : Str) (o : ImpOut) : Prop := ∀ m, o.module? = some m → m = lm ∨ ∃ rest, m = '.' :: rest

theorem ModuleFrom.skip (lm : Str) : ModuleFrom lm .skip := nofun

theorem ModuleFrom.ite {lm : Str} {c : Prop} [Decidable c] {a b : ImpOut} (ha : c → ModuleFrom lm a)
    (hb : ModuleFrom lm b) : ModuleFrom lm (if c then a else b) := by
  split
  · exact ha ‹c›
  · exact hb

theorem ModuleFrom.collAdd (m n : Str) : ModuleFrom m (collAdd m n) := by
  unfold Pog.collAdd
  split <;> exact fun _ h => Or.inl (Option.some.inj h).symm

theorem ModuleFrom.absOut (m : Str) (name : Option Str) : ModuleFrom m (absOut m name) := by
  unfold Pog.absOut
  split
  · exact .collAdd _ _
  · exact fun _ h => Or.inl (Option.some.inj h).symm

theorem calcRel_head (curFile root tparts : List Str) (isDir : Bool) (r : Str)
    (h : calcRel curFile root tparts isDir = some r) : ∃ rest, r = '.' :: rest := by
  unfold calcRel at h
  split at h
  · cases h
  · cases h; exact relToDotted_head _

theorem ModuleFrom.internalOut (c : ImpCtx) (lm pkg : Str) (name : Option Str) :
    ModuleFrom lm (internalOut c lm pkg name) := by
  unfold Pog.internalOut
  refine .ite (fun _ => .skip _) ?_
  split
  · rename_i d ds hrel
    split
    · exact .skip _
    · intro m hm
      cases hm
      unfold internalRel at hrel
      split at hrel
      · exact Or.inr (calcRel_head _ _ _ _ _ hrel)
      · cases hrel
  · exact .absOut _ _

/-- The module text that `add_import` hands to the collector is the requested one (after the
    "incomplete path" prefix fix) or a relative name: the six steps end in `collAdd "typing"` (only when the module is
    `typing`), `absOut` of the module, or `internalOut`. -/
theorem ModuleFrom.classifyImport (c : ImpCtx) (lm : Str) (name : Option Str) (isTyping : Bool) :
    ModuleFrom (fixModule c lm) (classifyImport c lm name isTyping) := by
  unfold Pog.classifyImport
  refine .ite (fun _ => .skip _) (.ite (fun h => ?_) (.ite (fun _ => .absOut _ _) (.ite (fun _ => .absOut _ _)
    (.ite (fun _ => .absOut _ _) ?_))))
  · simp only [Bool.and_eq_true, decide_eq_true_eq] at h
    rw [h.1.2]
    exact .collAdd _ _
  · split
    · exact .ite (fun _ => .internalOut _ _ _ _) (.absOut _ _)
    · exact .absOut _ _

theorem splitDot_head_nodot (s : Str) : '.' ∉ (splitDot s).headD [] := by
  induction s with
  | nil => simp [splitDot]
  | cons c cs ih =>
    by_cases hc : c = '.'
    · subst hc; rw [splitDot_cons_dot]; simp
    · rw [splitDot_cons_ne c cs hc]
      simp only [List.headD_cons, List.mem_cons, not_or]
      exact ⟨fun e => hc e.symm, ih⟩

theorem topLevel_prefix (a lm : Str) (ha : '.' ∉ a) : topLevel (a ++ '.' :: lm) = a := by
  unfold topLevel
  rw [splitDot_append_dot, splitDot_nodot a ha]; rfl

theorem topLevel_fixModule (c : ImpCtx) (lm : Str) :
    topLevel (fixModule c lm) = topLevel lm ∨
      ∃ o, c.outputPkg = some o ∧ topLevel (fixModule c lm) = topLevel o := by
  unfold fixModule
  split
  · rename_i o os ho
    split
    · simp only []
      split
      · right
        refine ⟨o :: os, ho, ?_⟩
        rw [List.append_assoc, List.singleton_append]
        exact topLevel_prefix _ _ (splitDot_head_nodot _)
      · left; rfl
    · left; rfl
  · left; rfl

theorem topLevel_dot (rest : Str) : topLevel ('.' :: rest) = [] := by
  unfold topLevel; rw [splitDot_cons_dot]; rfl

end Pog.Imp
