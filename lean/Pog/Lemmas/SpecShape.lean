import Pog.Lemmas.ParserSpec
/-
  The denotation `shape` of a declared node is stable in the fuel and in the visited set (`ShapeIs`): objects, leaves,
  `$ref` members and `allOf`.
-/
namespace Pog.Prs
open Pog Pog.Trk

variable {decls : Decls} {rank : Str → Nat}

/-- unvisited part of the fuel measure of `shape` -/
def muVis (decls : Decls) (vis : List Str) : Nat :=
  ((decls.filter (fun d => !vis.contains d.1)).map (fun d => d.2.size + 1)).sum

/-- `shape` of the declared node `nd` of `m` is `(F, R)`, whatever the (sufficient) fuel and the (harmless)
    visited set -/
def ShapeIs (decls : Decls) (rank : Str → Nat) (m : Str) (nd : Node) (F : List (Str × Kind)) (R : List Str) : Prop :=
  ∀ f vis, m ∈ vis → (∀ v ∈ vis, rank m ≤ rank v) → muVis decls vis + nd.size < f → shape decls f vis nd = (F, R)

theorem muVis_cons_notin (decls : Decls) (t : Str) (vis : List Str) (h : t ∉ decls.map (·.1)) :
    muVis decls (t :: vis) = muVis decls vis := by
  unfold muVis
  congr 2
  apply List.filter_congr
  intro d hd
  have hne : d.1 ≠ t := fun e => h (e ▸ List.mem_map.mpr ⟨d, hd, rfl⟩)
  simp [hne]

theorem muVis_cons (decls : Decls) (hn : (decls.map (·.1)).Nodup) (t : Str) (ndt : Node) (hmem : (t, ndt) ∈ decls)
    (vis : List Str) (ht : t ∉ vis) : muVis decls vis = muVis decls (t :: vis) + (ndt.size + 1) := by
  induction decls with
  | nil => cases hmem
  | cons d rest ih =>
    simp only [List.map_cons, List.nodup_cons] at hn
    by_cases e : d.1 = t
    · have hd : d = (t, ndt) := by
        rcases List.mem_cons.mp hmem with h | h
        · exact h.symm
        · exact absurd (List.mem_map.mpr ⟨(t, ndt), h, rfl⟩) (e ▸ hn.1)
      subst hd
      have h1 : muVis ((t, ndt) :: rest) vis = (ndt.size + 1) + muVis rest vis := by
        unfold muVis
        simp [ht]
      have h2 : muVis ((t, ndt) :: rest) (t :: vis) = muVis rest (t :: vis) := by
        unfold muVis
        simp
      rw [h1, h2, muVis_cons_notin rest t vis hn.1]
      omega
    · have hmem' : (t, ndt) ∈ rest := by
        rcases List.mem_cons.mp hmem with h | h
        · exact absurd (by rw [← h]) e
        · exact h
      have := ih hn.2 hmem'
      have hc : (t :: vis).contains d.1 = vis.contains d.1 := by simp [e]
      unfold muVis at this ⊢
      simp only [List.filter_cons, hc]
      cases vis.contains d.1 with
      | true => simpa using this
      | false =>
        simp only [Bool.not_false, if_true, List.map_cons, List.sum_cons]
        omega

def toK (kv : Str × Node) : Str × Kind := (kv.1, nodeKind kv.2)

theorem shapeIs_obj (m : Str) (ps : List (Str × Node)) (req : List Str)
    (ap : Option Node) (hnd : (ps.map (·.1)).Nodup) :
    ShapeIs decls rank m (.obj (some ps) req ap) (ps.map toK) req := by
  intro f vis _ _ hf
  obtain ⟨f, rfl⟩ : ∃ f', f = f' + 1 := ⟨f - 1, by omega⟩
  simp only [shape, Node.core]
  rw [mergeKeyed_append _ [] (by simpa [List.map_map, Function.comp_def] using hnd) (by simp)]
  simp [toK]

theorem shapeIs_arr (m : Str) (i : Node) : ShapeIs decls rank m (.arr i) [] [] := by
  intro f vis _ _ hf
  obtain ⟨f, rfl⟩ : ∃ f', f = f' + 1 := ⟨f - 1, by omega⟩
  simp [shape, Node.core]

theorem shapeIs_prim (m : Str) (ty : PrimTy) (e : Bool) :
    ShapeIs decls rank m (.prim ty e) [] [] := by
  intro f vis _ _ hf
  obtain ⟨f, rfl⟩ : ∃ f', f = f' + 1 := ⟨f - 1, by omega⟩
  simp [shape, Node.core]

theorem shapeIs_ref (hn : (decls.map (·.1)).Nodup) (m t : Str) (ndt : Node)
    (F : List (Str × Kind)) (R : List Str) (hget : dGet t decls = some ndt) (hno : t.contains '/' = false)
    (hrank : rank t < rank m) (h : ShapeIs decls rank t ndt F R) : ShapeIs decls rank m (.ref t) F R := by
  intro f vis hm hv hf
  obtain ⟨f, rfl⟩ : ∃ f', f = f' + 1 := ⟨f - 1, by omega⟩
  have htv : t ∉ vis := fun hin => by have := hv t hin; omega
  have hc : vis.contains t = false := by
    cases hc : vis.contains t with
    | false => rfl
    | true => exact absurd (List.contains_iff_mem.mp hc) htv
  simp only [shape, Node.core, lastSeg_of_no_slash t hno, hc, Bool.false_eq_true, if_false, hget]
  have hmu := muVis_cons decls hn t ndt (mem_of_dGet decls t ndt hget) vis htv
  refine h f (t :: vis) (List.mem_cons_self ..) ?_ ?_
  · intro v hvm
    rcases List.mem_cons.mp hvm with e | e
    · rw [e]; exact Nat.le_refl _
    · have := hv v e; omega
  · simp only [Node.size] at hf
    omega

theorem size_le_sum (parts : List Node) (p : Node) (h : p ∈ parts) : p.size ≤ (parts.map Node.size).sum := by
  induction parts with
  | nil => cases h
  | cons a l ih =>
    simp only [List.map_cons, List.sum_cons]
    rcases List.mem_cons.mp h with e | e
    · rw [e]; omega
    · have := ih e; omega

/-- the merged fields / required names of an `allOf` whose members have the shapes `FRs` -/
def mergedF (FRs : List (List (Str × Kind) × List Str)) : List (Str × Kind) :=
  FRs.foldl (fun acc r => mergeKeyed acc r.1) []

def mergedR (req : List Str) (FRs : List (List (Str × Kind) × List Str)) : List Str :=
  FRs.foldl (fun acc r => unionInto acc r.2) (dedup req)

theorem shapeIs_allOf (m : Str) (parts : List Node) (req : List Str)
    (FRs : List (List (Str × Kind) × List Str))
    (h : All2 (fun part fr => ShapeIs decls rank m part fr.1 fr.2) parts FRs) :
    ShapeIs decls rank m (.allOf parts [] req) (mergedF FRs) (mergedR req FRs) := by
  intro f vis hm hv hf
  obtain ⟨f, rfl⟩ : ∃ f', f = f' + 1 := ⟨f - 1, by omega⟩
  have hsub : parts.map (shape decls f vis) = FRs := by
    have hsz : ∀ p ∈ parts, muVis decls vis + p.size < f := by
      intro p hp
      have := size_le_sum parts p hp
      simp only [Node.size] at hf
      omega
    clear hf
    induction h with
    | nil => rfl
    | @cons a b l l' hab _ ih =>
      simp only [List.map_cons]
      rw [hab f vis hm hv (hsz a (List.mem_cons_self ..)), ih (fun p hp => hsz p (List.mem_cons_of_mem _ hp))]
  simp only [shape, Node.core, hsub]
  simp [mergedF, mergedR, mergeKeyed]

theorem muVis_nil (decls : Decls) : muVis decls [] = (decls.map (fun d => d.2.size + 1)).sum := by
  unfold muVis
  have : decls.filter (fun d => !([] : List Str).contains d.1) = decls := by
    rw [List.filter_eq_self]
    intro d _
    rfl
  rw [this]

end Pog.Prs
