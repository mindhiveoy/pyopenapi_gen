import Pog.Model.Diff
import Pog.Lemmas.ListExtra
/-
  Lemmas about the C09 model: the order on strings, `sorted(set(..))`, `sorted(.., key=..)`,
  rendering as a function of sets, `_show_diffs`.
-/
namespace Pog.Diff
open Pog

theorem strLt_nil_right (a : Str) : strLt a [] = false := by cases a <;> rfl

theorem strLt_cons (a : Char) (as : Str) (b : Char) (bs : Str) :
    strLt (a :: as) (b :: bs) = (decide (a < b) || (a == b && strLt as bs)) := rfl

/-- `strLt` is core's lexicographic order on `List Char`; irreflexivity, transitivity and totality come from there. -/
theorem strLt_iff_lt (a b : Str) : strLt a b = true ↔ a < b := by
  induction a generalizing b with
  | nil => cases b <;> simp [strLt]
  | cons x xs ih =>
    cases b with
    | nil => simp [strLt]
    | cons y ys => simp [strLt, List.cons_lt_cons_iff, ih]

theorem strLt_eq_false_iff (a b : Str) : strLt a b = false ↔ b ≤ a := by
  rw [← Bool.not_eq_true, strLt_iff_lt, List.not_lt]

theorem strLt_irrefl (a : Str) : strLt a a = false :=
  (strLt_eq_false_iff a a).2 (List.le_refl a)

theorem strLt_trans {a b c : Str} (h₁ : strLt a b = true) (h₂ : strLt b c = true) : strLt a c = true :=
  (strLt_iff_lt a c).2 (List.lt_trans ((strLt_iff_lt a b).1 h₁) ((strLt_iff_lt b c).1 h₂))

theorem strLt_asymm {a b : Str} (h : strLt a b = true) : strLt b a = false :=
  (strLt_eq_false_iff b a).2 (List.le_of_lt ((strLt_iff_lt a b).1 h))

theorem eq_of_not_strLt {a b : Str} (h₁ : strLt a b = false) (h₂ : strLt b a = false) : a = b :=
  List.le_antisymm ((strLt_eq_false_iff b a).1 h₂) ((strLt_eq_false_iff a b).1 h₁)

theorem strLe_trans {a b c : Str} (h₁ : strLt b a = false) (h₂ : strLt c b = false) : strLt c a = false :=
  (strLt_eq_false_iff c a).2 (List.le_trans ((strLt_eq_false_iff b a).1 h₁) ((strLt_eq_false_iff c b).1 h₂))

theorem mem_insertU {x y : Str} {l : List Str} : y ∈ insertU x l ↔ y = x ∨ y ∈ l := by
  induction l with
  | nil => simp [insertU]
  | cons z zs ih =>
    simp only [insertU]
    split
    · simp
    · split
      · rename_i _ h
        subst h
        simp
      · simp only [List.mem_cons, ih]
        exact or_left_comm

theorem pairwise_insertU {x : Str} {l : List Str} (h : l.Pairwise (fun a b => strLt a b = true)) :
    (insertU x l).Pairwise (fun a b => strLt a b = true) := by
  induction l with
  | nil => simp [insertU]
  | cons z zs ih =>
    simp only [insertU]
    have hz := List.pairwise_cons.mp h
    split
    · rename_i hxz
      exact List.pairwise_cons.mpr ⟨List.forall_mem_cons.mpr ⟨hxz, fun a ha => strLt_trans hxz (hz.1 a ha)⟩, h⟩
    · split
      · exact h
      · rename_i hxz hne
        refine List.pairwise_cons.mpr ⟨fun a ha => ?_, ih hz.2⟩
        rcases mem_insertU.mp ha with rfl | ha
        · -- neither `a < z` nor `a = z`
          cases hzx : strLt z a with
          | true => rfl
          | false => exact absurd (eq_of_not_strLt (Bool.eq_false_iff.mpr hxz) hzx) hne
        · exact hz.1 a ha

theorem mem_sortU {y : Str} {l : List Str} : y ∈ sortU l ↔ y ∈ l := by
  induction l with
  | nil => simp [sortU]
  | cons x xs ih =>
    show y ∈ insertU x (sortU xs) ↔ _
    rw [mem_insertU, ih, List.mem_cons]

theorem pairwise_sortU (l : List Str) : (sortU l).Pairwise (fun a b => strLt a b = true) := by
  induction l with
  | nil => simp [sortU]
  | cons x xs ih => exact pairwise_insertU ih

theorem nodup_of_pairwise_strLt {l : List Str} (h : l.Pairwise (fun a b => strLt a b = true)) : l.Nodup := by
  refine h.imp fun hab heq => ?_
  rw [heq, strLt_irrefl] at hab
  cases hab

theorem eq_of_pairwise_strLt {l₁ l₂ : List Str}
    (h₁ : l₁.Pairwise (fun a b => strLt a b = true)) (h₂ : l₂.Pairwise (fun a b => strLt a b = true))
    (h : ∀ x, x ∈ l₁ ↔ x ∈ l₂) : l₁ = l₂ := by
  have hp : l₁.Perm l₂ :=
    (List.perm_ext_iff_of_nodup (nodup_of_pairwise_strLt h₁) (nodup_of_pairwise_strLt h₂)).mpr h
  refine List.Perm.eq_of_pairwise ?_ h₁ h₂ hp
  intro a b _ _ hab hba
  simp [strLt_asymm hab] at hba

theorem sortU_congr {xs ys : List Str} (h : ∀ x, x ∈ xs ↔ x ∈ ys) : sortU xs = sortU ys :=
  eq_of_pairwise_strLt (pairwise_sortU xs) (pairwise_sortU ys) (fun x => by rw [mem_sortU, mem_sortU, h])

theorem sortU_idem (xs : List Str) : sortU (sortU xs) = sortU xs :=
  sortU_congr (fun _ => mem_sortU)

theorem perm_insertByKey {α : Type} (key : α → Str) (x : α) (l : List α) :
    (insertByKey key x l).Perm (x :: l) :=
  perm_of_insert (insertByKey key) (fun _ => rfl) (fun a y ys => by simp only [insertByKey]; split <;> simp) x l

theorem perm_sortByKey {α : Type} (key : α → Str) (l : List α) : (sortByKey key l).Perm l :=
  perm_foldr_insert _ (perm_insertByKey key) l

theorem pairwise_insertByKey {α : Type} (key : α → Str) (x : α) (l : List α)
    (h : l.Pairwise (fun a b => strLt (key b) (key a) = false)) :
    (insertByKey key x l).Pairwise (fun a b => strLt (key b) (key a) = false) := by
  refine pairwise_of_insert (fun a b => strLt (key b) (key a) = false) (insertByKey key) (fun _ => rfl) ?_ ?_
    strLe_trans x l h
  · intro a y ys
    simp only [insertByKey]
    cases strLt (key y) (key a) <;> simp
  · intro a b
    cases h : strLt (key b) (key a) with
    | false => exact Or.inl rfl
    | true => exact Or.inr (strLt_asymm h)

theorem pairwise_sortByKey {α : Type} (key : α → Str) (l : List α) :
    (sortByKey key l).Pairwise (fun a b => strLt (key b) (key a) = false) :=
  pairwise_foldr_insert _ _ (pairwise_insertByKey key) l

/-- The sort is stable, so the order of the input shows among equal keys: `key` has to be injective on the input. -/
theorem sortByKey_perm {α : Type} (key : α → Str) {xs ys : List α} (hp : xs.Perm ys)
    (hinj : ∀ a ∈ xs, ∀ b ∈ xs, key a = key b → a = b) : sortByKey key xs = sortByKey key ys :=
  foldr_insert_eq_of_perm _ _ (perm_insertByKey key) (pairwise_insertByKey key) hp
    (fun a ha b hb hab hba => hinj a ha b hb (eq_of_not_strLt hba hab))

theorem pySorted_perm {xs ys : List Str} (hp : xs.Perm ys) : pySorted xs = pySorted ys :=
  sortByKey_perm id hp fun _ _ _ _ h => h

theorem keysSorted_congr {ps qs : List (Str × Str)} (h : ∀ p, p ∈ ps ↔ p ∈ qs) :
    keysSorted ps = keysSorted qs :=
  sortU_congr fun x => by simp only [List.mem_map, h]

theorem namesSorted_congr {ps qs : List (Str × Str)} (h : ∀ p, p ∈ ps ↔ p ∈ qs) :
    namesSorted ps = namesSorted qs :=
  funext fun m => sortU_congr fun x => by simp only [List.mem_map, List.mem_filter, h]

theorem standardLine_congr (ctx : ImpCtx) {ps qs : List (Str × Str)} (h : ∀ p, p ∈ ps ↔ p ∈ qs) :
    standardLine ctx ps = standardLine ctx qs := by
  funext m
  simp only [standardLine, namesSorted_congr h]

theorem filterMap_mem_congr {α β : Type} (f : α → Option β) {xs ys : List α} (h : ∀ o, o ∈ xs ↔ o ∈ ys) :
    ∀ p, p ∈ xs.filterMap f ↔ p ∈ ys.filterMap f := by
  intro p
  simp only [List.mem_filterMap, h]

theorem importStatementsCore_congr (ctx : ImpCtx) {ps ps' rs rs' : List (Str × Str)} (pl : List Str)
    (hp : ∀ p, p ∈ ps ↔ p ∈ ps') (hr : ∀ p, p ∈ rs ↔ p ∈ rs') :
    importStatementsCore ctx ps rs pl = importStatementsCore ctx ps' rs' pl := by
  have hr' : ∀ p, p ∈ rs.filter (fun p => !(decide (ctx.current = some p.1))) ↔
      p ∈ rs'.filter (fun p => !(decide (ctx.current = some p.1))) := fun p => by simp only [List.mem_filter, hr]
  simp only [importStatementsCore, keysSorted_congr hp, standardLine_congr ctx hp, keysSorted_congr hr',
    namesSorted_congr hr']

theorem formattedImportsCore_congr (ctx : ImpCtx) {ps ps' rs rs' : List (Str × Str)} (pl : List Str)
    (hp : ∀ p, p ∈ ps ↔ p ∈ ps') (hr : ∀ p, p ∈ rs ↔ p ∈ rs') :
    formattedImportsCore ctx ps rs pl = formattedImportsCore ctx ps' rs' pl := by
  simp only [formattedImportsCore, keysSorted_congr hp, namesSorted_congr hp, keysSorted_congr hr,
    namesSorted_congr hr]

theorem importStatements_congr (ctx : ImpCtx) {xs ys : List ImpOp} (h : ∀ o, o ∈ xs ↔ o ∈ ys) :
    importStatements ctx xs = importStatements ctx ys := by
  have hpl : plainSorted xs = plainSorted ys := sortU_congr (filterMap_mem_congr _ h)
  simp only [importStatements, hpl]
  exact importStatementsCore_congr ctx _ (filterMap_mem_congr _ h) (filterMap_mem_congr _ h)

theorem formattedImports_congr (ctx : ImpCtx) {xs ys : List ImpOp} (h : ∀ o, o ∈ xs ↔ o ∈ ys) :
    formattedImports ctx xs = formattedImports ctx ys := by
  have hpl : plainSorted xs = plainSorted ys := sortU_congr (filterMap_mem_congr _ h)
  simp only [formattedImports, hpl]
  exact formattedImportsCore_congr ctx _ (filterMap_mem_congr _ h) (filterMap_mem_congr _ h)

/-- the schemas `_generate_init_py_content` considers at all -/
def initCand (s : InitSchema) : Bool := !s.name.isEmpty && !s.genName.isEmpty && !s.stem.isEmpty

theorem initExports_perm {xs ys : List InitSchema} (hp : xs.Perm ys)
    (hn : ((xs.filter initCand).map (·.name)).Nodup) : initExports xs = initExports ys := by
  have h : sortByKey (·.name) (xs.filter initCand) = sortByKey (·.name) (ys.filter initCand) :=
    sortByKey_perm _ (hp.filter _) fun _ ha _ hb => inj_of_nodup_map _ hn ha hb
  unfold initExports
  unfold initCand at h
  simp only [h]

theorem lookup_none_iff {α : Type} {l : List (List Str × α)} {p : List Str} :
    l.lookup p = none ↔ p ∉ l.map (·.1) := by
  simp only [List.lookup_eq_none_iff, List.mem_map, not_exists, not_and, bne_iff_ne, ne_eq]
  exact ⟨fun h q hq e => h q hq e.symm, fun h q hq e => h q hq e.symm⟩

/-- Files of the OLD tree that the new one lacks, files that are not `*.py`, and bytes that `splitlines()` erases are
    never looked at. -/
theorem showDiffs_eq_false_iff (old new : Tree) :
    showDiffs old new = false ↔
      ∀ p c, (p, c) ∈ new → isPyFile p = true → ∀ oc, old.lookup p = some oc → pyLines oc = pyLines c := by
  simp only [showDiffs, List.any_eq_false, Prod.forall, fileDiffers, Bool.and_eq_true, not_and]
  refine forall_congr' fun p => forall_congr' fun c => imp_congr_right fun _ => imp_congr_right fun _ => ?_
  cases old.lookup p <;> simp

theorem showDiffs_eq_false_iff_of_same_py (old new : Tree)
    (hnew : (new.map (·.1)).Nodup)
    (hsame : ∀ p, p ∈ old.map (·.1) ↔ p ∈ new.map (·.1))
    (hpy : ∀ p ∈ new.map (·.1), isPyFile p = true) :
    showDiffs old new = false ↔ ∀ p, (old.lookup p).map pyLines = (new.lookup p).map pyLines := by
  rw [showDiffs_eq_false_iff]
  constructor
  · intro h p
    cases hn : new.lookup p with
    | none =>
      rw [lookup_none_iff.mpr fun hm => lookup_none_iff.mp hn ((hsame p).mp hm)]
    | some c =>
      have hm := mem_of_lookup_eq_some hn
      have hk : p ∈ new.map (·.1) := List.mem_map.mpr ⟨(p, c), hm, rfl⟩
      cases ho : old.lookup p with
      | none => exact absurd ((hsame p).mpr hk) (lookup_none_iff.mp ho)
      | some oc => simp [h p c hm (hpy p hk) oc ho]
  · intro h p c hm _ oc hoc
    simpa [hoc, lookup_of_mem_nodup hnew hm] using h p

/-- the parameter `_ensure_path_variables_as_params` creates for an undeclared path variable -/
def mkPathVar (v : Str) : ParamInfo := ⟨sanMethod v, true, v⟩

theorem mkPathVar_injective {a b : Str} (h : mkPathVar a = mkPathVar b) : a = b :=
  congrArg ParamInfo.originalName h

theorem ensurePathVars_fresh (known vars : List Str)
    (h1 : ∀ v ∈ vars, sanMethod v ∉ known) (h2 : (vars.map sanMethod).Nodup) :
    ensurePathVars known vars = vars.map mkPathVar := by
  induction vars generalizing known with
  | nil => rfl
  | cons v vs ih =>
    simp only [List.map_cons, List.nodup_cons, List.mem_map, not_exists, not_and] at h2
    have hv : known.contains (sanMethod v) = false := by
      simpa using h1 v List.mem_cons_self
    simp only [ensurePathVars, hv, List.map_cons, Bool.false_eq_true, if_false]
    rw [ih (sanMethod v :: known)]
    · rfl
    · intro w hw hmem
      rcases List.mem_cons.mp hmem with heq | hmem
      · exact h2.1 w hw heq
      · exact h1 w (List.mem_cons_of_mem _ hw) hmem
    · exact h2.2

theorem finalParams_fresh (declared : List ParamInfo) (vars : List Str)
    (h1 : ∀ v ∈ vars, sanMethod v ∉ declared.map (·.name)) (h2 : (vars.map sanMethod).Nodup) :
    finalParams declared vars =
      (declared.filter (·.required) ++ vars.map mkPathVar) ++ declared.filter (fun p => !p.required) := by
  unfold finalParams
  rw [ensurePathVars_fresh _ _ h1 h2]
  simp only [List.filter_append]
  have ha : (vars.map mkPathVar).filter (·.required) = vars.map mkPathVar :=
    List.filter_eq_self.2 (by simp [mkPathVar])
  have hb : (vars.map mkPathVar).filter (fun p => !p.required) = [] :=
    List.filter_eq_nil_iff.2 (by simp [mkPathVar])
  rw [ha, hb, List.append_nil]

end Pog.Diff
