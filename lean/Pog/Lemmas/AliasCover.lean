import Pog.Lemmas.Registry
import Pog.Model.AliasCover
/-
  `raisedCodes` and `generatedCodes` as predicates on the declared numeric codes.
-/
namespace Pog.AliasCover
open Pog Pog.Reg

theorem digitsToNat_natStr (n : Nat) : digitsToNat (natStr n) = n := by
  rw [natStr_eq]
  exact Nat.ofDigitChars_ten_toDigits

theorem isDigitStr_natStr (n : Nat) : isDigitStr (natStr n) = true := by
  simpa [isDigitStr, natStr_ne_nil] using natStr_digits n

/-- The number-level reading of the handler loop: a declared numeric code is raised through an alias iff its decimal
    text does not start with `2` and it is an error code. -/
theorem mem_raisedCodes (c : Nat) (declared : List Nat) :
    c ∈ raisedCodes declared ↔ c ∈ declared ∧ startsWith (natStr c) ['2'] = false ∧ isErrorCode c = true := by
  unfold raisedCodes handlerRaises
  simp only [List.mem_map, List.mem_filter, Bool.and_eq_true, Bool.not_eq_true']
  constructor
  · rintro ⟨s, ⟨⟨n, hn, rfl⟩, ⟨_, hs⟩, he⟩, rfl⟩
    rw [digitsToNat_natStr] at he ⊢
    exact ⟨hn, hs, he⟩
  · rintro ⟨hc, hs, he⟩
    exact ⟨natStr c, ⟨⟨c, hc, rfl⟩, ⟨isDigitStr_natStr c, hs⟩, by rw [digitsToNat_natStr]; exact he⟩, digitsToNat_natStr c⟩

theorem mem_generatedCodes (c : Nat) (allDeclared : List Nat) :
    c ∈ generatedCodes allDeclared ↔ c ∈ allDeclared ∧ isErrorCode c = true := by
  unfold generatedCodes
  rw [genFor_specCodes, mem_specCodes]

/-- a code in `[400, 600)` never starts with the digit `2` -/
theorem error_code_not_2xx_text (c : Nat) (h : isErrorCode c = true) : startsWith (natStr c) ['2'] = false := by
  have hb := (isErrorCode_iff c).mp h
  obtain ⟨_, _, _, _, h5, h6⟩ := bounds_gen
  rw [h5, h6] at hb
  -- `str(c)` has three digits, the first of them `4` or `5`
  rw [natStr_eq, Nat.toDigits_of_base_le (by decide) (by omega), Nat.toDigits_of_base_le (by decide) (by omega),
    Nat.toDigits_of_lt_base (by omega)]
  obtain h | h : c / 10 / 10 = 4 ∨ c / 10 / 10 = 5 := by omega
  all_goals rw [h]; rfl

end Pog.AliasCover
