import Pog.Model.Annot
/-
  `_format_resolved_type` on annotation trees and CPython's eager evaluation of the result (`Pog.Model.Annot`).
  `TyOrAlias` (a `|` chain or a subscript evaluates, if at all, to a class or a typing object) is what tells a string
  literal and `None` from everything else; `format_evaluable` is the statement `Pog.Props.C01` reads.
-/
namespace Pog.Annot
open Pog

/- The equations of `render`, `evalKind`, `evalOperands` that the proofs below need, each by `rfl`: `rw [render]`
   would generate the equation lemmas of the whole mutual block anew in every proof (seconds each). -/
theorem render_quoted (s : Str) : render (.quoted s) = ['"'] ++ s ++ ['"'] := rfl
theorem render_bor (l r : Ann) : render (.bor l r) = render l ++ " | ".toList ++ render r := rfl
theorem render_none : render .none_ = "None".toList := rfl

theorem evalKind_quoted_eq (s : Str) : evalKind (.quoted s) = if s.contains '"' then none else some .strV := rfl
theorem evalOperands_quoted (s : Str) : evalOperands (.quoted s) = if s.contains '"' then none else some [.strV] := rfl
theorem evalKind_sub (h : Ann) (args : List Ann) : evalKind (.sub h args) = subKind h args (evalKinds args) := rfl
theorem evalOperands_sub (h : Ann) (args : List Ann) :
    evalOperands (.sub h args) = (subKind h args (evalKinds args)).map fun k => [k] := rfl

theorem evalKind_bor (l r : Ann) :
    evalKind (.bor l r) = (evalOperands l).bind fun a => (evalOperands r).bind fun b => foldOr (a ++ b) := by
  show (match evalOperands l, evalOperands r with
    | some a, some b => foldOr (a ++ b)
    | _, _ => none) = _
  cases evalOperands l <;> cases evalOperands r <;> rfl

theorem evalOperands_bor (l r : Ann) :
    evalOperands (.bor l r) = (evalOperands l).bind fun a => (evalOperands r).bind fun b => some (a ++ b) := by
  show (match evalOperands l, evalOperands r with
    | some a, some b => some (a ++ b)
    | _, _ => none) = _
  cases evalOperands l <;> cases evalOperands r <;> rfl

theorem render_quoteIfFwd (ty : Ann) (fwd : Bool) :
    render (quoteIfFwd ty fwd) =
      (if (fwd && !startsWith (render ty) ['"']) = true then ['"'] ++ render ty ++ ['"'] else render ty) := by
  unfold quoteIfFwd; split <;> rfl

theorem evalKind_quoted (s : Str) (h : '"' ∉ s) : evalKind (.quoted s) = some .strV := by
  rw [evalKind_quoted_eq, if_neg (fun hc => h (List.contains_iff_mem.mp hc))]

theorem foldOr_singleton (k : Kind) : foldOr [k] = some k := rfl

theorem foldOr_snoc (ks : List Kind) (x : Kind) (h : ks ≠ []) :
    foldOr (ks ++ [x]) = (foldOr ks).bind (fun a => orKind a x) := by
  cases ks with
  | nil => exact absurd rfl h
  | cons k rest => simp only [List.cons_append, foldOr, List.foldl_append, List.foldl_cons, List.foldl_nil]

theorem evalOperands_fold (a : Ann) : (evalOperands a).bind foldOr = evalKind a := by
  cases a with
  | name s => rfl
  | quoted s => rw [evalOperands_quoted, evalKind_quoted_eq]; split <;> rfl
  | none_ => rfl
  | bor l r =>
    rw [evalOperands_bor, evalKind_bor]
    cases evalOperands l <;> cases evalOperands r <;> rfl
  | sub h args =>
    rw [evalOperands_sub, evalKind_sub]
    cases subKind h args (evalKinds args) <;> rfl

theorem evalOperands_ne_nil : (a : Ann) → (ks : List Kind) → evalOperands a = some ks → ks ≠ []
  | .name _, ks, h => by cases h; simp
  | .quoted s, ks, h => by
    rw [evalOperands_quoted] at h
    split at h <;> cases h
    simp
  | .none_, ks, h => by cases h; simp
  | .bor l r, ks, h => by
    rw [evalOperands_bor] at h
    obtain ⟨a, ha, b, -, rfl⟩ : ∃ a, evalOperands l = some a ∧ ∃ b, evalOperands r = some b ∧ a ++ b = ks := by
      simpa [Option.bind_eq_some_iff] using h
    simp [evalOperands_ne_nil l a ha]
  | .sub hd args, ks, h => by
    rw [evalOperands_sub] at h
    obtain ⟨k, -, rfl⟩ := Option.map_eq_some_iff.mp h
    simp

theorem evalKind_bor_none (a : Ann) (k : Kind) (h : evalKind a = some k) :
    evalKind (.bor a .none_) = orKind k .noneV := by
  rw [← evalOperands_fold] at h
  obtain ⟨ks, ho, hk⟩ := Option.bind_eq_some_iff.mp h
  rw [evalKind_bor, ho]
  exact (foldOr_snoc ks _ (evalOperands_ne_nil a ks ho)).trans (by rw [hk]; rfl)

theorem evalOK_of_kind {a : Ann} {k : Kind} (h : evalKind a = some k) : evalOK a = true := by
  simp [evalOK, h]

theorem unquote_quoted (s : Str) : unquote (['"'] ++ s ++ ['"']) = s := by
  simp [unquote]

theorem isQuotedLit_quoted (s : Str) (h : '"' ∉ s) : isQuotedLit (['"'] ++ s ++ ['"']) = true := by
  have hc : s.count '"' = 0 := List.count_eq_zero.mpr h
  simp [isQuotedLit, startsWith, endsWith, List.count_append, hc]

/-- what is between the quotes of a text that passes the test holds no quote: putting ` | None` there gives a literal again -/
theorem isQuotedLit_inner (t : Str) (h : isQuotedLit t = true) : '"' ∉ unquote t := by
  simp only [isQuotedLit, startsWith, endsWith, Bool.and_eq_true, beq_iff_eq] at h
  obtain ⟨⟨hs, he⟩, hc⟩ := h
  rcases t with _ | ⟨c, u⟩
  · simp [unquote]
  rcases List.eq_nil_or_concat u with rfl | ⟨v, x, rfl⟩
  · simp [unquote]
  · -- `t = " v "`: two quotes in all, so none in `v`
    simp at hs he
    subst hs he
    have hv : v.count '"' = 0 := by simpa [List.count_append] using hc
    simpa [unquote] using List.count_eq_zero.mp hv

/-- the expression evaluates, if at all, to a class or a typing object: never to a string, never to `None` -/
def TyOrAlias (o : Option Kind) : Prop := ∀ k, o = some k → k = .ty ∨ k = .alias

theorem TyOrAlias.none : TyOrAlias none := nofun
theorem TyOrAlias.ty : TyOrAlias (some .ty) := fun _ h => Or.inl (Option.some.inj h).symm
theorem TyOrAlias.alias : TyOrAlias (some .alias) := fun _ h => Or.inr (Option.some.inj h).symm

theorem TyOrAlias.ite {c : Prop} [Decidable c] {a b : Option Kind} (ha : TyOrAlias a) (hb : TyOrAlias b) :
    TyOrAlias (if c then a else b) := by
  split <;> assumption

theorem orKind_kind (a b : Kind) : TyOrAlias (orKind a b) := by
  cases a <;> cases b <;> first | exact .alias | exact .ty | exact .none

theorem foldOr_kind {l : List Kind} (h : 2 ≤ l.length) : TyOrAlias (foldOr l) := by
  rcases List.eq_nil_or_concat l with rfl | ⟨v, x, rfl⟩
  · cases h
  · have hv : v ≠ [] := by rintro rfl; simp at h
    rw [List.concat_eq_append, foldOr_snoc _ _ hv]
    cases foldOr v with
    | none => exact .none
    | some a => exact orKind_kind a x

theorem unionKind_kind (l : List Kind) : TyOrAlias (some (unionKind l)) := by
  unfold unionKind
  split
  · exact .ty
  · exact .ty
  · exact .alias

theorem subKind_kind (h : Ann) (args : List Ann) (ks : Option (List Kind)) : TyOrAlias (subKind h args ks) := by
  unfold subKind
  split
  · split
    · exact .none
    · exact .none
    · refine .ite .ty ?_
      split
      · exact .none
      · refine .ite (.ite (unionKind_kind _) (.ite ?_ .alias)) .none
        split
        · exact .ty
        · exact .alias
  · exact .none

theorem evalKind_bor_kind (l r : Ann) : TyOrAlias (evalKind (.bor l r)) := by
  rw [evalKind_bor]
  cases hl : evalOperands l with
  | none => exact .none
  | some a =>
    cases hr : evalOperands r with
    | none => exact .none
    | some b =>
      have ha := List.length_pos_iff.mpr (evalOperands_ne_nil l a hl)
      have hb := List.length_pos_iff.mpr (evalOperands_ne_nil r b hr)
      exact foldOr_kind (by rw [List.length_append]; omega)

theorem evalKind_strV {a : Ann} (h : evalKind a = some .strV) : ∃ s, a = .quoted s ∧ '"' ∉ s := by
  cases a with
  | name s => cases h
  | quoted s =>
    rw [evalKind_quoted_eq] at h
    split at h
    · cases h
    · rename_i hc
      exact ⟨s, rfl, fun hm => hc (List.contains_iff_mem.mpr hm)⟩
  | none_ => cases h
  | bor l r => rcases evalKind_bor_kind l r _ h with h' | h' <;> cases h'
  | sub hd args => rcases subKind_kind hd args _ _ h with h' | h' <;> cases h'

theorem evalKind_noneV {a : Ann} (h : evalKind a = some .noneV) : a = .none_ := by
  cases a with
  | name s => cases h
  | quoted s =>
    rw [evalKind_quoted_eq] at h
    split at h <;> cases h
  | none_ => rfl
  | bor l r => rcases evalKind_bor_kind l r _ h with h' | h' <;> cases h'
  | sub hd args => rcases subKind_kind hd args _ _ h with h' | h' <;> cases h'

/-- The optional marker of `_format_resolved_type` on anything that evaluates and is not `None`: inside the quotes of a string
    literal (a string literal again), `… | None` after a class / generic alias / typing object. -/
theorem optMark_evaluable (a0 : Ann) (k0 : Kind) (h0 : evalKind a0 = some k0) (hn : k0 ≠ .noneV) :
    evalOK (if isQuotedLit (render a0) = true then .quoted (unquote (render a0) ++ orNoneTail) else .bor a0 .none_) = true := by
  split
  · rename_i hq
    apply evalOK_of_kind (evalKind_quoted _ _)
    intro hm
    rcases List.mem_append.mp hm with h | h
    · exact isQuotedLit_inner _ hq h
    · revert h; decide
  · rename_i hq
    have hb := evalKind_bor_none _ _ h0
    cases k0 with
    | ty => exact evalOK_of_kind hb
    | alias => exact evalOK_of_kind hb
    | noneV => exact absurd rfl hn
    | strV =>
      obtain ⟨s, rfl, hs⟩ := evalKind_strV h0
      exact absurd (isQuotedLit_quoted s hs) hq

/-- the (possibly quoted) base evaluates, and to `None` only when it is the unquoted `None`; the text must be free of
    quotes only when it IS put between quotes -/
theorem evalKind_quoteIfFwd {ty : Ann} {fwd : Bool} {k : Kind} (hk : evalKind ty = some k)
    (hq : (fwd && !startsWith (render ty) ['"']) = true → '"' ∉ render ty) :
    ∃ k0, evalKind (quoteIfFwd ty fwd) = some k0 ∧ (k0 = .noneV → fwd = false ∧ k = .noneV) := by
  unfold quoteIfFwd
  split
  · rename_i h1
    exact ⟨.strV, evalKind_quoted _ (hq h1), fun h => by cases h⟩
  · rename_i h1
    refine ⟨k, hk, fun hkn => ⟨?_, hkn⟩⟩
    subst hkn
    cases fwd with
    | false => rfl
    | true =>
      exfalso
      apply h1
      rw [evalKind_noneV hk, render_none]
      decide

/-- `_format_resolved_type` keeps an evaluable annotation evaluable unless it appends `| None` to `None` itself
    (F1 repaired: the marker of a quoted forward reference goes inside the quotes). -/
theorem format_evaluable (r : Resolved) (k : Kind) (hk : evalKind r.ty = some k)
    (hq : (r.isForwardRef && !startsWith (render r.ty) ['"']) = true → '"' ∉ render r.ty)
    (hc : r.isOptional = true → ¬ (r.isForwardRef = false ∧ k = .noneV))
    (a : Ann) (ha : formatResolved r = some a) : evalOK a = true := by
  obtain ⟨k0, hk0, hk0n⟩ := evalKind_quoteIfFwd hk hq
  unfold formatResolved at ha
  split at ha
  · cases ha
  · simp only [Option.some.injEq] at ha
    subst ha
    split
    · rename_i hcond
      simp only [Bool.and_eq_true] at hcond
      exact optMark_evaluable _ k0 hk0 (fun h => hc hcond.1 (hk0n h))
    · exact evalOK_of_kind hk0

theorem evalKind_list (x : Ann) (k : Kind) (h : evalKind x = some k) :
    evalKind (.sub (.name "List".toList) [x]) = some .alias := by
  rw [evalKind_sub]
  simp only [evalKinds, h]
  rfl

theorem render_list_prefix (x : Ann) :
    startsWith (render (.sub (.name "List".toList) [x])) optionalPrefix = false := rfl

end Pog.Annot
