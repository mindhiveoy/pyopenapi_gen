import Pog.Lemmas.ParserSpec
import Pog.Lemmas.ParserNames
/-
  What a completed call of the parser may change (`Step`: registry and heap only grow, old objects untouched, tracker
  stack / depth / cycles restored, states only go none ⟶ completed), heap objects described by what `irKind` reads of
  them (`Denotes`), transported along steps that may rename an object (`HStepW`: equal up to `name` / `hasEnum`), and the
  equations of entering and leaving a tracker frame.
-/
namespace Pog.Prs
open Pog Pog.Trk

structure Step (s s' : PSt) : Prop where
  stack : s'.tr.stack = s.tr.stack
  depth : s'.tr.depth = s.tr.depth
  maxDepth : s'.tr.maxDepth = s.tr.maxDepth
  cycles : s'.tr.cycles = s.tr.cycles
  states : ∀ m, dGet m s'.tr.states = dGet m s.tr.states ∨
    (dGet m s.tr.states = none ∧ dGet m s'.tr.states = some .completed ∧ s'.regHas m = true)
  reg : ∀ k i, dGet k s.reg = some i → dGet k s'.reg = some i
  heapLen : s.heap.length ≤ s'.heap.length
  heap : ∀ i, i < s.heap.length → s'.get i = s.get i
  fresh : ∀ k i, dGet k s'.reg = some i → dGet k s.reg = some i ∨ s.heap.length ≤ i
  regNew : ∀ k, s'.regHas k = true → s.regHas k = true ∨
    (dGet k s.tr.states = none ∧ dGet k s'.tr.states = some .completed)
  oom : s'.oom = s.oom

theorem Step.refl (s : PSt) : Step s s :=
  ⟨rfl, rfl, rfl, rfl, fun _ => Or.inl rfl, fun _ _ h => h, Nat.le_refl _, fun _ _ => rfl,
   fun _ _ h => Or.inl h, fun _ h => Or.inl h, rfl⟩

theorem Step.states_some {s s' : PSt} (h : Step s s') {m : Str} {x : SchemaState}
    (e : dGet m s.tr.states = some x) : dGet m s'.tr.states = some x := by
  rcases h.states m with e' | ⟨e', _, _⟩
  · rw [e', e]
  · rw [e] at e'; cases e'

theorem regHas_iff_dGet (s : PSt) (k : Str) : s.regHas k = true ↔ ∃ i, dGet k s.reg = some i := by
  unfold PSt.regHas dHas
  cases dGet k s.reg <;> simp

theorem Step.regMono {s s' : PSt} (h : Step s s') (k : Str) (hk : s.regHas k = true) : s'.regHas k = true := by
  obtain ⟨i, hi⟩ := (regHas_iff_dGet s k).mp hk
  exact (regHas_iff_dGet s' k).mpr ⟨i, h.reg k i hi⟩

theorem Step.trans {a b c : PSt} (h1 : Step a b) (h2 : Step b c) : Step a c where
  stack := by rw [h2.stack, h1.stack]
  depth := by rw [h2.depth, h1.depth]
  maxDepth := by rw [h2.maxDepth, h1.maxDepth]
  cycles := by rw [h2.cycles, h1.cycles]
  states := by
    intro m
    rcases h1.states m with e1 | ⟨e1, e1', r1⟩
    · rcases h2.states m with e2 | ⟨e2, e2', r2⟩
      · exact Or.inl (by rw [e2, e1])
      · exact Or.inr ⟨by rw [← e1]; exact e2, e2', r2⟩
    · exact Or.inr ⟨e1, h2.states_some e1', h2.regMono m r1⟩
  reg := fun k i h => h2.reg k i (h1.reg k i h)
  heapLen := Nat.le_trans h1.heapLen h2.heapLen
  heap := fun i hi => by rw [h2.heap i (Nat.lt_of_lt_of_le hi h1.heapLen), h1.heap i hi]
  fresh := by
    intro k i h
    rcases h2.fresh k i h with e | e
    · exact h1.fresh k i e
    · exact Or.inr (Nat.le_trans h1.heapLen e)
  regNew := by
    intro k h
    rcases h2.regNew k h with e | ⟨e, e'⟩
    · rcases h1.regNew k e with e1 | ⟨e1, e1'⟩
      · exact Or.inl e1
      · exact Or.inr ⟨e1, h2.states_some e1'⟩
    · rcases h1.states k with e1 | ⟨e1, e1', _⟩
      · exact Or.inr ⟨by rw [← e1]; exact e, e'⟩
      · rw [e1'] at e; cases e
  oom := by rw [h2.oom, h1.oom]

theorem enter_fresh (t : TrSt) (n : Str) (a : Bool) (hn : n ≠ []) (hs : dGet n t.states = none)
    (hst : n ∉ t.stack) (hd : t.depth + 1 ≤ t.maxDepth) :
    Trk.enter t (some n) a =
      ({ t with allowSelf := a, depth := t.depth + 1, states := dSet n .inProgress t.states,
                stack := t.stack ++ [n] }, { action := .continueParsing }) := by
  have hso : TrSt.stateOf { t with allowSelf := a, depth := t.depth + 1 } n = .notStarted := by
    simp [TrSt.stateOf, hs]
  have hnd : ¬ (t.depth + 1 > t.maxDepth) := by omega
  have hc : check { t with allowSelf := a, depth := t.depth + 1 } n =
      ({ t with allowSelf := a, depth := t.depth + 1, states := dSet n .inProgress t.states },
       { action := .continueParsing }) := by
    unfold check
    simp [hso, hnd, hst]
  unfold Trk.enter
  simp [hc, hn]

theorem exit_inProgress (t : TrSt) (n : Str) (hn : n ≠ []) (hs : dGet n t.states = some .inProgress) :
    Trk.exit t (some n) =
      { t with depth := t.depth - 1, stack := t.stack.erase n, states := dSet n .completed t.states } := by
  unfold Trk.exit
  simp [hn, hs]

def TrSame (t t' : TrSt) : Prop :=
  t'.stack = t.stack ∧ t'.depth = t.depth ∧ t'.maxDepth = t.maxDepth ∧ t'.cycles = t.cycles ∧
  t'.states = t.states

theorem getD_append_left (l l' : List IR) (i : Nat) (hi : i < l.length) :
    (l ++ l').getD i {} = l.getD i {} := by
  simp [List.getD, List.getElem?_append_left hi]

theorem truthy_of_ne (n : Str) (h : n ≠ []) : truthy (some n) = true := by
  cases n with
  | nil => exact absurd rfl h
  | cons c cs => rfl

def enteredTr (t : TrSt) (n : Str) : TrSt :=
  { t with allowSelf := true, depth := t.depth + 1, states := dSet n .inProgress t.states,
           stack := t.stack ++ [n] }

def afterEnter (s : PSt) (n : Str) : PSt :=
  { s with nest := s.nest + 1, maxNest := max s.maxNest (s.nest + 1), tr := enteredTr s.tr n,
           trace := s.trace ++ [.enter (some n) true .continueParsing] }

theorem mkIR_named (n : Str) (hn : n ≠ []) (hsan : sanClass n = n) (o : IR) (ho : o.name = some n) :
    mkIR o = o := by
  unfold mkIR
  rw [ho, truthy_of_ne n hn]
  simp only [if_true, Option.map_some, hsan]
  cases o
  simp_all

/-- everything `irKind` / `modelFields` read of an object -/
def IR.shape (o : IR) : IR := { o with name := none, hasEnum := false }

theorem shape_fields {o o' : IR} (h : o.shape = o'.shape) :
    o.kind = o'.kind ∧ o.refersTo = o'.refersTo ∧ o.type = o'.type ∧ o.items = o'.items ∧
    o.props = o'.props ∧ o.required = o'.required := by
  cases o; cases o'
  simp only [IR.shape, IR.mk.injEq, true_and] at h
  simp [IR.kind, h]

/-- the heap / registry part of a step, old objects kept up to `name` / `hasEnum` -/
structure HStepW (s s' : PSt) : Prop where
  reg : ∀ k i, dGet k s.reg = some i → dGet k s'.reg = some i
  heapLen : s.heap.length ≤ s'.heap.length
  heap : ∀ i, i < s.heap.length → (s'.get i).shape = (s.get i).shape
  fresh : ∀ k i, dGet k s'.reg = some i → dGet k s.reg = some i ∨ s.heap.length ≤ i

theorem HStepW.trans {a b c : PSt} (h1 : HStepW a b) (h2 : HStepW b c) : HStepW a c where
  reg := fun k i h => h2.reg k i (h1.reg k i h)
  heapLen := Nat.le_trans h1.heapLen h2.heapLen
  heap := fun i hi => by rw [h2.heap i (Nat.lt_of_lt_of_le hi h1.heapLen), h1.heap i hi]
  fresh := by
    intro k i h
    rcases h2.fresh k i h with e | e
    · exact h1.fresh k i e
    · exact Or.inr (Nat.le_trans h1.heapLen e)

theorem Step.toW {s s' : PSt} (h : Step s s') : HStepW s s' :=
  ⟨h.reg, h.heapLen, fun i hi => by rw [h.heap i hi], h.fresh⟩

theorem HStepW.of_eq {s s' : PSt} (hh : s'.heap = s.heap) (hr : s'.reg = s.reg) : HStepW s s' :=
  ⟨fun k i h => by rw [hr]; exact h, by rw [hh]; exact Nat.le_refl _, fun i _ => by unfold PSt.get; rw [hh],
    fun k i h => Or.inl (by rw [← hr]; exact h)⟩

theorem HStepW.of_ext {s s' : PSt} (l : List IR) (hh : s'.heap = s.heap ++ l) (hr : s'.reg = s.reg) : HStepW s s' :=
  ⟨fun k i h => by rw [hr]; exact h, by rw [hh]; simp, fun i hi => by unfold PSt.get; rw [hh, getD_append_left _ _ i hi],
    fun k i h => Or.inl (by rw [← hr]; exact h)⟩

/-- an unregistered full object -/
def Anon (s : PSt) (pid : Nat) : Prop :=
  pid < s.heap.length ∧ (s.get pid).kind = .full ∧ ∀ k i, dGet k s.reg = some i → i ≠ pid

theorem Anon.step {s s' : PSt} (h : HStepW s s') {pid : Nat} (ha : Anon s pid) : Anon s' pid := by
  obtain ⟨h1, h2, h3⟩ := ha
  refine ⟨Nat.lt_of_lt_of_le h1 h.heapLen, by rw [(shape_fields (h.heap pid h1)).1]; exact h2, ?_⟩
  intro k i hi
  rcases h.fresh k i hi with e | e
  · exact h3 k i e
  · exact fun e2 => by subst e2; exact absurd h1 (Nat.not_lt.mpr e)

/-- the heap object `pid` stands for the kind `K` (exactly what `irKind` will read) -/
def Denotes (names : List Str) (s : PSt) : Kind → Nat → Prop
  | .prim ty, pid => Anon s pid ∧ (s.get pid).refersTo = none ∧ (s.get pid).type = some ty.str
  | .ref t, pid => t ∈ names ∧ dGet t s.reg = some pid
  | .arr K, pid => Anon s pid ∧ (s.get pid).refersTo = none ∧ (s.get pid).type = some sArray ∧
      ∃ iid, (s.get pid).items = some iid ∧ Denotes names s K iid
  | .obj, pid => Anon s pid ∧ ∃ c mid, (s.get pid).refersTo = some mid ∧ c ∉ names ∧
      dGet c s.reg = some mid ∧ mid < s.heap.length ∧ (s.get mid).kind = .full ∧
      (s.get mid).refersTo = none ∧ (s.get mid).type = some sObject
  | .union, _ => False
  | .unknown, _ => False

theorem Denotes.step {names : List Str} {s s' : PSt} (h : HStepW s s') :
    ∀ (K : Kind) (pid : Nat), Denotes names s K pid → Denotes names s' K pid := by
  intro K pid hd
  induction K generalizing pid with
  | prim ty =>
    obtain ⟨h1, h2, h3⟩ := hd
    have hf := shape_fields (h.heap pid h1.1)
    exact ⟨h1.step h, by rw [hf.2.1]; exact h2, by rw [hf.2.2.1]; exact h3⟩
  | ref t => exact ⟨hd.1, h.reg _ _ hd.2⟩
  | arr K ih =>
    obtain ⟨h1, h2, h3, iid, h4, h5⟩ := hd
    have hf := shape_fields (h.heap pid h1.1)
    exact ⟨h1.step h, by rw [hf.2.1]; exact h2, by rw [hf.2.2.1]; exact h3, iid,
      by rw [hf.2.2.2.1]; exact h4, ih iid h5⟩
  | obj =>
    obtain ⟨h1, c, mid, h2, h3, h4, h5, h6, h7, h8⟩ := hd
    have hf := shape_fields (h.heap pid h1.1)
    have hm := shape_fields (h.heap mid h5)
    exact ⟨h1.step h, c, mid, by rw [hf.2.1]; exact h2, h3, h.reg _ _ h4, Nat.lt_of_lt_of_le h5 h.heapLen,
      by rw [hm.1]; exact h6, by rw [hm.2.1]; exact h7, by rw [hm.2.2.1]; exact h8⟩
  | union => exact hd.elim
  | unknown => exact hd.elim

theorem kind_full_flags {o : IR} (h : o.kind = .full) :
    o.depthMarker = false ∧ o.circular = false ∧ o.selfStub = false ∧ o.unresolved = false := by
  unfold IR.kind at h
  cases h1 : o.depthMarker <;> cases h2 : o.circular <;> cases h3 : o.selfStub <;> cases h4 : o.unresolved <;>
    simp [h1, h2, h3, h4] at h ⊢

theorem TrSame.rfl' (t : TrSt) : TrSame t t := ⟨rfl, rfl, rfl, rfl, rfl⟩

theorem step_of_ext {s s' : PSt} (l : List IR) (hh : s'.heap = s.heap ++ l) (hr : s'.reg = s.reg)
    (ho : s'.oom = s.oom) (ht : TrSame s.tr s'.tr) : Step s s' :=
  have hw := HStepW.of_ext l hh hr
  ⟨ht.1, ht.2.1, ht.2.2.1, ht.2.2.2.1, fun m => Or.inl (by rw [ht.2.2.2.2]), hw.reg, hw.heapLen,
    fun i hi => by unfold PSt.get; rw [hh]; exact getD_append_left _ _ i hi, hw.fresh,
    fun k h => Or.inl (by unfold PSt.regHas at h ⊢; rw [← hr]; exact h), ho⟩

theorem get_ext {s s' : PSt} (l : List IR) (hh : s'.heap = s.heap ++ l) (j : Nat) :
    s'.get (s.heap.length + j) = l.getD j {} := by
  unfold PSt.get
  rw [hh]
  simp [List.getD, List.getElem?_append_right]

theorem get_modify (s : PSt) (j : Nat) (f : IR → IR) (i : Nat) :
    (s.modify j f).get i = if i = j ∧ i < s.heap.length then f (s.get i) else s.get i := by
  unfold PSt.get PSt.modify
  simp only [List.getD, List.getElem?_modify]
  by_cases hij : j = i
  · subst hij
    by_cases hl : j < s.heap.length
    · simp [hl]
    · simp [hl]
  · have : ¬ i = j := fun e => hij e.symm
    simp [hij, this]

theorem rename_hstepW (s : PSt) (j : Nat) (f : IR → IR) (hf : ∀ o, (f o).shape = o.shape) :
    HStepW s (s.modify j f) := by
  refine ⟨fun k i h => h, by simp [PSt.modify], ?_, fun k i h => Or.inl h⟩
  intro i _
  rw [get_modify]
  split
  · exact hf _
  · rfl

theorem Step.modify_fresh {s s' : PSt} (h : Step s s') (j : Nat) (f : IR → IR) (hj : s.heap.length ≤ j) :
    Step s (s'.modify j f) := by
  refine ⟨h.stack, h.depth, h.maxDepth, h.cycles, h.states, h.reg, ?_, ?_, h.fresh, h.regNew, h.oom⟩
  · simpa [PSt.modify] using h.heapLen
  · intro i hi
    rw [get_modify]
    have : ¬ (i = j ∧ i < s'.heap.length) := fun e => by omega
    simp only [this, if_false]
    exact h.heap i hi

def anonIn (s : PSt) : PSt :=
  { s with nest := s.nest + 1, maxNest := max s.maxNest (s.nest + 1),
           tr := { s.tr with allowSelf := true, depth := s.tr.depth + 1 },
           trace := s.trace ++ [.enter none true .continueParsing] }

def anonOut (s : PSt) : PSt :=
  { (s.doExit none) with nest := (s.doExit none).nest - 1 }

theorem parseStep_anon_eq (decls : Decls) (P : PFn) (node : Node) (s : PSt) :
    parseStep decls P none node true s =
      ((body decls P none node true (anonIn s)).1, anonOut (body decls P none node true (anonIn s)).2) := by
  simp [parseStep, parseCore, PSt.doEnter, Trk.enter, bodyAndExit, anonIn, anonOut]

theorem step_anon {s s2 : PSt} (h : Step (anonIn s) s2) : Step s (anonOut s2) := by
  refine ⟨h.stack, ?_, h.maxDepth, h.cycles, h.states, h.reg, h.heapLen, h.heap, h.fresh, h.regNew, h.oom⟩
  show s2.tr.depth - 1 = s.tr.depth
  rw [h.depth]
  show s.tr.depth + 1 - 1 = s.tr.depth
  omega

theorem Denotes.anonOut {names : List Str} {s : PSt} {K : Kind} {pid : Nat} (h : Denotes names s K pid) :
    Denotes names (Prs.anonOut s) K pid :=
  Denotes.step (HStepW.of_eq (s := s) (s' := Prs.anonOut s) rfl rfl) K pid h

theorem modify_append_add {α : Type} (l l' : List α) (j : Nat) (f : α → α) :
    (l ++ l').modify (l.length + j) f = l ++ l'.modify j f := by
  induction l with
  | nil => simp
  | cons a l ih =>
    have : (a :: l).length + j = (l.length + j) + 1 := by simp; omega
    rw [this]
    simp [ih]

theorem modify_append_length {α : Type} (l : List α) (x : α) (f : α → α) :
    (l ++ [x]).modify l.length f = l ++ [f x] :=
  modify_append_add l [x] 0 f

theorem parseStep_named_eq (decls : Decls) (P : PFn) (n : Str) (node : Node) (s : PSt)
    (he : Trk.enter s.tr (some n) true = (enteredTr s.tr n, { action := .continueParsing })) :
    parseStep decls P (some n) node true s =
      ((body decls P (some n) node true (afterEnter s n)).1,
       { ((body decls P (some n) node true (afterEnter s n)).2.doExit (some n)) with
         nest := ((body decls P (some n) node true (afterEnter s n)).2.doExit (some n)).nest - 1 }) := by
  simp [parseStep, parseCore, PSt.doEnter, he, bodyAndExit, afterEnter]

/-- the object is registered under its own name unless it is a synthesized primitive -/
theorem finish_fresh2 (decls : Decls) (n : Str) (id : Nat) (s : PSt) (hn : n ≠ []) (hnone : dGet n s.reg = none)
    (hc : s.tr.cycles = []) (hname : (s.get id).name = some n)
    (hsp : ∀ t, (s.get id).type = some t → primTypes.contains t = true → (s.get id).hasEnum = false →
      dHas n decls = true) :
    finish decls (some n) id s = (id, s.regSet n id) := by
  have ht := truthy_of_ne n hn
  have hkey : regKey s (s.get id) n id = n := by
    unfold regKey
    simp [hname, ht, hnone]
  unfold finish
  simp only [ht, Bool.not_true, Bool.false_eq_true, if_false, hnone]
  unfold finish.finishReg
  have hc' : (s.regSet n id).tr.cycles = [] := hc
  simp only [hkey]
  cases hty : (s.get id).type with
  | none => simp [hc', cycleMark]
  | some t =>
    by_cases hmem : t ∈ primTypes
    · cases he : (s.get id).hasEnum with
      | true => simp [hc', cycleMark]
      | false =>
        have hd := hsp t hty (List.contains_iff_mem.mpr hmem) he
        simp [hd, hc', cycleMark]
    · simp [hmem, hc', cycleMark]

theorem afterEnter_facts (s : PSt) (n : Str) :
    (afterEnter s n).tr.stack = s.tr.stack ++ [n] ∧ (afterEnter s n).tr.depth = s.tr.depth + 1 ∧
    (afterEnter s n).tr.maxDepth = s.tr.maxDepth ∧ (afterEnter s n).tr.cycles = s.tr.cycles ∧
    (afterEnter s n).tr.states = dSet n .inProgress s.tr.states ∧ (afterEnter s n).heap = s.heap ∧
    (afterEnter s n).reg = s.reg ∧ (afterEnter s n).oom = s.oom :=
  ⟨rfl, rfl, rfl, rfl, rfl, rfl, rfl, rfl⟩

theorem rename_shape (nm : Option Str) (e : Bool) (o : IR) :
    ({ o with name := nm, hasEnum := e } : IR).shape = o.shape := rfl

/-- fuel `irKind` needs to read a kind -/
def kfuel : Kind → Nat
  | .arr K => kfuel K + 1
  | .obj => 2
  | _ => 1

/-- a reference holder that points at a registered, undeclared enum schema -/
def EnumHolder (names : List Str) (s : PSt) (ty : PrimTy) (pid : Nat) : Prop :=
  Anon s pid ∧ ∃ c mid, (s.get pid).refersTo = some mid ∧ c ∉ names ∧ dGet c s.reg = some mid ∧
    mid < s.heap.length ∧ (s.get mid).kind = .full ∧ (s.get mid).refersTo = none ∧
    (s.get mid).type = some ty.str

theorem EnumHolder.step {names : List Str} {s s' : PSt} (h : HStepW s s') {ty : PrimTy} {pid : Nat}
    (hd : EnumHolder names s ty pid) : EnumHolder names s' ty pid := by
  obtain ⟨h1, c, mid, h2, h3, h4, h5, h6, h7, h8⟩ := hd
  have hf := shape_fields (h.heap pid h1.1)
  have hm := shape_fields (h.heap mid h5)
  exact ⟨h1.step h, c, mid, by rw [hf.2.1]; exact h2, h3, h.reg _ _ h4, Nat.lt_of_lt_of_le h5 h.heapLen,
    by rw [hm.1]; exact h6, by rw [hm.2.1]; exact h7, by rw [hm.2.2.1]; exact h8⟩

/-- `Denotes`, or (for a primitive kind) an enum holder -/
def DenP (names : List Str) (s : PSt) (K : Kind) (pid : Nat) : Prop :=
  Denotes names s K pid ∨ ∃ ty, K = .prim ty ∧ EnumHolder names s ty pid

theorem DenP.step {names : List Str} {s s' : PSt} (h : HStepW s s') {K : Kind} {pid : Nat}
    (hd : DenP names s K pid) : DenP names s' K pid := by
  rcases hd with hd | ⟨ty, e, hd⟩
  · exact Or.inl (Denotes.step h K pid hd)
  · exact Or.inr ⟨ty, e, hd.step h⟩

/-- the registry entry `e` has the key of the document field `kk`, and its object denotes `kk`'s kind within the
    fuel `6` with which `modelFields` calls `irKind` (a constant of the model; on `Simple3` a kind needs at most 2:
    an array of a leaf, a reference holder, see `kfuel`) -/
def FieldK (names : List Str) (s : PSt) (kk : Str × Kind) (e : Str × Nat) : Prop :=
  e.1 = kk.1 ∧ kfuel kk.2 ≤ 6 ∧ DenP names s kk.2 e.2

theorem FieldK.step {names : List Str} {s s' : PSt} (h : HStepW s s') (kk : Str × Kind) (e : Str × Nat)
    (hf : FieldK names s kk e) : FieldK names s' kk e :=
  ⟨hf.1, hf.2.1, hf.2.2.step h⟩

theorem DenP.anonOut {names : List Str} {s : PSt} {K : Kind} {pid : Nat} (h : DenP names s K pid) :
    DenP names (Prs.anonOut s) K pid := DenP.step (HStepW.of_eq (s := s) (s' := Prs.anonOut s) rfl rfl) h

end Pog.Prs
