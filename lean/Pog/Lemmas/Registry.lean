import Pog.Model.Registry
import Pog.Lemmas.ListExtra
import Pog.Lemmas.Fresh
/-
  Lemmas about the status tables and the exception-alias registry model.
  Table-level facts (the `*_gen` lemmas) are closed by `decide`/`decide +kernel` on the GENERATED tables; the bounds of
  the three ranges are only used through `bounds_gen` and `tiling_gen`.
-/
namespace Pog.Reg
open Pog

theorem bounds_gen :
    Gen.isClientErrorLo = 400 ∧ Gen.isClientErrorHi = 500 ∧
    Gen.isServerErrorLo = 500 ∧ Gen.isServerErrorHi = 600 ∧
    Gen.isErrorCodeLo = 400 ∧ Gen.isErrorCodeHi = 600 := by decide

/-- The two specific ranges tile the error range (needs only these relations between the bounds). -/
theorem tiling_gen :
    Gen.isErrorCodeLo = Gen.isClientErrorLo ∧ Gen.isClientErrorHi = Gen.isServerErrorLo ∧
    Gen.isServerErrorHi = Gen.isErrorCodeHi ∧ Gen.isClientErrorLo ≤ Gen.isClientErrorHi ∧
    Gen.isServerErrorLo ≤ Gen.isServerErrorHi := by decide

theorem isErrorCode_iff (n : Nat) : isErrorCode n = true ↔ Gen.isErrorCodeLo ≤ n ∧ n < Gen.isErrorCodeHi := by
  simp [isErrorCode]
theorem isClientError_iff (n : Nat) :
    isClientError n = true ↔ Gen.isClientErrorLo ≤ n ∧ n < Gen.isClientErrorHi := by
  simp [isClientError]
theorem isServerError_iff (n : Nat) :
    isServerError n = true ↔ Gen.isServerErrorLo ≤ n ∧ n < Gen.isServerErrorHi := by
  simp [isServerError]

/-- `is_error_code` = `is_client_error or is_server_error`: the `else: continue` is dead for the
    codes the visitor produces. -/
theorem isErrorCode_iff_client_or_server (n : Nat) :
    isErrorCode n = true ↔ (isClientError n = true ∨ isServerError n = true) := by
  rw [isErrorCode_iff, isClientError_iff, isServerError_iff]
  obtain ⟨h1, h2, h3, h4, h5⟩ := tiling_gen
  omega

theorem aliasBase_client {n : Nat} (h : isClientError n = true) : aliasBase n = some .clientError := by
  simp [aliasBase, h]

theorem aliasBase_server {n : Nat} (h : isServerError n = true) (h' : isClientError n = false) :
    aliasBase n = some .serverError := by
  simp [aliasBase, h, h']

/-- the two ranges do not overlap (so the `elif` order is immaterial) -/
theorem client_server_disjoint (n : Nat) : ¬ (isClientError n = true ∧ isServerError n = true) := by
  rw [isClientError_iff, isServerError_iff]
  obtain ⟨h1, h2, h3, h4, h5⟩ := tiling_gen
  omega

theorem aliasBase_isSome_iff (n : Nat) : (aliasBase n).isSome = true ↔ isErrorCode n = true := by
  rw [isErrorCode_iff_client_or_server]
  unfold aliasBase
  cases h1 : isClientError n <;> cases h2 : isServerError n <;> simp

theorem aliasBase_isSome_iff_range (n : Nat) : (aliasBase n).isSome = true ↔ 400 ≤ n ∧ n < 600 := by
  obtain ⟨_, _, _, _, h5, h6⟩ := bounds_gen
  rw [aliasBase_isSome_iff, isErrorCode_iff, h5, h6]

theorem insertNat_cons (a y : Nat) (ys : List Nat) :
    (a ≤ y ∧ insertNat a (y :: ys) = a :: y :: ys) ∨ (¬ a ≤ y ∧ insertNat a (y :: ys) = y :: insertNat a ys) := by
  by_cases h : a ≤ y <;> simp [insertNat, h]

theorem insertNat_perm (x : Nat) (l : List Nat) : (insertNat x l).Perm (x :: l) :=
  perm_of_insert insertNat (fun _ => rfl) (fun a y ys => (insertNat_cons a y ys).imp And.right And.right) x l

theorem sortedNat_perm (l : List Nat) : (sortedNat l).Perm l := perm_foldr_insert insertNat insertNat_perm l

theorem mem_sortedNat (a : Nat) (l : List Nat) : a ∈ sortedNat l ↔ a ∈ l := (sortedNat_perm l).mem_iff

theorem mem_insertUniq (a x : Nat) (l : List Nat) : a ∈ insertUniq x l ↔ a = x ∨ a ∈ l := by
  induction l with
  | nil => simp [insertUniq]
  | cons y ys ih =>
    unfold insertUniq
    split
    · simp
    · split
      · rename_i h; subst h; simp
      · simp only [List.mem_cons, ih]
        exact or_left_comm

theorem mem_sortUniq (a : Nat) (l : List Nat) : a ∈ sortUniq l ↔ a ∈ l := by
  induction l with
  | nil => simp [sortUniq]
  | cons y ys ih =>
    rw [show sortUniq (y :: ys) = insertUniq y (sortUniq ys) from rfl, mem_insertUniq, ih, List.mem_cons]

theorem insertUniq_sorted (x : Nat) (l : List Nat) (h : l.Pairwise (· < ·)) :
    (insertUniq x l).Pairwise (· < ·) := by
  induction l with
  | nil => simp [insertUniq]
  | cons y ys ih =>
    obtain ⟨hy, hys⟩ := List.pairwise_cons.mp h
    unfold insertUniq
    split
    · rename_i hxy
      exact List.pairwise_cons.mpr ⟨List.forall_mem_cons.mpr ⟨hxy, fun a ha => Nat.lt_trans hxy (hy a ha)⟩, h⟩
    · split
      · exact h
      · refine List.pairwise_cons.mpr ⟨fun a ha => ?_, ih hys⟩
        rcases (mem_insertUniq a x ys).mp ha with rfl | ha
        · omega
        · exact hy a ha

/-- `sortUniq` is `sorted(set(·))`: strictly increasing (hence duplicate-free), with the same elements (`mem_sortUniq`). -/
theorem sortUniq_sorted (l : List Nat) : (sortUniq l).Pairwise (· < ·) :=
  pairwise_foldr_insert _ insertUniq insertUniq_sorted l

theorem insertNat_sorted (x : Nat) (l : List Nat) (h : l.Pairwise (· ≤ ·)) :
    (insertNat x l).Pairwise (· ≤ ·) :=
  pairwise_of_insert (· ≤ ·) insertNat (fun _ => rfl) insertNat_cons Nat.le_total Nat.le_trans x l h

theorem sortedNat_sorted (l : List Nat) : (sortedNat l).Pairwise (· ≤ ·) :=
  pairwise_foldr_insert _ insertNat insertNat_sorted l

theorem mem_specCodes (a : Nat) (d : List Nat) : a ∈ specCodes d ↔ a ∈ d ∧ isErrorCode a = true := by
  simp [specCodes, mem_sortUniq]

theorem mem_genFor (a : Nat) (l : List Nat) : a ∈ genFor l ↔ a ∈ l ∧ isErrorCode a = true := by
  simp [genFor, aliasBase_isSome_iff]

/-- On the visitor's output the base-class loop skips nothing. -/
theorem genFor_specCodes (d : List Nat) : genFor (specCodes d) = specCodes d := by
  unfold genFor
  rw [List.filter_eq_self]
  intro a ha
  exact (aliasBase_isSome_iff a).mpr ((mem_specCodes a d).mp ha).2

theorem mem_regSet_self (c : Str) (codes : List Nat) (reg : List (Str × List Nat)) :
    (c, codes) ∈ regSet c codes reg := by
  induction reg with
  | nil => simp [regSet]
  | cons kv rest ih =>
    by_cases h : kv.1 = c <;> simp [regSet, h, ih]

theorem mem_regSet (c : Str) (codes : List Nat) (reg : List (Str × List Nat)) (k : Str) (v : List Nat)
    (h : (k, v) ∈ regSet c codes reg) : (k, v) = (c, codes) ∨ (k, v) ∈ reg := by
  induction reg with
  | nil => simpa [regSet] using h
  | cons kv rest ih =>
    by_cases hk : kv.1 = c
    · simp only [regSet, hk, if_true, List.mem_cons] at h ⊢
      exact h.imp_right .inr
    · simp only [regSet, hk, if_false, List.mem_cons] at h ⊢
      exact h.elim (.inr ∘ .inl) (fun h => (ih h).imp_right .inr)

/-- Entries of OTHER clients survive the assignment. -/
theorem mem_regSet_of_ne (c : Str) (codes : List Nat) (reg : List (Str × List Nat)) (k : Str) (v : List Nat)
    (hne : k ≠ c) (h : (k, v) ∈ reg) : (k, v) ∈ regSet c codes reg := by
  induction reg with
  | nil => cases h
  | cons kv rest ih =>
    by_cases hk : kv.1 = c
    · simp only [regSet, hk, if_true, List.mem_cons] at h ⊢
      exact h.elim (fun e => absurd ((congrArg Prod.fst e).trans hk) hne) .inr
    · simp only [regSet, hk, if_false, List.mem_cons] at h ⊢
      exact h.imp_right ih

/-- The assignment keeps the set of keys plus `c`; no second entry for `c` is created. -/
theorem keys_regSet (c : Str) (codes : List Nat) (reg : List (Str × List Nat)) :
    (regSet c codes reg).map (·.1) = if c ∈ reg.map (·.1) then reg.map (·.1) else reg.map (·.1) ++ [c] := by
  induction reg with
  | nil => simp [regSet]
  | cons kv rest ih =>
    obtain ⟨k0, v0⟩ := kv
    unfold regSet
    split
    · rename_i hk; subst hk; simp
    · rename_i hk
      have hk' : ¬ c = k0 := fun h => hk h.symm
      simp only [List.map_cons, ih, List.mem_cons, hk', false_or]
      split <;> simp

theorem keys_nodup_regSet (c : Str) (codes : List Nat) (reg : List (Str × List Nat))
    (h : (reg.map (·.1)).Nodup) : ((regSet c codes reg).map (·.1)).Nodup := by
  rw [keys_regSet]
  split
  · exact h
  · rename_i hc
    exact (List.perm_append_singleton c _).nodup_iff.mpr (List.nodup_cons.mpr ⟨hc, h⟩)

theorem mem_allCodes (a : Nat) (reg : List (Str × List Nat)) :
    a ∈ allCodes reg ↔ ∃ c codes, (c, codes) ∈ reg ∧ a ∈ codes := by
  simp only [allCodes, mem_sortUniq, List.mem_flatMap, Prod.exists]

theorem usesRegistry_iff (g : Gen) :
    g.usesRegistry = true ↔ g.shared = true ∧ ∃ n, g.client = some n ∧ n ≠ [] := by
  -- `client_package_name` is `None`, empty or non-empty
  rcases g with ⟨_ | _ | ⟨a, b⟩, d, sh⟩ <;> simp [Gen.usesRegistry]

theorem step_shared (s : State) (g : Gen) (hg : g.usesRegistry = true) :
    ∃ c, g.client = some c ∧ step s g =
      ⟨regSet c (sortedNat (specCodes g.declared)) s.registry,
       genFor (allCodes (regSet c (sortedNat (specCodes g.declared)) s.registry))⟩ := by
  unfold Gen.usesRegistry at hg
  split at hg
  · rename_i ch ct h
    exact ⟨ch :: ct, h, by simp [step, h, hg]⟩
  · cases hg

theorem step_unshared (s : State) (g : Gen) (hg : g.usesRegistry = false) :
    step s g = ⟨s.registry, specCodes g.declared⟩ := by
  unfold Gen.usesRegistry at hg
  unfold step
  split
  · rename_i ch ct h
    rw [h] at hg
    simp at hg
    simp [hg, genFor_specCodes]
  · simp [genFor_specCodes]

/-- After a registry step the alias file holds exactly the error-range codes of the registry —
    whatever the previous state was (a registry step repairs an overwritten alias file). -/
theorem mem_step_aliases (s : State) (g : Gen) (hg : g.usesRegistry = true) (a : Nat) :
    a ∈ (step s g).aliases ↔
      (∃ c codes, (c, codes) ∈ (step s g).registry ∧ a ∈ codes) ∧ isErrorCode a = true := by
  obtain ⟨_, _, h⟩ := step_shared s g hg
  rw [h]
  simp only [mem_genFor, mem_allCodes]

/-- Registry values are error codes only (true of every registry written by the emitter). -/
def RegErr (reg : List (Str × List Nat)) : Prop :=
  ∀ c codes, (c, codes) ∈ reg → ∀ a ∈ codes, isErrorCode a = true

theorem regErr_step (s : State) (g : Gen) (h : RegErr s.registry) : RegErr (step s g).registry := by
  cases hg : g.usesRegistry with
  | false => rw [step_unshared s g hg]; exact h
  | true =>
    obtain ⟨_, _, h'⟩ := step_shared s g hg
    rw [h']
    intro c codes hm a ha
    rcases mem_regSet _ _ _ _ _ hm with hm | hm
    · cases hm
      exact ((mem_specCodes a _).mp ((mem_sortedNat a _).mp ha)).2
    · exact h c codes hm a ha

theorem run_snoc (hist : List Gen) (g : Gen) : run (hist ++ [g]) = step (run hist) g := by
  simp [run, List.foldl_append]

theorem needs_snoc (hist : List Gen) (g : Gen) (c : Str) :
    needs (hist ++ [g]) c = if g.client = some c then specCodes g.declared else needs hist c := by
  unfold needs
  rw [List.reverse_append, List.reverse_singleton, List.singleton_append, List.find?_cons]
  by_cases h : g.client = some c <;> simp [h]

/-- the invariant carried along a history of registry steps -/
structure Inv (hist : List Gen) (s : State) : Prop where
  regErr : RegErr s.registry
  keys : (s.registry.map (·.1)).Nodup
  latest : ∀ c, (∃ g ∈ hist, g.client = some c) →
    ∃ codes, (c, codes) ∈ s.registry ∧ ∀ a, a ∈ codes ↔ a ∈ needs hist c
  aliases : ∀ a, a ∈ s.aliases ↔ ∃ c codes, (c, codes) ∈ s.registry ∧ a ∈ codes

theorem inv_empty : Inv [] State.empty where
  regErr := by intro c codes h; cases h
  keys := by simp [State.empty]
  latest := by rintro c ⟨g, hg, _⟩; cases hg
  aliases := by simp [State.empty]

theorem inv_step (hist : List Gen) (s : State) (g : Gen) (hi : Inv hist s) (hg : g.usesRegistry = true) :
    Inv (hist ++ [g]) (step s g) := by
  have hE := regErr_step s g hi.regErr
  obtain ⟨n, hn, hstep⟩ := step_shared s g hg
  refine ⟨hE, ?_, ?_, ?_⟩
  · rw [hstep]; exact keys_nodup_regSet _ _ _ hi.keys
  · intro c hc
    rw [needs_snoc, hstep]
    by_cases hcn : g.client = some c
    · rw [if_pos hcn]
      cases hn.symm.trans hcn
      exact ⟨_, mem_regSet_self _ _ _, fun a => mem_sortedNat a _⟩
    · rw [if_neg hcn]
      obtain ⟨g', hg', hc'⟩ := hc
      have hin : ∃ g ∈ hist, g.client = some c := by
        rcases List.mem_append.mp hg' with h | h
        · exact ⟨g', h, hc'⟩
        · simp at h; subst h; exact absurd hc' hcn
      obtain ⟨codes, hm, hcodes⟩ := hi.latest c hin
      refine ⟨codes, mem_regSet_of_ne _ _ _ _ _ ?_ hm, hcodes⟩
      intro hcn'; subst hcn'; exact hcn hn
  · intro a
    rw [mem_step_aliases s g hg a]
    exact and_iff_left_of_imp fun ⟨c, codes, hm, ha⟩ => hE c codes hm a ha

theorem inv_foldl (pre hist : List Gen) (s : State) (hi : Inv pre s)
    (hh : ∀ g ∈ hist, g.usesRegistry = true) : Inv (pre ++ hist) (hist.foldl step s) := by
  induction hist generalizing pre s with
  | nil => simpa using hi
  | cons g rest ih =>
    have h1 := inv_step pre s g hi (hh g List.mem_cons_self)
    have h2 := ih (pre ++ [g]) (step s g) h1 (fun g' hg' => hh g' (List.mem_cons_of_mem _ hg'))
    simpa [List.append_assoc] using h2

theorem inv_run (hist : List Gen) (hh : ∀ g ∈ hist, g.usesRegistry = true) : Inv hist (run hist) := by
  simpa [run] using inv_foldl [] hist State.empty inv_empty hh

theorem length_parentDir (p : Path) : (parentDir p).length = p.length - 1 := by
  simp [parentDir]

theorem isSharedCore_some (r d : Path) :
    isSharedCore (some r) d = true ↔ (parentDir d = r ∨ parentDir (parentDir d) = r) := by
  simp [isSharedCore]

theorem parentDir_snoc (r : Path) (x : Str) : parentDir (r ++ [x]) = r := by
  simp [parentDir]

theorem isSharedCore_append (r comps : Path) :
    isSharedCore (some r) (r ++ comps) = true ↔
      (comps.length = 1 ∨ comps.length = 2 ∨ (r = [] ∧ comps = [])) := by
  rw [isSharedCore_some]
  constructor
  · intro h
    have hl := h.imp (congrArg List.length) (congrArg List.length)
    simp only [length_parentDir, List.length_append] at hl
    have : comps.length = 1 ∨ comps.length = 2 ∨ (r.length = 0 ∧ comps.length = 0) := by omega
    simpa only [List.length_eq_zero_iff] using this
  · rintro (h | h | ⟨rfl, rfl⟩)
    · match comps, h with
      | [x], _ => exact Or.inl (parentDir_snoc r x)
    · match comps, h with
      | [x, y], _ =>
        right
        rw [List.append_cons r x [y], parentDir_snoc, parentDir_snoc]
    · exact Or.inl rfl

/-- Whenever the heuristic answers `True`, the core directory lies at most two levels below the
    project root. -/
theorem isSharedCore_prefix (r d : Path) (h : isSharedCore (some r) d = true) :
    ∃ comps, d = r ++ comps ∧ comps.length ≤ 2 := by
  have key : ∀ p : Path, ∃ t, p = parentDir p ++ t ∧ t.length ≤ 1 := by
    intro p
    by_cases hp : p = []
    · subst hp; exact ⟨[], by simp [parentDir]⟩
    · exact ⟨[p.getLast hp], by simp [parentDir, List.dropLast_concat_getLast]⟩
  obtain ⟨t, ht, hl⟩ := key d
  rcases (isSharedCore_some r d).mp h with h | h
  · exact ⟨t, by rw [← h]; exact ht, by omega⟩
  · obtain ⟨t', ht', hl'⟩ := key (parentDir d)
    refine ⟨t' ++ t, ?_, by simp; omega⟩
    rw [← h, ← List.append_assoc, ← ht', ← ht]

/-- `"Error" ++ digits` -/
def isFallbackShaped (name : Str) : Bool :=
  startsWith name Gen.exceptionFallbackPrefix && (name.drop Gen.exceptionFallbackPrefix.length).all isDigitA

theorem fallback_isFallbackShaped (n : Nat) :
    isFallbackShaped (Gen.exceptionFallbackPrefix ++ natStr n) = true := by
  simpa [isFallbackShaped, startsWith] using natStr_digits n

theorem table_keys_nodup_gen : (Gen.httpExceptionNames.map (·.1)).Nodup := by decide +kernel

theorem table_names_nodup_gen : (Gen.httpExceptionNames.map (fun r => aliasName r.1)).Nodup := by
  decide +kernel

theorem table_not_fallback_gen :
    ∀ r ∈ Gen.httpExceptionNames, isFallbackShaped (aliasName r.1) = false := by decide +kernel

theorem table_not_builtin_gen :
    ∀ r ∈ Gen.httpExceptionNames, aliasName r.1 ∉ Gen.pyBuiltins := by decide +kernel

theorem table_ident_gen : ∀ r ∈ Gen.httpExceptionNames, isPyIdent (aliasName r.1) = true := by
  decide +kernel

theorem prefix_ident_gen : isPyIdent Gen.exceptionFallbackPrefix = true := by decide

theorem lookup_none_not_mem {α} (l : List (Nat × α)) (k : Nat) (h : l.lookup k = none) :
    k ∉ l.map (·.1) := by
  rw [List.lookup_eq_none_iff] at h
  intro hm
  obtain ⟨p, hp, rfl⟩ := List.mem_map.mp hm
  simpa using h p hp

theorem aliasName_fallback (c : Nat) (h : Gen.httpExceptionNames.lookup c = none) :
    aliasName c = Gen.exceptionFallbackPrefix ++ natStr c := by
  simp [aliasName, h]

theorem inTable_cases (c : Nat) :
    (∃ n, (c, n) ∈ Gen.httpExceptionNames) ∨ Gen.httpExceptionNames.lookup c = none := by
  cases h : Gen.httpExceptionNames.lookup c with
  | none => exact Or.inr rfl
  | some n => exact Or.inl ⟨n, mem_of_lookup_eq_some h⟩

/-- A table row's name is not the fallback name of a code outside the table (by its shape). -/
theorem aliasName_table_ne_fallback {r : Nat × Str} (hr : r ∈ Gen.httpExceptionNames) {c : Nat}
    (hc : Gen.httpExceptionNames.lookup c = none) : aliasName r.1 ≠ aliasName c := by
  intro h
  have h1 := table_not_fallback_gen r hr
  rw [h, aliasName_fallback c hc, fallback_isFallbackShaped] at h1
  cases h1

/-- `get_exception_class_name` is injective on ALL codes. -/
theorem aliasName_injective (c c' : Nat) (h : aliasName c = aliasName c') : c = c' := by
  rcases inTable_cases c with ⟨n, hn⟩ | hc <;> rcases inTable_cases c' with ⟨n', hn'⟩ | hc'
  · exact congrArg Prod.fst (inj_of_nodup_map _ table_names_nodup_gen hn hn' h)
  · exact absurd h (aliasName_table_ne_fallback hn hc')
  · exact absurd h.symm (aliasName_table_ne_fallback hn' hc)
  · rw [aliasName_fallback c hc, aliasName_fallback c' hc'] at h
    exact natStr_inj (List.append_cancel_left h)

theorem isPyIdent_append {p s : Str} (hp : isPyIdent p = true) (hs : s.all isIdChar = true) :
    isPyIdent (p ++ s) = true := by
  cases p with
  | nil => cases hp
  | cons a as =>
    simp only [isPyIdent, Bool.and_eq_true, List.cons_append, List.all_append] at hp ⊢
    exact ⟨hp.1, hp.2, hs⟩

theorem fallback_ident (n : Nat) : isPyIdent (Gen.exceptionFallbackPrefix ++ natStr n) = true :=
  isPyIdent_append prefix_ident_gen
    (List.all_eq_true.mpr fun x hx => isIdChar_of_isAlnumA (isAlnumA_of_digit (natStr_digits n x hx)))

theorem aliasName_ident (c : Nat) : isPyIdent (aliasName c) = true := by
  rcases inTable_cases c with ⟨n, hn⟩ | hc
  · exact table_ident_gen (c, n) hn
  · rw [aliasName_fallback c hc]; exact fallback_ident c

end Pog.Reg
