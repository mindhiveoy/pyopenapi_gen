import Pog.Lemmas.ConvEq
/-
  Lemmas about M-conv: the equations of `structF`, the stages of `_structure_union`, the dataclass hook.
-/
namespace Pog

theorem structF_leaf (c : Codecs) (n : Nat) (decls : Decls) (l : Leaf) (j : JsonV) (h : leafCanStructure l = true) :
    structF c (n + 1) decls (.leaf l) j = structLeaf c l j := by
  simp [structF, resolvable, h]

theorem structF_any (c : Codecs) (n : Nat) (decls : Decls) (j : JsonV) :
    structF c (n + 1) decls .any j = .ok (Val.ofJson j) := by
  simp [structF, resolvable]

theorem structF_enum (c : Codecs) (n : Nat) (decls : Decls) (name : Str) (ms : List JsonV) (j m : JsonV)
    (h : enumLookup ms j = some m) : structF c (n + 1) decls (.enum name ms) j = .ok (.enum name m) := by
  simp [structF, resolvable, h]

theorem structF_union (c : Codecs) (n : Nat) (decls : Decls) (args : List Ty) (disc : Option Disc) (j : JsonV) :
    structF c (n + 1) decls (.union args disc) j = structUnion (structF c n decls) args disc j := by
  simp [structF, resolvable]

theorem structF_optional (c : Codecs) (n : Nat) (decls : Decls) (t : Ty) (j : JsonV) :
    structF c (n + 1) decls (.optional t) j = structUnion (structF c n decls) [t, .none] none j := by
  simp [structF, resolvable]

theorem structF_dc (c : Codecs) (n : Nat) (decls : Decls) (name : Str) (j : JsonV) :
    structF c (n + 1) decls (.dc name) j = structClass (structF c n decls) decls name j := by
  simp [structF, resolvable]

theorem structF_list (c : Codecs) (n : Nat) (decls : Decls) (t : Ty) (j : JsonV) (h : resolvable t = true) :
    structF c (n + 1) decls (.list t) j = structList (structF c n decls t) j := by
  simp [structF, resolvable, h]

theorem structF_dict (c : Codecs) (n : Nat) (decls : Decls) (t : Ty) (j : JsonV) (h : resolvable t = true) :
    structF c (n + 1) decls (.dict t) j = structDict (structF c n decls t) j := by
  simp [structF, resolvable, h]

theorem structClass_ok_inst (rec : Ty → JsonV → Except SErr Val) (decls : Decls) (name : Str) (j : JsonV) (v : Val)
    (h : structClass rec decls name j = .ok v) : ∃ fs, v = .inst name fs := by
  unfold structClass at h
  repeat' split at h
  all_goals cases h
  exact ⟨_, rfl⟩

theorem structF_dc_ok_inst (c : Codecs) (n : Nat) (decls : Decls) (name : Str) (j : JsonV) (v : Val)
    (h : structF c n decls (.dc name) j = .ok v) : ∃ fs, v = .inst name fs := by
  cases n with
  | zero => cases h
  | succ n => rw [structF_dc] at h; exact structClass_ok_inst _ _ _ _ _ h

/-! ## `_structure_union`

  The function has three stages: `None`, the discriminator metadata, the members.  The member stage is
  `structUnion rec args none`; the equations below say what each stage does. -/

theorem structUnion_null (rec : Ty → JsonV → Except SErr Val) (args : List Ty) (disc : Option Disc) :
    structUnion rec args disc .null = if args.any isNoneTy then .ok .none else .error (.leaf .unionNone) := rfl

/-- Member stage, dict payload: the dataclass members in order, then `dict[str, Any]`, then (only for a union without
    dataclass member) the remaining members. -/
theorem structUnion_obj (rec : Ty → JsonV → Except SErr Val) (args : List Ty) (kvs : List (Str × JsonV)) :
    structUnion rec args none (.obj kvs) =
      match firstOk rec (.obj kvs) (args.filter isDcTy) with
      | some v => .ok v
      | none =>
        if args.any isDictAny then .ok (Val.ofJson (.obj kvs))
        else if !(args.filter isDcTy).isEmpty then .error (.leaf .unionNoVariant)
        else match firstOk rec (.obj kvs) (args.filter isOtherVariant) with
          | some v => .ok v
          | none => .error (.leaf .unionCannot) := by
  simp only [structUnion, isObj, if_true]
  cases firstOk rec (.obj kvs) (args.filter isDcTy) with
  | some v => rfl
  | none =>
    cases args.any isDictAny with
    | true => rfl
    | false => cases (args.filter isDcTy).isEmpty <;> rfl

/-- Member stage, any other non-null payload: the members that are neither dataclasses nor `dict[str, Any]`. -/
theorem structUnion_scalar (rec : Ty → JsonV → Except SErr Val) (args : List Ty) (j : JsonV)
    (hj : isObj j = false) (hnull : j ≠ .null) :
    structUnion rec args none j =
      match firstOk rec j (args.filter isOtherVariant) with
      | some v => .ok v
      | none => .error (.leaf .unionCannot) := by
  cases j with
  | null => exact absurd rfl hnull
  | obj kvs => cases hj
  | _ => simp only [structUnion, isObj, Bool.and_false, Bool.false_eq_true, if_false]; rfl

/-- What the discriminator stage returns for the discriminator value `dv` under the non-empty mapping `m`: the
    mapped class decides alone; a value that is no key of `m` is an error (`dv in mapping` hashes `dv`). -/
def discOutcome (rec : Ty → JsonV → Except SErr Val) (j : JsonV) (m : List (Str × Str)) : JsonV → Except SErr Val
  | .arr _ => .error (.leaf .unhashable)
  | .obj _ => .error (.leaf .unhashable)
  | .str s =>
    match aget m s with
    | some variant =>
      match rec (.dc variant) j with
      | .ok v => .ok v
      | .error _ => .error (.leaf (.discFailed variant))
    | none => .error (.leaf .discUnknown)
  | _ => .error (.leaf .discUnknown)

/-- Discriminator present in the payload, mapping non-empty: the members play no part. -/
theorem structUnion_disc_used (rec : Ty → JsonV → Except SErr Val) (args : List Ty) (d : Disc)
    (kvs : List (Str × JsonV)) (m : List (Str × Str)) (dv : JsonV)
    (hm : d.mapping = some m) (hne : m ≠ []) (hp : aget kvs d.prop = some dv) :
    structUnion rec args (some d) (.obj kvs) = discOutcome rec (.obj kvs) m dv := by
  cases m with
  | nil => exact absurd rfl hne
  | cons kv rest =>
    cases dv with
    | str s =>
      cases hv : aget (kv :: rest) s with
      | none => simp only [structUnion, hp, hm, hv, discOutcome]
      | some variant =>
        simp only [structUnion, hp, hm, hv, discOutcome]
        cases rec (.dc variant) (.obj kvs) <;> rfl
    | _ => simp only [structUnion, hp, hm, discOutcome]

/-- Without a usable mapping, or without the property in the payload, the metadata is ignored. -/
theorem structUnion_disc_ignored (rec : Ty → JsonV → Except SErr Val) (args : List Ty) (d : Disc) (j : JsonV)
    (h : d.mapping = none ∨ d.mapping = some [] ∨ (∀ kvs, j = .obj kvs → aget kvs d.prop = none)) :
    structUnion rec args (some d) j = structUnion rec args none j := by
  cases j with
  | obj kvs =>
    rcases h with h | h | h
    · cases hp : aget kvs d.prop <;> simp only [structUnion, hp, h]
    · cases hp : aget kvs d.prop <;> simp only [structUnion, hp, h]
    · simp only [structUnion, h kvs rfl]
  | _ => rfl

/-- Discriminator present and mapped: the mapped class decides alone. -/
theorem structUnion_disc_mapped (rec : Ty → JsonV → Except SErr Val) (args : List Ty) (d : Disc)
    (kvs : List (Str × JsonV)) (m : List (Str × Str)) (s variant : Str)
    (hm : d.mapping = some m) (hp : aget kvs d.prop = some (.str s)) (hv : aget m s = some variant) :
    structUnion rec args (some d) (.obj kvs) =
      match rec (.dc variant) (.obj kvs) with
      | .ok v => .ok v
      | .error _ => .error (.leaf (.discFailed variant)) := by
  rw [structUnion_disc_used rec args d kvs m _ hm (fun e => by rw [e] at hv; cases hv) hp]
  simp only [discOutcome, hv]

theorem firstOk_append_of_fail (rec : Ty → JsonV → Except SErr Val) (j : JsonV) (pre : List Ty) (t : Ty) (v : Val)
    (post : List Ty) (hpre : ∀ u ∈ pre, ∃ e, rec u j = .error e) (h : rec t j = .ok v) :
    firstOk rec j (pre ++ t :: post) = some v := by
  induction pre with
  | nil => simp [firstOk, h]
  | cons u us ih =>
    obtain ⟨e, he⟩ := hpre u (by simp)
    simp only [List.cons_append, firstOk, he]
    exact ih (fun w hw => hpre w (by simp [hw]))

theorem firstOk_none_of_fail (rec : Ty → JsonV → Except SErr Val) (j : JsonV) (ts : List Ty)
    (h : ∀ u ∈ ts, ∃ e, rec u j = .error e) : firstOk rec j ts = none := by
  induction ts with
  | nil => rfl
  | cons u us ih =>
    obtain ⟨e, he⟩ := h u (by simp)
    simp only [firstOk, he]
    exact ih (fun w hw => h w (by simp [hw]))

theorem firstOk_some (rec : Ty → JsonV → Except SErr Val) (j : JsonV) (ts : List Ty) (v : Val)
    (h : firstOk rec j ts = some v) : ∃ t ∈ ts, rec t j = .ok v := by
  induction ts with
  | nil => cases h
  | cons u us ih =>
    unfold firstOk at h
    split at h
    · cases h
      exact ⟨u, by simp, by assumption⟩
    · obtain ⟨t, ht, hr⟩ := ih h
      exact ⟨t, by simp [ht], hr⟩

/-- The member stage never invents. -/
theorem structUnion_members_ok (rec : Ty → JsonV → Except SErr Val) (args : List Ty) (j : JsonV) (v : Val)
    (h : structUnion rec args none j = .ok v) :
    (j = .null ∧ v = .none ∧ args.any isNoneTy = true)
    ∨ (∃ t ∈ args, rec t j = .ok v)
    ∨ (args.any isDictAny = true ∧ isObj j = true ∧ v = Val.ofJson j) := by
  have of_first : ∀ p, firstOk rec j (args.filter p) = some v → ∃ t ∈ args, rec t j = .ok v := fun p hf => by
    obtain ⟨t, ht, hr⟩ := firstOk_some rec j _ v hf
    exact ⟨t, (List.mem_filter.mp ht).1, hr⟩
  cases j with
  | null =>
    rw [structUnion_null] at h
    split at h
    · cases h; exact .inl ⟨rfl, rfl, by assumption⟩
    · cases h
  | obj kvs =>
    rw [structUnion_obj] at h
    split at h
    · cases h; exact .inr (.inl (of_first _ (by assumption)))
    · split at h
      · cases h; exact .inr (.inr ⟨by assumption, rfl, rfl⟩)
      · split at h
        · cases h
        · split at h
          · cases h; exact .inr (.inl (of_first _ (by assumption)))
          · cases h
  | _ =>
    rw [structUnion_scalar rec args _ rfl (fun e => by cases e)] at h
    split at h
    · cases h; exact .inr (.inl (of_first _ (by assumption)))
    · cases h

theorem discOutcome_ok (rec : Ty → JsonV → Except SErr Val) (j : JsonV) (m : List (Str × Str)) (dv : JsonV) (v : Val)
    (h : discOutcome rec j m dv = .ok v) : ∃ s variant, dv = .str s ∧ aget m s = some variant ∧ rec (.dc variant) j = .ok v := by
  unfold discOutcome at h
  repeat' split at h
  all_goals cases h
  exact ⟨_, _, rfl, by assumption, by assumption⟩

/-- `_structure_union` never invents: a successful result is `None` for a `null` payload of a union listing `NoneType`,
    the result of ONE member (or of the class the discriminator maps to) on the whole payload, or the payload itself
    when `dict[str, Any]` is a member. -/
theorem structUnion_ok_cases (rec : Ty → JsonV → Except SErr Val) (args : List Ty) (disc : Option Disc) (j : JsonV) (v : Val)
    (h : structUnion rec args disc j = .ok v) :
    (j = .null ∧ v = .none ∧ args.any isNoneTy = true)
    ∨ (∃ t ∈ args, rec t j = .ok v)
    ∨ (∃ d m s variant kvs, disc = some d ∧ j = .obj kvs ∧ d.mapping = some m ∧ aget kvs d.prop = some (.str s)
          ∧ aget m s = some variant ∧ rec (.dc variant) j = .ok v)
    ∨ (args.any isDictAny = true ∧ isObj j = true ∧ v = Val.ofJson j) := by
  -- the discriminator stage first: either it is passed over and the member stage answers, or the mapped class does
  have hstage : structUnion rec args none j = .ok v
      ∨ ∃ d m s variant kvs, disc = some d ∧ j = .obj kvs ∧ d.mapping = some m ∧ aget kvs d.prop = some (.str s)
          ∧ aget m s = some variant ∧ rec (.dc variant) j = .ok v := by
    cases disc with
    | none => exact .inl h
    | some d =>
      cases j with
      | obj kvs =>
        cases hp : aget kvs d.prop with
        | none => exact .inl (structUnion_disc_ignored rec args d (.obj kvs) (.inr (.inr fun _ e => JsonV.obj.inj e ▸ hp)) ▸ h)
        | some dv =>
          cases hm : d.mapping with
          | none => exact .inl (structUnion_disc_ignored rec args d _ (.inl hm) ▸ h)
          | some m =>
            cases m with
            | nil => exact .inl (structUnion_disc_ignored rec args d _ (.inr (.inl hm)) ▸ h)
            | cons e m =>
              rw [structUnion_disc_used rec args d kvs _ dv hm (List.cons_ne_nil e m) hp] at h
              obtain ⟨s, variant, rfl, hv, hr⟩ := discOutcome_ok _ _ _ _ _ h
              exact .inr ⟨d, _, s, variant, kvs, rfl, rfl, hm, hp, hv, hr⟩
      | _ => exact .inl h
  rcases hstage with h0 | h3
  · exact (structUnion_members_ok rec args j v h0).imp_right (Or.imp_right .inr)
  · exact .inr (.inr (.inl h3))

end Pog
