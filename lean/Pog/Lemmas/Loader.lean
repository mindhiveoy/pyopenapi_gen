import Pog.Model.Loader
/-
  Lemmas about `Pog.Loader` (the inside of one operation of `parse_operations`) used by `Pog.Props.Loader`.
-/
namespace Pog.Loader
open Pog Pog.Ops

/-! ### association lists -/

theorem aget_isSome_iff {α : Type} (d : List (Str × α)) (k : Str) : (aget d k).isSome = true ↔ k ∈ d.map (·.1) := by
  induction d with
  | nil => simp [aget]
  | cons kv rest ih =>
    obtain ⟨k', v'⟩ := kv
    by_cases e : k' = k
    · simp [aget, e]
    · simp [aget, e, ih, Ne.symm e]

theorem aget_eq_some_iff {α : Type} {d : List (Str × α)} (hn : (d.map (·.1)).Nodup) {k : Str} {v : α} :
    aget d k = some v ↔ (k, v) ∈ d :=
  ⟨aget_mem d k v, aget_of_mem_nodup d k v hn⟩

theorem aget_perm {α : Type} {d d' : List (Str × α)} (hp : d.Perm d') (hn : (d.map (·.1)).Nodup) (k : Str) :
    aget d k = aget d' k := by
  ext v
  rw [aget_eq_some_iff hn, aget_eq_some_iff ((hp.map _).nodup_iff.mp hn), hp.mem_iff]

/-! ### the tables enter only through `aget` -/

theorem refOr_congr {t t' : List (Str × JsonV)} (h : ∀ k, aget t k = aget t' k) (n : Str) (d : JsonV) :
    refOr t n d = refOr t' n d := by
  simp only [refOr, h]

theorem parseParams_congr (orc : Oracle) {t t' : List (Str × JsonV)} (h : ∀ k, aget t k = aget t' k) (opId : Str)
    (ps : List JsonV) : parseParams orc t opId ps = parseParams orc t' opId ps := by
  induction ps with
  | nil => rfl
  | cons p ps ih => simp only [parseParams, resolveParam, refOr_congr h, ih]

theorem parseBodyOpt_congr (orc : Oracle) {t t' : List (Str × JsonV)} (h : ∀ k, aget t k = aget t' k) (opId : Str)
    (rb : Option JsonV) : parseBodyOpt orc t opId rb = parseBodyOpt orc t' opId rb := by
  cases rb with
  | none => rfl
  | some rb => simp only [parseBodyOpt, parseBody, resolveBody, refOr_congr h]

theorem parseResponses_congr (u : UInfo) (orc : Oracle) {t t' : List (Str × JsonV)} (h : ∀ k, aget t k = aget t' k)
    (opId : Str) (rs : List (StatusKey × JsonV)) :
    parseResponses u orc t opId rs = parseResponses u orc t' opId rs := by
  induction rs with
  | nil => rfl
  | cons r rs ih =>
    obtain ⟨sc, rn⟩ := r
    simp only [parseResponses, resolveResponse, refOr_congr h, ih]

theorem parseOp_congr (u : UInfo) (orc : Oracle) (c c' : Comps) (i : OpIn)
    (h1 : ∀ k, aget c.parameters k = aget c'.parameters k)
    (h2 : ∀ k, aget c.responses k = aget c'.responses k)
    (h3 : ∀ k, aget c.requestBodies k = aget c'.requestBodies k) :
    parseOp u orc c i = parseOp u orc c' i := by
  simp only [parseOp, parseParams_congr orc h1, parseBodyOpt_congr orc h3, parseResponses_congr u orc h2]

/-! ### decomposition of a successful `parseOp` -/

theorem parseOp_ok {u : UInfo} {orc : Oracle} {c : Comps} {i : OpIn} {out : OpOut} (h : parseOp u orc c i = .ok out) :
    ∃ base ev1 own ev2 body ev3 resps ev4,
      parseParams orc c.parameters i.opId i.pathParams = .ok (base, ev1) ∧
      parseParams orc c.parameters i.opId i.params = .ok (own, ev2) ∧
      parseBodyOpt orc c.requestBodies i.opId i.requestBody = .ok (body, ev3) ∧
      parseResponses u orc c.responses i.opId (normResponses i.responses) = .ok (resps, ev4) ∧
      out = ⟨mergeParams base own, body, resps, ev1 ++ ev2 ++ ev3 ++ ev4⟩ := by
  unfold parseOp at h
  split at h
  · cases h
  · rename_i base ev1 h1
    split at h
    · cases h
    · rename_i own ev2 h2
      split at h
      · cases h
      · rename_i body ev3 h3
        split at h
        · cases h
        · rename_i resps ev4 h4
          cases h
          exact ⟨base, ev1, own, ev2, body, ev3, resps, ev4, h1, h2, h3, h4, rfl⟩

/-! ### responses: status codes and content keys -/

theorem parseResponses_cons_ok {u : UInfo} {orc : Oracle} {tbl : List (Str × JsonV)} {opId : Str} {sc : StatusKey}
    {rn : JsonV} {rest : List (StatusKey × JsonV)} {out : List IRResp} {evs : List Event}
    (h : parseResponses u orc tbl opId ((sc, rn) :: rest) = .ok (out, evs)) :
    ∃ r ev rs' evs', parseResponse u orc opId sc (resolveResponse tbl rn) = .ok (r, ev) ∧
      parseResponses u orc tbl opId rest = .ok (rs', evs') ∧ out = r :: rs' ∧ evs = ev ++ evs' := by
  simp only [parseResponses] at h
  split at h
  · cases h
  · next r ev h1 =>
    split at h
    · cases h
    · next rs' evs' h2 =>
      cases h
      exact ⟨r, ev, rs', evs', h1, h2, rfl, rfl⟩

/-- total version of `respMedia` (the placeholder where it raises): only used to state what a successful content loop
    returns -/
def entryOf (orc : Oracle) (promo : Str) (mn : JsonV) : ContentEntry :=
  match respMedia orc promo mn with
  | .ok c => c
  | .error _ => .placeholder

theorem respContent_ok_iff {orc : Oracle} {promo : Str} :
    ∀ {c : List (Str × JsonV)} {content : List (Str × ContentEntry)}, respContent orc promo c = .ok content ↔
      (∀ x ∈ c, respMedia orc promo x.2 = .ok (entryOf orc promo x.2)) ∧
        content = c.map (fun x => (x.1, entryOf orc promo x.2))
  | [], content => by simp [respContent, eq_comm]
  | (mt, mn) :: rest, content => by
    simp only [respContent, List.forall_mem_cons, List.map_cons]
    cases h1 : respMedia orc promo mn with
    | error e => simp [entryOf, h1]
    | ok ce =>
      have he : entryOf orc promo mn = ce := by rw [entryOf, h1]
      rw [he]
      cases h2 : respContent orc promo rest with
      | error e =>
        -- had every media node of `rest` been accepted, the loop over `rest` would have succeeded
        refine ⟨fun h => (by cases h), fun ⟨⟨_, hall⟩, _⟩ => ?_⟩
        rw [respContent_ok_iff.mpr ⟨hall, rfl⟩] at h2
        cases h2
      | ok cs =>
        obtain ⟨hall, rfl⟩ := respContent_ok_iff.mp h2
        constructor
        · intro h
          cases h
          exact ⟨⟨rfl, hall⟩, rfl⟩
        · rintro ⟨_, rfl⟩
          rfl

theorem respContent_keys {orc : Oracle} {promo : Str} {c : List (Str × JsonV)} {content : List (Str × ContentEntry)}
    (h : respContent orc promo c = .ok content) : content.map (·.1) = c.map (·.1) := by
  rw [(respContent_ok_iff.mp h).2, List.map_map]
  rfl

theorem respContent_perm {orc : Oracle} {promo : Str} {c c' : List (Str × JsonV)} (hp : c.Perm c')
    {content : List (Str × ContentEntry)} (h : respContent orc promo c = .ok content) :
    ∃ content', respContent orc promo c' = .ok content' ∧ content.Perm content' := by
  obtain ⟨hall, rfl⟩ := respContent_ok_iff.mp h
  exact ⟨_, respContent_ok_iff.mpr ⟨fun x hx => hall x (hp.mem_iff.mpr hx), rfl⟩, hp.map _⟩

theorem respOfContent_ok {u : UInfo} {orc : Oracle} {opId code : Str} {c : List (Str × JsonV)} {r : IRResp}
    {ev : List Event} (h : respOfContent u orc opId code c = .ok (r, ev)) :
    ∃ content, respContent orc (respPromoName opId code) c = .ok content ∧
      r = ⟨code, content, (streamOf u content).1, (streamOf u content).2⟩ ∧ ev = contentEvents content := by
  unfold respOfContent at h
  split at h
  · cases h
  · next content hcont =>
    cases h
    exact ⟨content, hcont, rfl, rfl⟩

theorem parseResponse_ok {u : UInfo} {orc : Oracle} {opId : Str} {sc : StatusKey} {node : JsonV} {r : IRResp}
    {ev : List Event} (h : parseResponse u orc opId sc node = .ok (r, ev)) :
    ∃ code kvs c content, sc = .strKey code ∧ node = .obj kvs ∧ opId ≠ [] ∧ contentOf kvs = .ok c ∧
      respContent orc (respPromoName opId code) c = .ok content ∧
      r = ⟨code, content, (streamOf u content).1, (streamOf u content).2⟩ ∧ ev = contentEvents content := by
  unfold parseResponse at h
  split at h
  · cases h
  · cases h
  · rename_i code
    split at h
    · rename_i kvs
      split at h
      · cases h
      · rename_i hop
        split at h
        · cases h
        · rename_i c hc
          obtain ⟨content, hcont, hr, hev⟩ := respOfContent_ok h
          exact ⟨code, kvs, c, content, rfl, rfl, fun e => hop (e ▸ rfl), hc, hcont, hr, hev⟩
    · cases h

theorem parseResponses_status {u : UInfo} {orc : Oracle} {tbl : List (Str × JsonV)} {opId : Str} :
    ∀ {rs : List (StatusKey × JsonV)} {out : List IRResp} {evs : List Event},
      parseResponses u orc tbl opId rs = .ok (out, evs) → rs.map (·.1) = out.map (fun r => StatusKey.strKey r.status)
  | [], _, _, h => by cases h; rfl
  | (sc, rn) :: rest, _, _, h => by
    obtain ⟨r, ev, rs', evs', h1, h2, rfl, rfl⟩ := parseResponses_cons_ok h
    obtain ⟨code, _, _, _, rfl, _, _, _, _, rfl, _⟩ := parseResponse_ok h1
    simp only [List.map_cons, parseResponses_status h2]

theorem parseResponse_eq (u : UInfo) (orc : Oracle) (opId code : Str) (kvs : List (Str × JsonV)) (c : List (Str × JsonV))
    (hop : opId ≠ []) (hc : contentOf kvs = .ok c) :
    parseResponse u orc opId (.strKey code) (.obj kvs) = respOfContent u orc opId code c := by
  unfold parseResponse
  simp only [List.isEmpty_eq_false_iff.mpr hop, hc]
  rfl

/-! ### the stream flag -/

theorem streamOf_flag (u : UInfo) (content : List (Str × ContentEntry)) :
    (streamOf u content).1 =
      (content.any (fun e => (streamLookup u e.1).isSome) || content.any (fun e => e.2.isBinary)) := by
  have key : ((content.filterMap (fun e => streamLookup u e.1)).getLast?).isSome =
      content.any (fun e => (streamLookup u e.1).isSome) := by
    rw [Bool.eq_iff_iff, List.getLast?_isSome, Ne, List.filterMap_eq_nil_iff, List.any_eq_true]
    simp [Option.isSome_iff_ne_none]
  unfold streamOf
  rw [← key]
  split
  · next f hf => simp [hf]
  · next hf =>
    rw [hf]
    split <;> simp [*]

theorem streamOf_flag_perm (u : UInfo) {content content' : List (Str × ContentEntry)} (hp : content.Perm content') :
    (streamOf u content).1 = (streamOf u content').1 := by
  rw [streamOf_flag, streamOf_flag, hp.any_eq, hp.any_eq]

/-! ### parameters -/

theorem parseParams_cons_ok {orc : Oracle} {tbl : List (Str × JsonV)} {opId : Str} {p : JsonV} {ps : List JsonV}
    {out : List IRParam} {evs : List Event} (h : parseParams orc tbl opId (p :: ps) = .ok (out, evs)) :
    ∃ node ip ev ips evs', resolveParam tbl p = .ok node ∧ parseParam orc opId node = .ok (ip, ev) ∧
      parseParams orc tbl opId ps = .ok (ips, evs') ∧ out = ip :: ips ∧ evs = ev ++ evs' := by
  simp only [parseParams] at h
  split at h
  · cases h
  · next node h1 =>
    split at h
    · cases h
    · next ip ev h2 =>
      split at h
      · cases h
      · next ips evs' h3 =>
        cases h
        exact ⟨node, ip, ev, ips, evs', h1, h2, h3, rfl, rfl⟩

/-- `node["name"]` of the (resolved) parameter node -/
def paramNameOf (tbl : List (Str × JsonV)) (p : JsonV) : JsonV :=
  match resolveParam tbl p with
  | .ok (.obj kvs) => (aget kvs "name".toList).getD .null
  | _ => .null

theorem parseParam_ok {orc : Oracle} {opId : Str} {node : JsonV} {p : IRParam} {ev : List Event}
    (h : parseParam orc opId node = .ok (p, ev)) :
    ∃ kvs pname sc, node = .obj kvs ∧ aget kvs "name".toList = some pname ∧
      paramSchema orc opId pname ((aget kvs "schema".toList).getD .null) = .ok (sc, ev) ∧
      p = ⟨pname, (aget kvs "in".toList).getD (.str "query".toList),
           pyTruthy ((aget kvs "required".toList).getD (.bool false)), sc⟩ := by
  unfold parseParam at h
  split at h
  · rename_i kvs
    split at h
    · cases h
    · rename_i pname hn
      split at h
      · cases h
      · rename_i sc ev' hs
        cases h
        exact ⟨kvs, pname, sc, rfl, hn, hs, rfl⟩
  · cases h

/-- `node.get("in", "query")` of the (resolved) parameter node -/
def paramInOf (tbl : List (Str × JsonV)) (p : JsonV) : JsonV :=
  match resolveParam tbl p with
  | .ok (.obj kvs) => (aget kvs "in".toList).getD (.str "query".toList)
  | _ => .null

theorem parseParams_keys {orc : Oracle} {tbl : List (Str × JsonV)} {opId : Str} :
    ∀ {ps : List JsonV} {out : List IRParam} {evs : List Event},
      parseParams orc tbl opId ps = .ok (out, evs) →
        out.map (fun p => (p.name, p.pin)) = ps.map (fun n => (paramNameOf tbl n, paramInOf tbl n))
  | [], _, _, h => by cases h; rfl
  | p :: ps, _, _, h => by
    obtain ⟨node, ip, ev, ips, evs', h1, h2, h3, rfl, rfl⟩ := parseParams_cons_ok h
    obtain ⟨kvs, pname, sc, rfl, hname, _, rfl⟩ := parseParam_ok h2
    simp only [List.map_cons, parseParams_keys h3, paramNameOf, paramInOf, h1, hname, Option.getD_some]

theorem parseParams_names {orc : Oracle} {tbl : List (Str × JsonV)} {opId : Str} {ps : List JsonV}
    {out : List IRParam} {evs : List Event} (h : parseParams orc tbl opId ps = .ok (out, evs)) :
    out.map (·.name) = ps.map (paramNameOf tbl) := by
  simpa [List.map_map, Function.comp_def] using congrArg (List.map Prod.fst) (parseParams_keys h)

theorem parseParams_length {orc : Oracle} {tbl : List (Str × JsonV)} {opId : Str} {ps : List JsonV}
    {out : List IRParam} {evs : List Event} (h : parseParams orc tbl opId ps = .ok (out, evs)) :
    out.length = ps.length := by
  simpa using congrArg List.length (parseParams_names h)

/-! ### the override of path-level parameters (`mergeParams`) -/

theorem mergeParams_sublist (base own : List IRParam) : (mergeParams base own).Sublist (base ++ own) :=
  List.Sublist.append List.filter_sublist (List.Sublist.refl own)

theorem mergeParams_suffix (base own : List IRParam) : own <:+ mergeParams base own :=
  List.suffix_append _ _

theorem mem_mergeParams {base own : List IRParam} {p : IRParam} :
    p ∈ mergeParams base own ↔ (p ∈ base ∧ ∀ q ∈ own, sameParamKey p q = false) ∨ p ∈ own := by
  simp only [mergeParams, List.mem_append, List.mem_filter, Bool.not_eq_true', List.any_eq_false, Bool.not_eq_true]

theorem mergeParams_of_distinct {base own : List IRParam} (h : ∀ p ∈ base, ∀ q ∈ own, sameParamKey p q = false) :
    mergeParams base own = base ++ own := by
  simp only [mergeParams, List.append_cancel_right_eq, List.filter_eq_self, Bool.not_eq_true', List.any_eq_false,
    Bool.not_eq_true]
  exact h

theorem mergeParams_pairwise {base own : List IRParam}
    (hb : base.Pairwise (fun a b => sameParamKey a b = false)) (ho : own.Pairwise (fun a b => sameParamKey a b = false)) :
    (mergeParams base own).Pairwise (fun a b => sameParamKey a b = false) := by
  refine List.pairwise_append.mpr ⟨hb.sublist List.filter_sublist, ho, ?_⟩
  intro a ha b hb'
  simp only [List.mem_filter, Bool.not_eq_true', List.any_eq_false, Bool.not_eq_true] at ha
  exact ha.2 b hb'

/-! ### what the parameter promotion names are -/

theorem promoFor_ok {cond : Bool} {opId suffix : Str} {pname : JsonV} {x : Option Str}
    (h : promoFor cond opId suffix pname = .ok x) :
    (cond = true ∧ ∃ n, pname = .str n ∧ x = some (paramPromoName opId n ++ suffix)) ∨ (cond = false ∧ x = none) := by
  unfold promoFor at h
  cases cond with
  | false =>
    cases h
    exact Or.inr ⟨rfl, rfl⟩
  | true =>
    simp only [if_true] at h
    split at h
    · cases h
      exact Or.inl ⟨rfl, _, rfl, rfl⟩
    · cases h

/-- The three ways `paramSchema` succeeds: the enum-array arm, a parsed schema, no schema. -/
theorem paramSchema_ok {orc : Oracle} {opId : Str} {pname sch : JsonV} {sc : ParamSchema} {ev : List Event}
    (h : paramSchema orc opId pname sch = .ok (sc, ev)) :
    ∃ inlineName, promoFor (objLike sch) opId [] pname = .ok inlineName ∧
      ((∃ enumName, (enumArrayItems sch).isSome = true ∧
          promoFor (pyTruthy pname) opId "Item".toList pname = .ok enumName ∧
          sc = .enumArray enumName (enumName.map sanClass) ∧ ev = enumName.toList.map .regEnum) ∨
       ((orc inlineName sch).isSome = true ∧ sc = .parsed ⟨inlineName, sch⟩ ∧ ev = [.parse ⟨inlineName, sch⟩]) ∨
       (sc = .blank ∧ ev = [])) := by
  unfold paramSchema at h
  split at h
  · cases h
  · next inlineName hin =>
    refine ⟨inlineName, hin, ?_⟩
    split at h
    · next its hits =>
      split at h
      · cases h
      · next enumName hen =>
        split at h
        · cases h
        · cases h
          exact .inl ⟨enumName, by rw [hits]; rfl, hen, rfl, by cases enumName <;> rfl⟩
    · split at h
      · split at h
        · cases h
        · next o ho =>
          cases h
          exact .inr (.inl ⟨by rw [ho]; rfl, rfl, rfl⟩)
      · cases h
        exact .inr (.inr ⟨rfl, rfl⟩)

theorem paramSchema_parsed {orc : Oracle} {opId : Str} {pname sch : JsonV} {req : ParseReq} {ev : List Event}
    (h : paramSchema orc opId pname sch = .ok (.parsed req, ev)) :
    req.node = sch ∧ ev = [.parse req] ∧ (orc req.name req.node).isSome = true ∧
      ((objLike sch = true ∧ ∃ n, pname = .str n ∧ req.name = some (paramPromoName opId n)) ∨
       (objLike sch = false ∧ req.name = none)) := by
  obtain ⟨inlineName, hin, ⟨_, _, _, hsc, _⟩ | ⟨ho, hsc, hev⟩ | ⟨hsc, _⟩⟩ := paramSchema_ok h
  · cases hsc
  · cases hsc
    refine ⟨rfl, hev, ho, ?_⟩
    rcases promoFor_ok hin with ⟨hc, n, hn, hx⟩ | ⟨hc, hx⟩
    · exact .inl ⟨hc, n, hn, by simpa using hx⟩
    · exact .inr ⟨hc, hx⟩
  · cases hsc

theorem paramSchema_enumArray {orc : Oracle} {opId : Str} {pname sch : JsonV} {k it : Option Str} {ev : List Event}
    (h : paramSchema orc opId pname sch = .ok (.enumArray k it, ev)) :
    (enumArrayItems sch).isSome = true ∧ it = k.map sanClass ∧
      ((pyTruthy pname = true ∧ ∃ n, pname = .str n ∧ k = some (paramEnumName opId n) ∧
          ev = [.regEnum (paramEnumName opId n)]) ∨
       (pyTruthy pname = false ∧ k = none ∧ ev = [])) := by
  obtain ⟨_, _, ⟨enumName, hits, hen, hsc, hev⟩ | ⟨_, hsc, _⟩ | ⟨hsc, _⟩⟩ := paramSchema_ok h
  · cases hsc
    refine ⟨hits, rfl, ?_⟩
    rcases promoFor_ok hen with ⟨hc, n, hn, rfl⟩ | ⟨hc, rfl⟩
    · exact .inl ⟨hc, n, hn, rfl, hev⟩
    · exact .inr ⟨hc, rfl, hev⟩
  · cases hsc
  · cases hsc

/-- every event of a parameter parse is the one request / registration of that parameter -/
theorem paramSchema_events {orc : Oracle} {opId : Str} {pname sch : JsonV} {sc : ParamSchema} {ev : List Event}
    (h : paramSchema orc opId pname sch = .ok (sc, ev)) :
    ev = match sc with
         | .parsed r => [.parse r]
         | .enumArray (some k) _ => [.regEnum k]
         | .enumArray none _ => []
         | .blank => [] := by
  obtain ⟨_, _, ⟨enumName, _, _, rfl, rfl⟩ | ⟨_, rfl, rfl⟩ | ⟨rfl, rfl⟩⟩ := paramSchema_ok h
  · cases enumName <;> rfl
  · rfl
  · rfl

/-! ### what the response promotion names are -/

theorem mediaReq_some {promo : Str} {mn : JsonV} {req : ParseReq} (h : mediaReq promo mn = .ok (some req)) :
    (mediaIsSchemaRef mn = .ok true ∧ req = ⟨none, mn⟩) ∨
    (mediaIsSchemaRef mn = .ok false ∧ ∃ kvs, mn = .obj kvs ∧ aget kvs "schema".toList = some req.node ∧
      req.name = if objLike req.node then some promo else none) := by
  unfold mediaReq at h
  split at h
  · cases h
  · rename_i hr
    cases h
    exact Or.inl ⟨hr, rfl⟩
  · rename_i hr
    split at h
    · rename_i kvs
      split at h
      · rename_i msn hm
        cases h
        exact Or.inr ⟨hr, kvs, rfl, hm, rfl⟩
      · cases h
    · cases h

theorem respMedia_parsed {orc : Oracle} {promo : Str} {mn : JsonV} {req : ParseReq} {out : ParseOut}
    (h : respMedia orc promo mn = .ok (.parsed req out)) :
    mediaReq promo mn = .ok (some req) ∧ orc req.name req.node = some out := by
  unfold respMedia at h
  split at h
  · cases h
  · cases h
  · rename_i r hr
    split at h
    · cases h
    · rename_i o ho
      cases h
      exact ⟨hr, ho⟩

theorem respMedia_placeholder {orc : Oracle} {promo : Str} {mn : JsonV}
    (h : respMedia orc promo mn = .ok .placeholder) : mediaReq promo mn = .ok none := by
  unfold respMedia at h
  split at h
  · cases h
  · assumption
  · split at h
    · cases h
    · cases h

theorem respContent_mem {orc : Oracle} {promo : Str} {c : List (Str × JsonV)} {content : List (Str × ContentEntry)}
    (h : respContent orc promo c = .ok content) {mt : Str} {e : ContentEntry} (hm : (mt, e) ∈ content) :
    ∃ mn, (mt, mn) ∈ c ∧ respMedia orc promo mn = .ok e := by
  obtain ⟨hall, rfl⟩ := respContent_ok_iff.mp h
  obtain ⟨x, hx, he⟩ := List.mem_map.mp hm
  cases he
  exact ⟨x.2, hx, hall x hx⟩

/-! ### content keys of every response of an operation -/

/-- the relation between a declared response and its `IRResponse`, for `response_content_keys_preserved` -/
def ContentKeysOf (tbl : List (Str × JsonV)) (x : StatusKey × JsonV) (r : IRResp) : Prop :=
  ∃ kvs c, resolveResponse tbl x.2 = .obj kvs ∧ contentOf kvs = .ok c ∧ r.content.map (·.1) = c.map (·.1)

theorem parseResponses_content_keys {u : UInfo} {orc : Oracle} {tbl : List (Str × JsonV)} {opId : Str} :
    ∀ {rs : List (StatusKey × JsonV)} {out : List IRResp} {evs : List Event},
      parseResponses u orc tbl opId rs = .ok (out, evs) →
      out.length = rs.length ∧ ∀ p ∈ rs.zip out, ContentKeysOf tbl p.1 p.2
  | [], _, _, h => by cases h; exact ⟨rfl, by simp⟩
  | (sc, rn) :: rest, _, _, h => by
    obtain ⟨r, ev, rs', evs', h1, h2, rfl, rfl⟩ := parseResponses_cons_ok h
    obtain ⟨code, kvs, c, content, _, hnode, _, hc, hcont, hr, _⟩ := parseResponse_ok h1
    obtain ⟨hl, hall⟩ := parseResponses_content_keys h2
    refine ⟨by simp [hl], fun p hp => ?_⟩
    simp only [List.zip_cons_cons, List.mem_cons] at hp
    rcases hp with rfl | hp
    · refine ⟨kvs, c, hnode, hc, ?_⟩
      rw [hr]
      exact respContent_keys hcont
    · exact hall p hp

/-! ### a `$ref` to `components.responses` that cannot be followed -/

theorem refOr_none {tbl : List (Str × JsonV)} {n : Str} (d : JsonV) (h : aget tbl n = none) : refOr tbl n d = d := by
  simp [refOr, h]

theorem refOr_falsy {tbl : List (Str × JsonV)} {n : Str} {v : JsonV} (d : JsonV) (h : aget tbl n = some v)
    (hf : pyTruthy v = false) : refOr tbl n d = d := by
  simp [refOr, h, hf]

theorem refOr_truthy {tbl : List (Str × JsonV)} {n : Str} {v : JsonV} (d : JsonV) (h : aget tbl n = some v)
    (hf : pyTruthy v = true) : refOr tbl n d = v := by
  simp [refOr, h, hf]

theorem resolveResponse_ref {tbl : List (Str × JsonV)} {kvs : List (Str × JsonV)} {r : Str}
    (h1 : aget kvs "$ref".toList = some (.str r)) (h2 : startsWith r respPrefix = true) :
    resolveResponse tbl (.obj kvs) = refOr tbl (lastSeg r) (.obj kvs) := by
  simp only [resolveResponse, h1, h2, if_true]

/-! ### promotion names: injectivity -/

theorem respPromoName_eq_iff (a c a' c' : Str) : respPromoName a c = respPromoName a' c' ↔ a ++ c = a' ++ c' :=
  List.append_left_inj _

theorem respPromoName_inj_same_len {a c a' c' : Str} (hl : c.length = c'.length)
    (h : respPromoName a c = respPromoName a' c') : a = a' ∧ c = c' :=
  List.append_inj' ((respPromoName_eq_iff a c a' c').mp h) hl

/-- a key of the `responses` mapping as OpenAPI allows it: `default`, or three characters the first of which is a digit
    (`200`, `2XX`) -/
def isStatusKey (c : Str) : Bool :=
  c == "default".toList ||
    match c with
    | [d, _, _] => isDigitA d
    | _ => false

theorem append_default_ne (a a' : Str) (d x y : Char) (hd : isDigitA d = true)
    (h : a ++ "default".toList = a' ++ [d, x, y]) : False := by
  -- the last three characters of the left side are `u`, `l`, `t`: `d = 'u'`, which is no digit
  have e : "default".toList = "defa".toList ++ ['u', 'l', 't'] := by decide
  rw [e, ← List.append_assoc] at h
  cases (List.append_inj' h rfl).2
  exact absurd hd (by decide)

theorem respPromoName_inj_status {a c a' c' : Str} (hc : isStatusKey c = true) (hc' : isStatusKey c' = true)
    (h : respPromoName a c = respPromoName a' c') : a = a' ∧ c = c' := by
  have happ := (respPromoName_eq_iff a c a' c').mp h
  unfold isStatusKey at hc hc'
  simp only [Bool.or_eq_true, beq_iff_eq] at hc hc'
  rcases hc with hc | hc <;> rcases hc' with hc' | hc'
  · exact respPromoName_inj_same_len (by rw [hc, hc']) h
  · exfalso
    split at hc'
    · rename_i d x y
      rw [hc] at happ
      exact append_default_ne a a' d x y hc' happ
    · cases hc'
  · exfalso
    split at hc
    · rename_i d x y
      rw [hc'] at happ
      exact append_default_ne a' a d x y hc happ.symm
    · cases hc
  · split at hc
    · split at hc'
      · exact respPromoName_inj_same_len rfl h
      · cases hc'
    · cases hc

/-! ### `stream_format` under re-ordering -/

theorem streamOf_format_perm (u : UInfo) {content content' : List (Str × ContentEntry)} (hp : content.Perm content')
    (hu : ∀ f ∈ content.filterMap (fun e => streamLookup u e.1),
          ∀ g ∈ content.filterMap (fun e => streamLookup u e.1), f = g) :
    streamOf u content = streamOf u content' := by
  have hpf := hp.filterMap (fun e => streamLookup u e.1)
  have hpw := List.pairwise_of_forall_mem_list hu
  -- a list whose members all agree is equal to each of its permutations
  have heq := hpf.eq_of_pairwise (fun _ _ _ _ e _ => e) hpw (hpw.perm hpf Eq.symm)
  simp only [streamOf, heq, hp.any_eq]

/-! ### every parsed parameter comes from one `parse_parameter` call with this operation's id -/

theorem parseParams_mem {orc : Oracle} {tbl : List (Str × JsonV)} {opId : Str} :
    ∀ {ps : List JsonV} {out : List IRParam} {evs : List Event},
      parseParams orc tbl opId ps = .ok (out, evs) → ∀ p ∈ out, ∃ node ev, parseParam orc opId node = .ok (p, ev)
  | [], _, _, h, p, hp => by cases h; cases hp
  | _ :: _, _, _, h, p, hp => by
    obtain ⟨node, ip, ev, ips, evs', _, h2, h3, rfl, rfl⟩ := parseParams_cons_ok h
    rcases List.mem_cons.mp hp with rfl | hm
    · exact ⟨node, ev, h2⟩
    · exact parseParams_mem h3 p hm

theorem parseParams_append {orc : Oracle} {tbl : List (Str × JsonV)} {opId : Str} {xs ys : List JsonV}
    {a b : List IRParam} {ea eb : List Event}
    (h1 : parseParams orc tbl opId xs = .ok (a, ea)) (h2 : parseParams orc tbl opId ys = .ok (b, eb)) :
    parseParams orc tbl opId (xs ++ ys) = .ok (a ++ b, ea ++ eb) := by
  induction xs generalizing a ea with
  | nil =>
    cases h1
    simpa using h2
  | cons x xs ih =>
    obtain ⟨node, ip, ev, ips, evs', hn, hp, h3, rfl, rfl⟩ := parseParams_cons_ok h1
    simp only [List.cons_append, parseParams, hn, hp, ih h3, List.append_assoc]

/-! ### link with the control skeleton `Pog.Ops`: a kept operation passes `Ops.respError` -/

theorem parseResponses_respError {u : UInfo} {orc : Oracle} {tbl : List (Str × JsonV)} {opId : Str} :
    ∀ {rs : List (StatusKey × JsonV)} {out : List IRResp} {evs : List Event},
      parseResponses u orc tbl opId rs = .ok (out, evs) → Ops.respError opId (rs.map (·.1)) = none
  | [], _, _, _ => rfl
  | (sc, rn) :: rest, _, _, h => by
    obtain ⟨r, ev, rs', evs', h1, h2, rfl, rfl⟩ := parseResponses_cons_ok h
    obtain ⟨code, _, _, _, rfl, _, hop, _⟩ := parseResponse_ok h1
    have : opId.isEmpty = false := List.isEmpty_eq_false_iff.mpr hop
    simp only [List.map_cons, Ops.respError, this, Bool.false_eq_true, if_false]
    exact parseResponses_respError h2

/-! ### table-level facts about STREAM_FORMATS (re-checked whenever the table is regenerated) -/

theorem stream_table_values_truthy : Pog.Gen.streamFormats.all (fun p => !p.2.isEmpty) = true := by decide

theorem streamLookup_isSome_iff (u : UInfo) (mt : Str) :
    (streamLookup u mt).isSome = true ↔ u.lowerS mt ∈ Pog.Gen.streamFormats.map (·.1) := by
  rw [← aget_isSome_iff]
  unfold streamLookup
  cases h : aget Pog.Gen.streamFormats (u.lowerS mt) with
  | none => simp
  | some f =>
    have := aget_of_all _ _ stream_table_values_truthy _ _ h
    simp only [Bool.not_eq_true'] at this
    simp [this]

end Pog.Loader
