import Pog.Lemmas.ParserFrame
/-
  Lemmas about M-parser: the event trace.

  Every function of the model only talks to the tracker through `doEnter / doExit / doReset`, which
  append the event to `PSt.trace`; so for every call
      (post).trace = (pre).trace ++ w,   (post).tr = runEvs (pre).tr w,   Consistent (pre).tr w
  (`Replay`) and — because `parseCore` closes what it opens on every path — `w` is `Shaped`.
  The two together are `Ext`; it is a `HeapFrame`, which takes it through every function up to `body`
  given that the callback `P` preserves it, and `parseCore` puts the bracket around.  Induction on
  the fuel is then one line.
-/
namespace Pog.Prs
open Pog Pog.Trk

theorem consistentB_append (s : TrSt) (u v : List Ev) :
    consistentB s (u ++ v) = (consistentB s u && consistentB (runEvs s u) v) := by
  induction u generalizing s with
  | nil => simp [consistentB, runEvs]
  | cons e u ih =>
    simp only [List.cons_append, consistentB, ih, runEvs_cons, Bool.and_assoc]

theorem Consistent.append {s : TrSt} {u v : List Ev} (hu : Consistent s u)
    (hv : Consistent (runEvs s u) v) : Consistent s (u ++ v) := by
  unfold Consistent at *
  rw [consistentB_append, hu, hv]; rfl

/-- `s'` is `s` after the events `w`: they were appended to the trace, the tracker has gone
    through them, and the answers recorded in them are the tracker's. -/
def Replay (s s' : PSt) (w : List Ev) : Prop :=
  s'.trace = s.trace ++ w ∧ s'.tr = runEvs s.tr w ∧ Consistent s.tr w

/-- same tracker, same trace (heap / registry / counters may differ) -/
def SameTr (s s' : PSt) : Prop := s'.tr = s.tr ∧ s'.trace = s.trace

theorem SameTr.replay {s s' : PSt} (h : SameTr s s') : Replay s s' [] :=
  ⟨by rw [h.2, List.append_nil], h.1, rfl⟩

theorem Replay.append {a b c : PSt} {u v : List Ev} (h1 : Replay a b u) (h2 : Replay b c v) :
    Replay a c (u ++ v) := by
  obtain ⟨ht1, hr1, hc1⟩ := h1
  obtain ⟨ht2, hr2, hc2⟩ := h2
  exact ⟨by rw [ht2, ht1, List.append_assoc], by rw [hr2, hr1, runEvs_append],
    Consistent.append hc1 (hr1 ▸ hc2)⟩

theorem Replay.enter (s : PSt) (name : Option Str) (allow : Bool) :
    Replay s (s.doEnter name allow).2.2 [.enter name allow (Trk.enter s.tr name allow).2.action] := by
  unfold PSt.doEnter
  dsimp only
  split
  · dsimp only [PSt.alloc]
    split <;> exact ⟨rfl, rfl, by simp [Consistent, consistentB]⟩
  · exact ⟨rfl, rfl, by simp [Consistent, consistentB]⟩

theorem Replay.exit (s : PSt) (name : Option Str) : Replay s (s.doExit name) [.exit name] :=
  ⟨rfl, rfl, rfl⟩

theorem Replay.reset (s : PSt) (n : Str) : Replay s (s.doReset n) [.reset n] := ⟨rfl, rfl, rfl⟩

/-- `s'` is reached from `s` by emitting a shaped, consistent event word. -/
def Ext (s s' : PSt) : Prop :=
  ∃ w, s'.trace = s.trace ++ w ∧ Shaped w ∧ s'.tr = runEvs s.tr w ∧ Consistent s.tr w

theorem Ext.intro {s s' : PSt} {w : List Ev} (hs : Shaped w) (hr : Replay s s' w) : Ext s s' :=
  ⟨w, hr.1, hs, hr.2⟩

theorem SameTr.ext {s s' : PSt} (h : SameTr s s') : Ext s s' := .intro .nil h.replay

theorem Ext.refl (s : PSt) : Ext s s := SameTr.ext ⟨rfl, rfl⟩

theorem Ext.trans {a b c : PSt} (h1 : Ext a b) (h2 : Ext b c) : Ext a c := by
  obtain ⟨w1, ht1, hs1, hr1⟩ := h1
  obtain ⟨w2, ht2, hs2, hr2⟩ := h2
  exact .intro (hs1.append hs2) (Replay.append ⟨ht1, hr1⟩ ⟨ht2, hr2⟩)

theorem SameTr.trans_ext {a b c : PSt} (h1 : SameTr a b) (h2 : Ext b c) : Ext a c :=
  Ext.trans h1.ext h2

theorem Ext.heapFrame : HeapFrame Ext where
  refl := Ext.refl
  trans := Ext.trans
  alloc := fun _ _ => SameTr.ext ⟨rfl, rfl⟩
  modify := fun _ _ _ => SameTr.ext ⟨rfl, rfl⟩
  regSet := fun _ _ _ => SameTr.ext ⟨rfl, rfl⟩

theorem parseCore_ext (decls : Decls) (P : PFn) (hP : FrameP Ext P) (name : Option Str) (node : Node)
    (allow : Bool) (s : PSt) : Ext s (parseCore decls P name node allow s).2 := by
  have henter := Replay.enter s name allow
  have hexit := henter.append (Replay.exit _ name)
  have hbody : ∀ s1, ∃ w, Shaped w ∧
      Replay s1 (bodyAndExit decls P name node allow s1).2 (w ++ [.exit name]) := by
    intro s1
    obtain ⟨w, ht, hs, hr⟩ := body_frame Ext.heapFrame decls P hP name node allow s1
    exact ⟨w, hs, Replay.append ⟨ht, hr⟩ (Replay.exit _ name)⟩
  -- each way through `parseCore` emits one of the three brackets
  have hstop : (Trk.enter s.tr name allow).2.action ≠ .continueParsing →
      Ext s ((s.doEnter name allow).2.2.doExit name) :=
    fun hne => .intro (.stop name allow _ [] hne .nil) hexit
  rcases parseCore_cases decls P name node allow s with ⟨hact, e⟩ | ⟨hact, e | ⟨o, e⟩⟩ | ⟨hact, e, _⟩ |
    ⟨hact, s1, e, h1⟩ | ⟨hact, e⟩ <;> rw [e]
  · exact hstop (by simp [hact])
  · exact hstop (by simp [hact])
  · exact Ext.trans (hstop (by simp [hact])) (Ext.heapFrame.alloc _ _)
  · exact hstop (by simp [hact])
  · have h1 : Replay ((s.doEnter name allow).2.2.doExit name) s1 (resetEvs name) := by
      rcases h1 with ⟨rfl, hn⟩ | ⟨n, _, hn, rfl⟩ <;> rw [hn]
      · exact SameTr.replay ⟨rfl, rfl⟩
      · exact Replay.reset _ n
    rw [hact] at hexit
    obtain ⟨w, hs, hw⟩ := hbody s1
    exact .intro (.fall name allow w [] hs .nil) (hexit.append (h1.append hw))
  · rw [hact] at henter
    obtain ⟨w, hs, hw⟩ := hbody _
    exact .intro (.cont name allow w [] hs .nil) (henter.append hw)

theorem parseStep_ext (decls : Decls) (P : PFn) (hP : FrameP Ext P) : FrameP Ext (parseStep decls P) := by
  intro name node allow s
  unfold parseStep
  simp only []
  have h1 : SameTr s { s with nest := s.nest + 1, maxNest := max s.maxNest (s.nest + 1) } := ⟨rfl, rfl⟩
  exact Ext.trans h1.ext (Ext.trans (parseCore_ext decls P hP name node allow _) (SameTr.ext ⟨rfl, rfl⟩))

theorem parse_ext (decls : Decls) (fuel : Nat) : FrameP Ext (parse decls fuel) := by
  induction fuel with
  | zero =>
    intro name node allow s
    exact SameTr.ext ⟨rfl, rfl⟩
  | succ n ih => exact parseStep_ext decls _ ih

theorem buildLoop_ext (decls : Decls) (fuel : Nat) (ds : List (Str × Node)) :
    ∀ s, Ext s (buildLoop decls fuel ds s) :=
  buildLoop_of_parse Ext.heapFrame decls fuel (parse_ext decls fuel) ds

end Pog.Prs
