import Pog.Lemmas.PyLex
import Pog.Model.Sinks
/-
  The sinks of `Pog.Model.Sinks` that escape nothing or escape exactly: literal sinks, `json.dumps` defaults,
  field comments, the alias docstring.  Each is read back by M-pylex one escape class at a time.
-/
namespace Pog

/-- By induction along the two automata.  Only a recognised escape needs an idea: it yields at most one
    code point for its two characters, and the rest of the literal can never make up for the loss
    (`litRun_length`). -/
theorem litRun_safe_iff (b : Bool) (s : Str) :
    litRun (if b then .bs else .norm) (s ++ ['"']) = some ((if b then [92] else []) ++ strToCps s)
      ↔ litSafeRun b s = true := by
  induction s generalizing b with
  | nil => cases b <;> simp [litRun, litStep, litNorm, escStep, litSafeRun, strToCps]
  | cons c cs ih =>
    have ihn := ih false
    have ihb := ih true
    simp only [Bool.false_eq_true, if_false, if_true, List.nil_append] at ihn ihb
    cases b with
    | false =>
      simp only [Bool.false_eq_true, if_false, List.nil_append, List.cons_append, litSafeRun]
      by_cases hq : (c == '"' || c == '\n' || c == '\r' || c == cNUL) = true
      · rw [if_pos hq]
        simp only [Bool.or_eq_true, beq_iff_eq] at hq
        rcases hq with ((rfl | rfl) | rfl) | rfl <;> simp [litRun, litStep, litNorm, cNUL]
      · rw [if_neg hq]
        simp only [Bool.or_eq_true, not_or, Bool.not_eq_true] at hq
        by_cases hb : c = '\\'
        · subst hb
          rw [litRun_backslash]
          simpa [strToCps] using ihb
        · rw [litRun_plain c (by simp [plainChar, hq, hb])]
          simpa [strToCps, beq_false_of_ne hb] using ihn
    | true =>
      simp only [if_true, List.cons_append, litSafeRun]
      cases hr : isRecognisedEsc c with
      | false =>
        rw [litRun_bs_done c _ (escStep_bs_unknown c hr)]
        simpa [strToCps] using ihn
      | true =>
        simp only [Bool.not_true, Bool.false_and, Bool.false_eq_true, iff_false]
        intro h
        have := litRun_cons_length 0 .bs c _ _ (litStep_within 0 .bs c (escStep_bs_recognised c hr))
          (fun st' r' => litRun_length st' _ r') h
        simp [strToCps] at this
        omega

theorem hexDigitLower_spec : ∀ d : Fin 16, isHexC (hexDigitLower d.val) = true ∧ hexVal (hexDigitLower d.val) = d.val := by
  decide

theorem litRun_hex_cont (need v d : Nat) (hd : d < 16) (hn : 2 ≤ need) (rest : Str) :
    litRun (.hex need v) (hexDigitLower d :: rest) = litRun (.hex (need - 1) (v * 16 + d)) rest := by
  have : ¬ need ≤ 1 := by omega
  simp [litRun, litStep, escStep, hexDigitLower_spec ⟨d, hd⟩, this]

theorem litRun_hex_last (v d : Nat) (hd : d < 16) (hv : v * 16 + d ≤ 1114111) (rest : Str) :
    litRun (.hex 1 v) (hexDigitLower d :: rest) = (litRun .norm rest).map ([v * 16 + d] ++ ·) := by
  simp [litRun, litStep, escStep, hexDigitLower_spec ⟨d, hd⟩, hv]

/-- Horner evaluation of the four hexadecimal digits of `n`, as the `hex` states accumulate it. -/
theorem hex4_value (n : Nat) (hn : n < 65536) :
    (((0 * 16 + n / 4096 % 16) * 16 + n / 256 % 16) * 16 + n / 16 % 16) * 16 + n % 16 = n := by
  rw [Nat.zero_mul, Nat.zero_add, Nat.mod_eq_of_lt (Nat.div_lt_of_lt_mul hn : n / 4096 < 16),
    show n / 4096 = n / 256 / 16 from (Nat.div_div_eq_div_mul n 256 16).symm, Nat.div_add_mod',
    show n / 256 = n / 16 / 16 from (Nat.div_div_eq_div_mul n 16 16).symm, Nat.div_add_mod', Nat.div_add_mod']

/-- `\uXXXX`: four hex digits give back the 16-bit value. -/
theorem litRun_u4 (n : Nat) (hn : n < 65536) (rest : Str) :
    litRun .norm ('\\' :: 'u' :: (hex4 n ++ rest)) = (litRun .norm rest).map ([n] ++ ·) := by
  have hd (m : Nat) : m % 16 < 16 := Nat.mod_lt m (by decide)
  rw [litRun_backslash, litRun_bs_cont 'u' (.hex 4 0) (by decide)]
  simp only [hex4, List.cons_append, List.nil_append]
  rw [litRun_hex_cont 4 _ _ (hd _) (by decide), litRun_hex_cont 3 _ _ (hd _) (by decide),
    litRun_hex_cont 2 _ _ (hd _) (by decide), litRun_hex_last _ _ (hd _) (by rw [hex4_value n hn]; omega),
    hex4_value n hn]
  rfl

/-- The code units `json.dumps` writes for one character. -/
def cps16 (c : Char) : CpStr :=
  if c.toNat < 0x10000 then [c.toNat]
  else [0xd800 + (c.toNat - 0x10000) / 1024, 0xdc00 + (c.toNat - 0x10000) % 1024]

theorem utf16Cps_cons (c : Char) (cs : Str) : utf16Cps (c :: cs) = cps16 c ++ utf16Cps cs := by
  simp only [utf16Cps, cps16]
  split <;> rfl

theorem char_lt (c : Char) : c.toNat < 0x110000 := by
  have h : c.val.toNat < 0xd800 ∨ (0xdfff < c.val.toNat ∧ c.val.toNat < 0x110000) := c.valid
  show c.val.toNat < _
  omega

/-- A two-character escape `\e` that CPython reads back as the character it was written for. -/
theorem litRun_short (c e : Char) (he : escStep .bs e = .done [c.toNat]) (hc : c.toNat < 0x10000) (rest : Str) :
    litRun .norm (['\\', e] ++ rest) = (litRun .norm rest).map (cps16 c ++ ·) := by
  rw [cps16, if_pos hc]
  exact (litRun_backslash _).trans (litRun_bs_done e _ he rest)

theorem litRun_jsonEsc (c : Char) (rest : Str) :
    litRun .norm (jsonEscChar c ++ rest) = (litRun .norm rest).map (cps16 c ++ ·) := by
  fun_cases jsonEscChar c
  · obtain rfl := eq_of_beq ‹(c == '"') = true›
    exact litRun_short _ _ (by decide) (by decide) rest
  · obtain rfl := eq_of_beq ‹(c == '\\') = true›
    exact litRun_short _ _ (by decide) (by decide) rest
  · obtain rfl := eq_of_beq ‹(c == '\n') = true›
    exact litRun_short _ _ (by decide) (by decide) rest
  · obtain rfl := eq_of_beq ‹(c == '\r') = true›
    exact litRun_short _ _ (by decide) (by decide) rest
  · obtain rfl := eq_of_beq ‹(c == '\t') = true›
    exact litRun_short _ _ (by decide) (by decide) rest
  · have h := eq_of_beq ‹(c.toNat == 12) = true›
    exact litRun_short _ _ (by rw [h]; decide) (by omega) rest
  · have h := eq_of_beq ‹(c.toNat == 8) = true›
    exact litRun_short _ _ (by rw [h]; decide) (by omega) rest
  · rename_i h1 h2 h3 h4 _ _ _ h
    simp only [Bool.and_eq_true, decide_eq_true_eq] at h
    have h5 : ¬ c = cNUL := fun hc => by rw [hc] at h; exact absurd h.1 (by decide)
    rw [List.singleton_append, litRun_plain c (by simp [plainChar, h1, h2, h3, h4, h5]), cps16, if_pos (by omega)]
  · rename_i hlt
    rw [List.cons_append, List.cons_append, litRun_u4 _ hlt, cps16, if_pos hlt]
  · rename_i hge
    have hlt := char_lt c
    rw [List.cons_append, List.cons_append, List.append_assoc, List.cons_append, List.cons_append,
      litRun_u4 _ (by omega), litRun_u4 _ (by omega), cps16, if_neg hge, Option.map_map]
    rfl

theorem litRun_json (s : Str) : litRun .norm (s.flatMap jsonEscChar ++ ['"']) = some (utf16Cps s) := by
  induction s with
  | nil => simp [litRun, litStep, litNorm, utf16Cps]
  | cons c cs ih =>
    rw [List.flatMap_cons, List.append_assoc, litRun_jsonEsc, ih, utf16Cps_cons]
    rfl

def isBmp (c : Char) : Bool := c.toNat < 0x10000

theorem utf16Cps_bmp (s : Str) (h : s.all isBmp = true) : utf16Cps s = strToCps s := by
  induction s with
  | nil => rfl
  | cons c cs ih =>
    simp only [List.all_cons, Bool.and_eq_true, isBmp, decide_eq_true_eq] at h
    rw [utf16Cps_cons, cps16, if_pos h.1, ih h.2]
    rfl

theorem cpsToStr_utf16_astral (s : Str) (h : s.all isBmp = false) : cpsToStr (utf16Cps s) = none := by
  induction s with
  | nil => simp at h
  | cons c cs ih =>
    by_cases hc : c.toNat < 0x10000
    · have : cs.all isBmp = false := by simpa [isBmp, hc] using h
      have hv : c.toNat.isValidChar := c.valid
      simp [utf16Cps, hc, cpsToStr, hv, ih this]
    · have hlt := char_lt c
      have hnv : ¬ (0xd800 + (c.toNat - 0x10000) / 1024).isValidChar := by
        simp only [Nat.isValidChar]; omega
      simp [utf16Cps, hc, cpsToStr, hnv]

def noCrNul (s : Str) : Bool := s.all (fun c => !(c == '\r' || c == cNUL))

theorem commentBody_replaceNl (s : Str) : commentBody (replaceNl s) = noCrNul s := by
  simp only [commentBody, noCrNul, replaceNl, List.all_map]
  congr 1
  funext c
  by_cases h : c = '\n'
  · subst h
    decide
  · simp [h, beq_false_of_ne h]

theorem comment_iff (s : Str) : isOneCommentLine (renderFieldComment s) = noCrNul s := by
  rw [← commentBody_replaceNl]
  simp [isOneCommentLine, renderFieldComment, commentBody, cNUL]

/-- Characters that can never change how a `"""…"""` literal is delimited or decoded. -/
def docChar (c : Char) : Bool := !(c == '"' || c == '\\' || c == cNUL)
def docClean (s : Str) : Bool := s.all docChar

theorem tqRun_docChar (c : Char) (h : docChar c = true) (q : Nat) (cs : Str) :
    tqRun .norm q (c :: cs) = tqRun .norm 0 cs := by
  simp only [docChar, Bool.not_eq_true', Bool.or_eq_false_iff] at h
  simp [tqRun, tqStep, tqNorm, h.1.1, h.1.2, h.2]

theorem tqRun_clean (body : Str) (h : docClean body = true) (rest : Str) :
    tqRun .norm 0 (body ++ rest) = tqRun .norm 0 rest := by
  induction body with
  | nil => rfl
  | cons c cs ih =>
    simp only [docClean, List.all_cons, Bool.and_eq_true] at h
    rw [List.cons_append, tqRun_docChar c h.1, ih h.2]

theorem tqRun_tq3 : tqRun .norm 0 tq3 = true := by decide

theorem isOneTripleQuoted_tq3 (x : Str) : isOneTripleQuoted (tq3 ++ x) = tqRun .norm 0 x := rfl

theorem tq_of_clean (body : Str) (h : docClean body = true) :
    isOneTripleQuoted (tq3 ++ (body ++ tq3)) = true := by
  rw [isOneTripleQuoted_tq3, tqRun_clean body h, tqRun_tq3]

/-- Length mod 3 of the run of `"` at the END of the text read so far (`q` = value before `s`). -/
def quoteRun (q : Nat) : Str → Nat
  | [] => q
  | c :: cs => quoteRun (if c == '"' then (if q ≥ 2 then 0 else q + 1) else 0) cs

def noNul (s : Str) : Bool := s.all (fun c => !(c == cNUL))

def esc3 : Str := ['\\', '"', '\\', '"', '\\', '"']

theorem replace1_cons (ch : Char) (rep : Str) (c : Char) (cs : Str) :
    replace1 ch rep (c :: cs) = (if c == ch then rep else [c]) ++ replace1 ch rep cs := by
  simp [replace1, List.flatMap_cons]

theorem replace3Run_ne (ch : Char) (rep : Str) (q : Nat) (c : Char) (cs : Str) (h : (c == ch) = false) :
    replace3Run ch rep q (c :: cs) = List.replicate q ch ++ c :: replace3Run ch rep 0 cs := by
  simp [replace3Run, h]

theorem replace3Run_eq (ch : Char) (rep : Str) (q : Nat) (cs : Str) :
    replace3Run ch rep q (ch :: cs)
      = if q ≥ 2 then rep ++ replace3Run ch rep 0 cs else replace3Run ch rep (q + 1) cs := by
  simp [replace3Run]

theorem tqRun_quotes_bsbs (q : Nat) (hq : q ≤ 2) (z : Str) :
    tqRun .norm 0 (List.replicate q '"' ++ '\\' :: '\\' :: z) = tqRun .norm 0 z := by
  have : q = 0 ∨ q = 1 ∨ q = 2 := by omega
  rcases this with rfl | rfl | rfl <;> simp [tqRun, tqStep, tqNorm, escStep, List.replicate]

theorem tqRun_esc3 (z : Str) : tqRun .norm 0 (esc3 ++ z) = tqRun .norm 0 z := by
  simp [esc3, tqRun, tqStep, tqNorm, escStep]

theorem tqRun_quotes_char (q : Nat) (hq : q ≤ 2) (c : Char) (h1 : (c == '"') = false) (h2 : (c == '\\') = false)
    (z : Str) :
    tqRun .norm 0 (List.replicate q '"' ++ c :: z) = (!(c == cNUL) && tqRun .norm 0 z) := by
  have : q = 0 ∨ q = 1 ∨ q = 2 := by omega
  by_cases h3 : (c == cNUL) = true
  · rcases this with rfl | rfl | rfl <;> simp [tqRun, tqStep, tqNorm, List.replicate, h1, h2, h3]
  · have h3' : (c == cNUL) = false := by simpa using h3
    rcases this with rfl | rfl | rfl <;> simp [tqRun, tqStep, tqNorm, List.replicate, h1, h2, h3']

theorem tqRun_quotes_end (q : Nat) (hq : q ≤ 2) :
    tqRun .norm 0 (List.replicate q '"' ++ tq3) = (q == 0) := by
  have : q = 0 ∨ q = 1 ∨ q = 2 := by omega
  rcases this with rfl | rfl | rfl <;> decide

theorem tqRun_alias (q : Nat) (hq : q ≤ 2) (s : Str) :
    tqRun .norm 0 (replace3Run '"' esc3 q (replace1 '\\' ['\\', '\\'] s) ++ tq3)
      = (noNul s && quoteRun q s == 0) := by
  induction s generalizing q with
  | nil => simp [replace1, replace3Run, tqRun_quotes_end q hq, noNul, quoteRun]
  | cons c cs ih =>
    rw [replace1_cons]
    by_cases hb : c = '\\'
    · subst hb
      rw [if_pos (beq_self_eq_true _), List.cons_append, List.cons_append, List.nil_append, replace3Run_ne _ _ _ _ _ (by decide),
        replace3Run_ne _ _ _ _ _ (by decide), List.replicate_zero, List.nil_append, List.append_assoc,
        List.cons_append, List.cons_append, tqRun_quotes_bsbs q hq, ih 0 (by omega)]
      simp [noNul, quoteRun, cNUL]
    · rw [if_neg (by simpa using hb), List.singleton_append]
      by_cases hq' : c = '"'
      · subst hq'
        rw [replace3Run_eq]
        by_cases h2 : q ≥ 2
        · rw [if_pos h2, List.append_assoc, tqRun_esc3, ih 0 (by omega)]
          simp [noNul, quoteRun, h2, cNUL]
        · rw [if_neg h2, ih (q + 1) (by omega)]
          simp [noNul, quoteRun, h2, cNUL]
      · have hq'' : (c == '"') = false := beq_false_of_ne hq'
        rw [replace3Run_ne _ _ _ _ _ hq'', List.append_assoc, List.cons_append,
          tqRun_quotes_char q hq c hq'' (beq_false_of_ne hb), ih 0 (by omega)]
        simp [noNul, quoteRun, hq'', Bool.and_assoc]

theorem aliasDoc_eq (s : Str) :
    renderAliasDoc s = tq3 ++ ("Alias for ".toList ++ (replace3Run '"' esc3 0 (replace1 '\\' ['\\', '\\'] s) ++ tq3)) := by
  unfold renderAliasDoc aliasEscape replace3
  repeat rw [String.toList_ofList]
  simp only [tq3, esc3, List.cons_append, List.nil_append]

/-- The alias docstring is one literal iff the text has no NUL and the run of `"` at its end has a
    length divisible by 3 (those are swallowed by the `"""` → `\"\"\"` replacement). -/
theorem aliasDoc_iff (s : Str) : isOneTripleQuoted (renderAliasDoc s) = (noNul s && quoteRun 0 s == 0) := by
  rw [aliasDoc_eq, isOneTripleQuoted_tq3, tqRun_clean _ (by rw [String.toList_ofList]; decide),
    tqRun_alias 0 (by omega)]

theorem quoteRun_of_not_quote_end (s : Str) (q : Nat) (h : s.getLast? ≠ some '"') (hs : s ≠ []) : quoteRun q s = 0 := by
  induction s generalizing q with
  | nil => exact absurd rfl hs
  | cons c cs ih =>
    cases cs with
    | nil =>
      have : (c == '"') = false := by simpa using h
      simp [quoteRun, this]
    | cons d ds => exact ih _ (by simpa [List.getLast?_cons_cons] using h) (List.cons_ne_nil d ds)

end Pog
