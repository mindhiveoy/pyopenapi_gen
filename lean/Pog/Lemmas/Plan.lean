import Pog.Model.Plan
import Pog.Lemmas.ListExtra
/-
  Lemmas about the C10 model: component-list paths, the `relpath`/`normpath` round trip, the
  `__init__.py` loops, which paths the emitter stages name, and that primitives that stay away from a
  directory leave it unchanged.
-/
namespace Pog.Plan
open Pog Pog.Diff

theorem mem_pathPrefixes {q p : Path} : q ∈ pathPrefixes p ↔ q <+: p := by
  induction p generalizing q with
  | nil => simp [pathPrefixes]
  | cons c cs ih =>
    simp only [pathPrefixes, List.mem_cons, List.mem_map]
    constructor
    · rintro (rfl | ⟨r, hr, rfl⟩)
      · exact List.nil_prefix
      · exact (List.cons_prefix_cons).mpr ⟨rfl, ih.mp hr⟩
    · intro h
      cases q with
      | nil => exact Or.inl rfl
      | cons d ds =>
        obtain ⟨rfl, h'⟩ := List.cons_prefix_cons.mp h
        exact Or.inr ⟨ds, ih.mpr h', rfl⟩

theorem parentDir_concat (a : Path) (x : Str) : parentDir (a ++ [x]) = a := by
  simp [parentDir]

theorem parentDir_prefix (p : Path) : parentDir p <+: p := List.dropLast_prefix p

theorem commonLen_le (a b : Path) : commonLen a b ≤ a.length ∧ commonLen a b ≤ b.length := by
  induction a generalizing b with
  | nil => simp [commonLen]
  | cons x xs ih =>
    cases b with
    | nil => simp [commonLen]
    | cons y ys =>
      simp only [commonLen]
      split
      · have := ih ys; simp; omega
      · simp

theorem take_commonLen (a b : Path) : a.take (commonLen a b) = b.take (commonLen a b) := by
  induction a generalizing b with
  | nil => simp [commonLen]
  | cons x xs ih =>
    cases b with
    | nil => simp [commonLen]
    | cons y ys =>
      simp only [commonLen]
      split
      · rename_i h; subst h; simp [ih ys]
      · simp

theorem cleanPath_iff {p : Path} : cleanPath p = true ↔ ∀ c ∈ p, c ≠ pDot ∧ c ≠ pDotDot ∧ c ≠ [] := by
  simp [cleanPath, List.all_eq_true, and_assoc]

theorem cleanPath_append {p q : Path} : cleanPath (p ++ q) = true ↔ cleanPath p = true ∧ cleanPath q = true := by
  simp [cleanPath, List.all_append]

theorem cleanPath_drop {p : Path} (h : cleanPath p = true) (n : Nat) : cleanPath (p.drop n) = true := by
  rw [cleanPath_iff] at h ⊢
  intro c hc
  exact h c (List.mem_of_mem_drop hc)

theorem normGo_clean (acc cs : Path) (h : cleanPath cs = true) : normGo acc cs = acc ++ cs := by
  induction cs generalizing acc with
  | nil => simp [normGo]
  | cons c cs ih =>
    have hc := (cleanPath_iff.mp h) c List.mem_cons_self
    simp only [normGo, hc.1, hc.2.2, or_self, if_false, hc.2.1]
    rw [ih _ (cleanPath_drop h 1)]
    simp

theorem normGo_append (acc xs ys : Path) : normGo acc (xs ++ ys) = normGo (normGo acc xs) ys := by
  induction xs generalizing acc with
  | nil => simp [normGo]
  | cons c cs ih =>
    simp only [List.cons_append, normGo]
    split
    · exact ih _
    · split
      · exact ih _
      · exact ih _

theorem normGo_cons_dotdot (acc cs : Path) : normGo acc (pDotDot :: cs) = normGo acc.dropLast cs := by
  have h1 : pDotDot ≠ pDot := by decide
  have h2 : pDotDot ≠ [] := by decide
  rw [normGo, if_neg (by simp [h1, h2]), if_pos rfl]

theorem normGo_dotdots (acc : Path) (k : Nat) :
    normGo acc (List.replicate k pDotDot) = acc.take (acc.length - k) := by
  induction k generalizing acc with
  | zero => simp [normGo]
  | succ k ih =>
    rw [List.replicate_succ, normGo_cons_dotdot, ih, List.dropLast_eq_take, List.take_take, List.length_take]
    congr 1
    omega

theorem normGo_dot (acc : Path) : normGo acc [pDot] = acc := by
  simp [normGo]

theorem coreTarget_eq (out core : Path) (ho : cleanPath out = true) (hc : cleanPath core = true) :
    coreTarget out core = core := by
  unfold coreTarget normalise relpath
  simp only []
  have hi := commonLen_le out core
  have ht := take_commonLen out core
  rw [normGo_append, normGo_clean [] out ho, List.nil_append]
  split
  · rename_i hemp
    simp only [List.isEmpty_iff, List.append_eq_nil_iff, List.replicate_eq_nil_iff, List.drop_eq_nil_iff] at hemp
    rw [normGo_dot, ← List.take_of_length_le (l := out) (i := commonLen out core) (by omega), ht]
    exact List.take_of_length_le hemp.2
  · rw [normGo_append, normGo_dotdots, normGo_clean _ _ (cleanPath_drop hc _)]
    have : out.length - (out.length - commonLen out core) = commonLen out core := by omega
    rw [this, ht, List.take_append_drop]

theorem splitOnC_no_sep (ch : Char) (s : Str) : ∀ seg ∈ splitOnC ch s, ch ∉ seg := by
  induction s with
  | nil => simp [splitOnC]
  | cons c cs ih =>
    simp only [splitOnC]
    split
    · simpa using ih
    · rename_i hne
      split
      · simpa using Ne.symm hne
      · rename_i h t heq
        rw [heq] at ih
        simp only [List.mem_cons, forall_eq_or_imp, not_or] at ih ⊢
        exact ⟨⟨Ne.symm hne, ih.1⟩, ih.2⟩

theorem cleanPath_pkgSegs (pkg : Str) :
    cleanPath ((splitOnC '.' pkg).filter (fun s => !s.isEmpty)) = true := by
  rw [cleanPath_iff]
  intro c hc
  obtain ⟨hm, hne⟩ := List.mem_filter.mp hc
  have hdot := splitOnC_no_sep '.' pkg c hm
  refine ⟨?_, ?_, ?_⟩
  · rintro rfl; exact hdot (by simp [pDot])
  · rintro rfl; exact hdot (by simp [pDotDot])
  · rintro rfl; simp at hne

theorem cleanPath_pkgToPath {root : Path} (h : cleanPath root = true) (pkg : Str) :
    cleanPath (pkgToPath root pkg) = true := by
  unfold pkgToPath
  exact cleanPath_append.mpr ⟨h, cleanPath_pkgSegs pkg⟩

theorem root_prefix_pkgToPath (root : Path) (pkg : Str) : root <+: pkgToPath root pkg :=
  List.prefix_append _ _

theorem mem_upChain {root : Path} (n : Nat) : ∀ (cur d : Path), root <+: cur → cur.length < n + root.length →
    (d ∈ upChain root n cur ↔ root <+: d ∧ d <+: cur ∧ d ≠ root) := by
  induction n with
  | zero =>
    intro cur d hr hn
    have := hr.length_le
    omega
  | succ n ih =>
    intro cur d hr hn
    rw [upChain]
    split
    · rename_i he
      subst he
      simp only [List.not_mem_nil, false_iff, not_and]
      exact fun h1 h2 h3 => h3 (h2.eq_of_length_le h1.length_le)
    · rename_i hne
      obtain ⟨t, rfl⟩ := hr
      rcases List.eq_nil_or_concat t with rfl | ⟨t', x, rfl⟩
      · simp at hne
      · have hlast : root ++ List.concat t' x = (root ++ t') ++ [x] := by simp
        rw [hlast, List.dropLast_concat]
        have hemp : ((root ++ t') ++ [x]).isEmpty = false := by simp
        simp only [hemp, Bool.false_eq_true, if_false, List.mem_cons, List.prefix_concat_iff,
          ih (root ++ t') d (List.prefix_append _ _) (by simp at hn ⊢; omega)]
        constructor
        · rintro (rfl | ⟨h1, h2, h3⟩)
          · exact ⟨by simp, Or.inl rfl, by simp⟩
          · exact ⟨h1, Or.inr h2, h3⟩
        · rintro ⟨h1, h2 | h2, h3⟩
          · exact Or.inl h2
          · exact Or.inr ⟨h1, h2, h3⟩

theorem mem_ancestorsTo {root d a : Path} (hr : root <+: d) :
    a ∈ ancestorsTo root d ↔ root <+: a ∧ a <+: d ∧ a ≠ root :=
  mem_upChain (d.length + 1) d a hr (by omega)

/-- Every path the primitive names satisfies `P`, except that appends go to `log`; no `rmtree`. -/
def ActIn (P : Path → Prop) (log : Path) : Act → Prop
  | .mkdirs p => P p
  | .write p _ => P p
  | .append p _ => p = log
  | .rename s d => P s ∧ P d
  | .rmtree _ => False
  | .rewrite p => P p

def OpsIn (P : Path → Prop) (log : Path) (ops : List Op) : Prop := ∀ o ∈ ops, ActIn P log o.act

theorem ActIn.mono {P Q : Path → Prop} {log : Path} (h : ∀ p, P p → Q p) {a : Act} (ha : ActIn P log a) :
    ActIn Q log a := by
  cases a <;> simp only [ActIn] at ha ⊢
  · exact h _ ha
  · exact h _ ha
  · exact ha
  · exact ⟨h _ ha.1, h _ ha.2⟩
  · exact h _ ha

theorem OpsIn.mono {P Q : Path → Prop} {log : Path} (h : ∀ p, P p → Q p) {ops : List Op} (ho : OpsIn P log ops) :
    OpsIn Q log ops := fun o hm => (ho o hm).mono h

section
variable {P : Path → Prop} {log : Path}

@[simp] theorem opsIn_nil : OpsIn P log [] := by simp [OpsIn]

@[simp] theorem opsIn_cons {o : Op} {b : List Op} : OpsIn P log (o :: b) ↔ ActIn P log o.act ∧ OpsIn P log b := by
  simp [OpsIn]

@[simp] theorem opsIn_append {a b : List Op} : OpsIn P log (a ++ b) ↔ OpsIn P log a ∧ OpsIn P log b := by
  simp [OpsIn, or_imp, forall_and]

@[simp] theorem opsIn_flatMap {α : Type} {l : List α} {f : α → List Op} :
    OpsIn P log (l.flatMap f) ↔ ∀ e ∈ l, OpsIn P log (f e) := by
  simp only [OpsIn, List.mem_flatMap]
  exact ⟨fun h e he o ho => h o ⟨e, he, ho⟩, fun h o ⟨e, he, ho⟩ => h e he o ho⟩

@[simp] theorem opsIn_reguard {ops : List Op} (g : Guard) :
    OpsIn P log (ops.map (fun o => (⟨g, o.act⟩ : Op))) ↔ OpsIn P log ops := by
  simp [OpsIn]

@[simp] theorem opsIn_fmWrite (g : Guard) (p : Path) (c : Str) :
    OpsIn P log (fmWrite g log p c) ↔ P (parentDir p) ∧ P p := by
  simp [fmWrite, ActIn]

theorem postOps_in {files : List Path} (h : ∀ p ∈ files, P p) : OpsIn P log (postOps files) := by
  simpa [OpsIn, postOps, ActIn] using h

end

/-! Each emitter stage names only paths at or below the one directory it is given (appends: the debug log).
    `String.reduceToList` stays off: it would spell every file name out character by character, and the kernel
    would have to decode each literal to follow that. -/

theorem excOps_in (sp : PlanSpec) (root core : Path) (client : Str) (log : Path) :
    OpsIn (core <+: ·) log (excOps sp root core client) := by
  unfold excOps
  split <;> simp [always, ActIn]

theorem coreOps_in (sp : PlanSpec) (log : Path) {out core : Path} (ht : coreTarget out core = core) :
    OpsIn (core <+: ·) log (coreOps sp log out core) := by
  simp [coreOps, ht, always, ActIn, parentDir, -String.reduceToList]

theorem modelOps_in (sp : PlanSpec) (out log : Path) : OpsIn (out <+: ·) log (modelOps sp out) := by
  simp [modelOps, always, ActIn, -String.reduceToList]

theorem endpointOps_in (sp : PlanSpec) (log out : Path) (k : Nat) :
    OpsIn (out <+: ·) log (endpointOps sp log out k) := by
  simp [endpointOps, always, ActIn, parentDir, -String.reduceToList]

theorem clientOps_in (sp : PlanSpec) (log out : Path) : OpsIn (out <+: ·) log (clientOps sp log out) := by
  simp [clientOps, always, ActIn, parentDir, -String.reduceToList]

theorem mockOps_in (sp : PlanSpec) (log out : Path) (k : Nat) :
    OpsIn (out <+: ·) log (mockOps sp log out k) := by
  simp [mockOps, always, ActIn, parentDir, -String.reduceToList]

theorem generatedPy_under (sp : PlanSpec) (out core : Path) (k : Nat) (rich : Bool) :
    ∀ p ∈ generatedPy sp out core k rich, out <+: p ∨ core <+: p ∨ coreTarget out core <+: p := by
  -- summand by summand: every listed path is `out`, `core` or the core target followed by something
  simp only [generatedPy, List.forall_mem_append, List.forall_mem_map, List.forall_mem_filter, List.mem_cons,
    forall_eq_or_imp]
  simp [List.append_assoc, -String.reduceToList]

/-- The formatter stage, for emitters whose core target is `core`: every file it rewrites is below `out` or `core`. -/
theorem postprocess_in {P : Path → Prop} {log out core : Path} (ht : coreTarget out core = core)
    (hO : ∀ p, out <+: p → P p) (hC : ∀ p, core <+: p → P p) (sp : PlanSpec) (k : Nat) (rich skip : Bool) :
    OpsIn P log (if skip then [] else postOps (generatedPy sp out core k rich)) := by
  refine forall_mem_ite_nil _ _ (postOps_in fun p hp => ?_)
  rcases generatedPy_under sp out core k rich p hp with h | h | h
  · exact hO p h
  · exact hC p h
  · exact hC p (ht ▸ h)

theorem diffPlan_in (c : PlanCfg) (sp : PlanSpec) (hclean : cleanPath c.tmpRoot = true) :
    OpsIn (fun p => c.tmpRoot <+: p) c.debugLog ((diffPlan c sp).flatMap (·.2)) := by
  have ht : coreTarget c.tmpOut c.tmpCore = c.tmpCore :=
    coreTarget_eq _ _ (cleanPath_pkgToPath hclean _) (cleanPath_pkgToPath hclean _)
  have hO : ∀ p, c.tmpOut <+: p → c.tmpRoot <+: p := fun _ => (root_prefix_pkgToPath _ _).trans
  have hC : ∀ p, c.tmpCore <+: p → c.tmpRoot <+: p := fun _ => (root_prefix_pkgToPath _ _).trans
  simp only [diffPlan, List.flatMap_cons, List.flatMap_nil, List.append_nil, opsIn_append]
  refine ⟨?_, .mono hC (excOps_in _ _ _ _ _), .mono hC (coreOps_in sp _ ht), .mono hO (modelOps_in _ _ _),
    .mono hO (endpointOps_in _ _ _ _), .mono hO (clientOps_in _ _ _), .mono hO (mockOps_in _ _ _ _),
    postprocess_in ht hO hC sp 1 false _⟩
  simp [always, ActIn, hO, hC]

theorem filter_setFile_of_not (f : Path → Bool) (p : Path) (c : Str) (hp : f p = false)
    (l : List (Path × Str)) :
    (setFile p c l).filter (fun e => f e.1) = l.filter (fun e => f e.1) := by
  induction l with
  | nil => simp [setFile, hp]
  | cons e es ih =>
    obtain ⟨q, d⟩ := e
    simp only [setFile]
    split
    · rename_i hq
      subst hq
      simp [hp]
    · simp [List.filter_cons, ih]

/-- the hypotheses of the preservation lemma: `tmp` and `root` are not nested, the log is outside `root` -/
structure Apart (root tmp log : Path) : Prop where
  notIn : ¬ root <+: tmp
  notOver : ¬ tmp <+: root
  logOut : ¬ root <+: log

/-- Nothing at or above a path below `tmp` is below `root`. -/
theorem Apart.prefix_not_under {root tmp log : Path} (h : Apart root tmp log) {p q : Path} (hp : tmp <+: p)
    (hq : q <+: p) : root.isPrefixOf q = false :=
  Bool.eq_false_iff.2 fun hb =>
    (List.prefix_or_prefix_of_prefix ((List.isPrefixOf_iff_prefix.mp hb).trans hq) hp).elim h.notIn h.notOver

theorem Apart.not_under {root tmp log : Path} (h : Apart root tmp log) {p : Path} (hp : tmp <+: p) :
    root.isPrefixOf p = false :=
  h.prefix_not_under hp List.prefix_rfl

theorem Apart.log_not_under {root tmp log : Path} (h : Apart root tmp log) : root.isPrefixOf log = false :=
  Bool.eq_false_iff.2 fun hb => h.logOut (List.isPrefixOf_iff_prefix.mp hb)

theorem under_setFile {root p : Path} (hp : root.isPrefixOf p = false) (fs : FS) (c : Str) :
    ({ fs with files := setFile p c fs.files } : FS).under root = fs.under root :=
  congrArg (FS.mk · _) (filter_setFile_of_not (fun q => root.isPrefixOf q) p c hp _)

theorem under_addDirs {root : Path} (fs : FS) {ds : List Path} (h : ∀ d ∈ ds, root.isPrefixOf d = false) :
    ({ fs with dirs := fs.dirs ++ ds } : FS).under root = fs.under root :=
  congrArg (FS.mk _) (filter_append_of_none _ _ _ h)

/-- The primitive went through, so `fs'` is what its branch builds: directories added at or above a path below `tmp`,
    or one file set below `tmp` or at the log (`rename` also drops the entry of its source, below `tmp` as well). -/
theorem applyAct_under {root tmp log : Path} (hap : Apart root tmp log) (post : Str → Str) (fs fs' : FS)
    (a : Act) (ha : ActIn (fun p => tmp <+: p) log a) (h : applyAct post fs a = some fs') :
    fs'.under root = fs.under root := by
  cases a with
  | mkdirs p =>
    obtain ⟨_, ⟨⟩⟩ := Option.ite_none_left_eq_some.mp h
    exact under_addDirs fs fun q hq => hap.prefix_not_under ha (mem_pathPrefixes.mp (List.mem_filter.mp hq).1)
  | write p c =>
    obtain ⟨_, ⟨⟩⟩ := Option.ite_none_right_eq_some.mp h
    exact under_setFile (hap.not_under ha) fs c
  | append p c =>
    obtain ⟨_, ⟨⟩⟩ := Option.ite_none_right_eq_some.mp h
    exact under_setFile (ha ▸ hap.log_not_under) fs _
  | rename s d =>
    simp only [applyAct] at h
    split at h
    · obtain ⟨_, ⟨⟩⟩ := Option.ite_none_right_eq_some.mp h
      refine (under_setFile (hap.not_under ha.2) ⟨fs.files.filter (fun e => e.1 != s), fs.dirs⟩ _).trans ?_
      -- the entry taken away is that of `s`, which is not below `root`
      refine congrArg (FS.mk · _) (filter_filter_of_imp (fun e : Path × Str => root.isPrefixOf e.1) _ _ fun e _ he => ?_)
      exact bne_iff_ne.2 fun heq => Bool.false_ne_true ((hap.not_under ha.1).symm.trans (heq ▸ he))
    · cases h
  | rmtree p => exact ha.elim
  | rewrite p =>
    simp only [applyAct] at h
    split at h
    · cases h
      exact under_setFile (hap.not_under ha) fs _
    · cases h

theorem execOps_under {root tmp log : Path} (hap : Apart root tmp log) (post : Str → Str)
    (ops : List Op) (hops : OpsIn (fun p => tmp <+: p) log ops) (fs : FS) (fault : Nat) :
    ((execOps post ops fs fault).1).under root = fs.under root := by
  induction ops generalizing fs fault with
  | nil => simp [execOps]
  | cons o os ih =>
    cases fault with
    | zero => simp [execOps]
    | succ k =>
      simp only [execOps]
      have ho := (opsIn_cons.mp hops)
      cases hr : applyOp post fs o with
      | none => simp
      | some fs' =>
        simp only []
        rw [ih ho.2]
        unfold applyOp at hr
        split at hr
        · exact applyAct_under hap post fs fs' o.act ho.1 hr
        · cases hr; rfl

theorem cleanup_under {root tmp log : Path} (hap : Apart root tmp log) (fs : FS) :
    (cleanupTmp fs tmp).under root = fs.under root := by
  have key : ∀ p, root.isPrefixOf p = true → (!tmp.isPrefixOf p) = true := fun p hp => by
    cases ht : tmp.isPrefixOf p with
    | false => rfl
    | true =>
      rw [hap.not_under (List.isPrefixOf_iff_prefix.mp ht)] at hp
      cases hp
  simp only [cleanupTmp, FS.under, FS.mk.injEq]
  exact ⟨filter_filter_of_imp (fun e : Path × Str => root.isPrefixOf e.1) _ _ (fun e _ => key e.1),
    filter_filter_of_imp (fun d : Path => root.isPrefixOf d) _ _ (fun d _ => key d)⟩

theorem execOps_fault_lt (post : Str → Str) (ops : List Op) (fs : FS) (fault : Nat) (h : fault < ops.length) :
    (execOps post ops fs fault).2 ≠ none := by
  induction ops generalizing fs fault with
  | nil => simp at h
  | cons o os ih =>
    cases fault with
    | zero => simp [execOps]
    | succ k =>
      simp only [execOps]
      cases applyOp post fs o with
      | none => simp
      | some fs' => exact ih fs' k (by simpa using h)

/-- what C10 allows to be touched below the project root -/
def Allowed (c : PlanCfg) (p : Path) : Prop :=
  c.outDir <+: p ∨ c.coreDir <+: p ∨
  (∃ d, c.root <+: d ∧ (d <+: c.outDir ∨ d <+: c.coreDir) ∧ (p = d ∨ p = d ++ [fInit]))

theorem initLoop_allowed (c : PlanCfg) (log : Path) {d : Path} (hd : d = c.outDir ∨ d = c.coreDir) :
    OpsIn (Allowed c) log (initLoop c.root d) := by
  intro o ho
  obtain ⟨a, ha, rfl⟩ := List.mem_map.mp ho
  have hroot : c.root <+: d := by
    rcases hd with rfl | rfl <;> exact root_prefix_pkgToPath _ _
  obtain ⟨h1, h2, _⟩ := (mem_ancestorsTo hroot).mp ha
  refine Or.inr (Or.inr ⟨a, h1, ?_, Or.inr rfl⟩)
  rcases hd with rfl | rfl
  · exact Or.inl h2
  · exact Or.inr h2

theorem targets_of_actIn {P : Path → Prop} {log : Path} {a : Act} (h : ActIn P log a) :
    ∀ p ∈ a.targets, P p ∨ p = log := by
  cases a <;> simp_all [ActIn, Act.targets]

theorem pathStr_append_ne_nil (a : Path) {b : Path} (ha : a ≠ []) :
    pathStr (a ++ b) = pathStr a ++ b.flatMap (fun c => '/' :: c) := by
  cases a with
  | nil => exact absurd rfl ha
  | cons x xs => simp [pathStr, List.flatMap_append]

end Pog.Plan
