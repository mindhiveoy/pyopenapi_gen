import Pog.Lemmas.ParserSpec
/-
  The three nested fragments `Simple ⊆ Simple2 ⊆ Simple3` of documents on which the parser is proved faithful (C02),
  the case analyses of their node predicates, the inclusions, and closure of `Simple3` under re-ordering the
  declarations.

  `Simple`   every declared schema is an object whose properties are plain primitives or `$ref`s to declared schemas;
             names non-empty, class-cased (`sanitize_class_name n = n`, else the registry key differs from the name the
             tracker knows) and pairwise different; keys non-empty and pairwise different; `rank` decreases along `$ref`s.
  `Simple2`  adds properties that are arrays or maps of a leaf, and declared schemas that are such an array or a plain
             primitive.  An anonymous node (`name = None`) enters the tracker too (depth + 1, nothing pushed), so an array
             of `$ref` costs three levels of depth / fuel instead of one (`propCost`).  A map property is parsed under the
             NAME `<Parent><Prop>` (`mapCtx`) and REGISTERED under it, so these context names must collide neither with a
             declared name nor with each other (`ctxFresh`, `ctxInj`).
  `Simple3`  adds `allOf` children (members `$ref`s or inline objects, no own `properties`), inline object properties
             (promoted to `<Parent><Prop>`), enum primitives (as properties registered under `mapCtx`, as declared schemas,
             anonymous as array items / map values) and `nullable` around every property, items and map value node.
-/
namespace Pog.Prs
open Pog Pog.Trk

def simpleProp (names : List Str) : Node → Bool
  | .prim _ false => true
  | .ref t => names.contains t && !t.contains '/' && !t.isEmpty
  | _ => false

def simpleNode (names : List Str) : Node → Bool
  | .obj (some ps) _ none =>
    ps.all (fun kv => !kv.1.isEmpty && simpleProp names kv.2) && decide ((ps.map (·.1)).Nodup)
  | _ => false

/-- the hypotheses of `parse_faithful_partial` -/
structure Simple (decls : Decls) (rank : Str → Nat) : Prop where
  nodup : (decls.map (·.1)).Nodup
  node : ∀ d ∈ decls, simpleNode (decls.map (·.1)) d.2 = true
  name : ∀ d ∈ decls, d.1 ≠ [] ∧ sanClass d.1 = d.1
  acyclic : ∀ d ∈ decls, ∀ ps req ap, d.2 = .obj (some ps) req ap → ∀ kv ∈ ps, ∀ t, kv.2 = .ref t →
    rank t < rank d.1

theorem simpleProp_ref {names : List Str} {t : Str} (h : simpleProp names (.ref t) = true) :
    t ∈ names ∧ t.contains '/' = false ∧ t ≠ [] := by
  simp only [simpleProp, Bool.and_eq_true, Bool.not_eq_true', List.contains_iff_mem, List.isEmpty_eq_false_iff] at h
  exact ⟨h.1.1, h.1.2, h.2⟩

theorem simpleProp_cases (names : List Str) (p : Node) (h : simpleProp names p = true) :
    (∃ ty, p = .prim ty false) ∨
    (∃ t, p = .ref t ∧ t ∈ names ∧ t.contains '/' = false ∧ t ≠ []) := by
  unfold simpleProp at h
  split at h
  · exact Or.inl ⟨_, rfl⟩
  · exact Or.inr ⟨_, rfl, simpleProp_ref h⟩
  · cases h

/-- the shape shared by the object clauses of `simpleNode`, `simpleNode2`, `simpleNode3`, `innerProps3` -/
theorem all_keyed_iff {P : Node → Bool} {ps : List (Str × Node)} :
    ps.all (fun kv => !kv.1.isEmpty && P kv.2) = true ↔ ∀ kv ∈ ps, kv.1 ≠ [] ∧ P kv.2 = true := by
  simp only [List.all_eq_true, Bool.and_eq_true, Bool.not_eq_true', List.isEmpty_eq_false_iff]

theorem simpleNode_inv (names : List Str) (nd : Node) (h : simpleNode names nd = true) :
    ∃ ps req, nd = .obj (some ps) req none ∧
      (∀ kv ∈ ps, kv.1 ≠ [] ∧ simpleProp names kv.2 = true) ∧ (ps.map (·.1)).Nodup := by
  unfold simpleNode at h
  split at h
  · rw [Bool.and_eq_true, all_keyed_iff, decide_eq_true_eq] at h
    exact ⟨_, _, rfl, h⟩
  · cases h

def isMapNode : Node → Bool
  | .obj none _ (some _) => true
  | _ => false

/-- property nodes of the fragment: a leaf (`simpleProp`: plain primitive or `$ref` to a declared schema),
    an array of a leaf, a map of a leaf -/
def simpleProp2 (names : List Str) : Node → Bool
  | .prim ty e => simpleProp names (.prim ty e)
  | .ref t => simpleProp names (.ref t)
  | .arr i => simpleProp names i
  | .obj none _ (some a) => simpleProp names a
  | _ => false

def nodeProps : Node → List (Str × Node)
  | .obj (some ps) _ _ => ps
  | _ => []

/-- keys of the map properties of a declared node -/
def mapKeys (nd : Node) : List Str := ((nodeProps nd).filter (fun kv => isMapNode kv.2)).map (·.1)

/-- depth / fuel an anonymous leaf needs below itself: a `$ref` enters the anonymous node and the target -/
def leafCost (rank : Str → Nat) : Node → Nat
  | .ref t => rank t + 2
  | _ => 0

/-- what the owner's rank must at least be -/
def propCost (rank : Str → Nat) : Node → Nat
  | .ref t => rank t + 1
  | .arr i => leafCost rank i + 1
  | .obj none _ (some a) => leafCost rank a + 1
  | _ => 0

/-- the same for a declared (top-level) node that is not an object -/
def topCost (rank : Str → Nat) : Node → Nat
  | .arr i => leafCost rank i
  | _ => 0

def simpleNode2 (names : List Str) : Node → Bool
  | .obj (some ps) _ none =>
    ps.all (fun kv => !kv.1.isEmpty && simpleProp2 names kv.2) && decide ((ps.map (·.1)).Nodup)
  | .arr i => simpleProp names i
  | .prim _ false => true
  | _ => false

/-- `schema_name_for_parsing` of a non-simple property `k` of the schema `n` (schema_parser.py, `_parse_properties`) -/
def mapCtx (n k : Str) : Str :=
  if startsWith ((sanClass k).map lowerA) (n.map lowerA) then sanClass k else n ++ sanClass k

/-- the hypotheses of `parse_faithful_partial2` -/
structure Simple2 (decls : Decls) (rank : Str → Nat) : Prop where
  nodup : (decls.map (·.1)).Nodup
  node : ∀ d ∈ decls, simpleNode2 (decls.map (·.1)) d.2 = true
  name : ∀ d ∈ decls, d.1 ≠ [] ∧ sanClass d.1 = d.1
  cost : ∀ d ∈ decls, topCost rank d.2 ≤ rank d.1 ∧ ∀ kv ∈ nodeProps d.2, propCost rank kv.2 ≤ rank d.1
  ctxFresh : ∀ d ∈ decls, ∀ k ∈ mapKeys d.2,
    mapCtx d.1 k ∉ decls.map (·.1) ∧ sanClass (mapCtx d.1 k) = mapCtx d.1 k
  ctxInj : ∀ d ∈ decls, ∀ d' ∈ decls, ∀ k ∈ mapKeys d.2, ∀ k' ∈ mapKeys d'.2,
    mapCtx d.1 k = mapCtx d'.1 k' → d.1 = d'.1 ∧ k = k'

theorem simpleProp2_cases (names : List Str) (p : Node) (h : simpleProp2 names p = true) :
    (∃ ty, p = .prim ty false) ∨
    (∃ t, p = .ref t ∧ t ∈ names ∧ t.contains '/' = false ∧ t ≠ []) ∨
    (∃ i, p = .arr i ∧ simpleProp names i = true) ∨
    (∃ req a, p = .obj none req (some a) ∧ simpleProp names a = true) := by
  unfold simpleProp2 at h
  split at h
  · rcases simpleProp_cases _ _ h with ⟨_, e⟩ | ⟨_, e, _⟩
    · exact Or.inl ⟨_, e⟩
    · cases e
  · exact Or.inr (Or.inl ⟨_, rfl, simpleProp_ref h⟩)
  · exact Or.inr (Or.inr (Or.inl ⟨_, rfl, h⟩))
  · exact Or.inr (Or.inr (Or.inr ⟨_, _, rfl, h⟩))
  · cases h

theorem simpleNode2_inv (names : List Str) (nd : Node) (h : simpleNode2 names nd = true) :
    (∃ ps req, nd = .obj (some ps) req none ∧
      (∀ kv ∈ ps, kv.1 ≠ [] ∧ simpleProp2 names kv.2 = true) ∧ (ps.map (·.1)).Nodup) ∨
    (∃ i, nd = .arr i ∧ simpleProp names i = true) ∨
    (∃ ty, nd = .prim ty false) := by
  unfold simpleNode2 at h
  split at h
  · rw [Bool.and_eq_true, all_keyed_iff, decide_eq_true_eq] at h
    exact Or.inl ⟨_, _, rfl, h⟩
  · exact Or.inr (Or.inl ⟨_, rfl, h⟩)
  · exact Or.inr (Or.inr ⟨_, rfl⟩)
  · cases h

theorem simpleProp2_of_simpleProp (names : List Str) (p : Node) (h : simpleProp names p = true) :
    simpleProp2 names p = true := by
  rcases simpleProp_cases _ p h with ⟨ty, e⟩ | ⟨t, e, _⟩
  · subst e; exact h
  · subst e; exact h

theorem isMapNode_of_simpleProp (names : List Str) (p : Node) (h : simpleProp names p = true) :
    isMapNode p = false := by
  rcases simpleProp_cases _ p h with ⟨ty, e⟩ | ⟨t, e, _⟩
  · subst e; rfl
  · subst e; rfl

theorem Simple.toSimple2 {decls : Decls} {rank : Str → Nat} (hS : Simple decls rank) : Simple2 decls rank := by
  have hkeys : ∀ d ∈ decls, mapKeys d.2 = [] := by
    intro d hd
    obtain ⟨ps, req, e, hp, _⟩ := simpleNode_inv _ d.2 (hS.node d hd)
    unfold mapKeys
    rw [e]
    simp only [nodeProps, List.map_eq_nil_iff, List.filter_eq_nil_iff]
    intro kv hkv
    rw [isMapNode_of_simpleProp _ _ (hp kv hkv).2]
    exact Bool.false_ne_true
  refine ⟨hS.nodup, ?_, hS.name, ?_, ?_, ?_⟩
  · intro d hd
    obtain ⟨ps, req, e, hp, hnd⟩ := simpleNode_inv _ d.2 (hS.node d hd)
    rw [e]
    simp only [simpleNode2, Bool.and_eq_true, all_keyed_iff, decide_eq_true_eq]
    exact ⟨fun kv hkv => ⟨(hp kv hkv).1, simpleProp2_of_simpleProp _ _ (hp kv hkv).2⟩, hnd⟩
  · intro d hd
    obtain ⟨ps, req, e, hp, _⟩ := simpleNode_inv _ d.2 (hS.node d hd)
    refine ⟨by rw [e]; exact Nat.zero_le _, ?_⟩
    intro kv hkv
    rw [e] at hkv
    have hkv' : kv ∈ ps := hkv
    rcases simpleProp_cases _ kv.2 (hp kv hkv').2 with ⟨ty, e'⟩ | ⟨t, e', _⟩
    · rw [e']; exact Nat.zero_le _
    · rw [e']
      exact hS.acyclic d hd ps req none e kv hkv' t e'
  · intro d hd k hk
    rw [hkeys d hd] at hk
    cases hk
  · intro d hd d' _ k hk
    rw [hkeys d hd] at hk
    cases hk

/-- a leaf without wrapper: a primitive (plain or ENUM: an anonymous enum is never registered) or a `$ref` to a
    declared schema -/
def leafOK (names : List Str) : Node → Bool
  | .prim _ _ => true
  | .ref t => simpleProp names (.ref t)
  | _ => false

/-- a leaf, `nullable` allowed -/
def leaf3 (names : List Str) (p : Node) : Bool := leafOK names p.core

theorem leafOK_cases (names : List Str) (p : Node) (h : leafOK names p = true) :
    (∃ ty e, p = .prim ty e) ∨
    (∃ t, p = .ref t ∧ t ∈ names ∧ t.contains '/' = false ∧ t ≠ []) := by
  unfold leafOK at h
  split at h
  · exact Or.inl ⟨_, _, rfl⟩
  · exact Or.inr ⟨_, rfl, simpleProp_ref h⟩
  · cases h

/-- a property of an inline object / of an inline `allOf` member -/
def innerProp3 (names : List Str) (p : Node) : Bool :=
  match p.core with
  | .prim _ false => true
  | .ref t => simpleProp names (.ref t)
  | .arr i => leaf3 names i
  | _ => false

def innerProps3 (names : List Str) (ps : List (Str × Node)) : Bool :=
  ps.all (fun kv => !kv.1.isEmpty && innerProp3 names kv.2) && decide ((ps.map (·.1)).Nodup)

def simpleProp3 (names : List Str) (p : Node) : Bool :=
  match p.core with
  | .prim _ _ => true
  | .ref t => simpleProp names (.ref t)
  | .arr i => leaf3 names i
  | .obj none _ (some a) => leaf3 names a
  | .obj (some ps) _ none => innerProps3 names ps
  | _ => false

def allOfPart3 (names : List Str) : Node → Bool
  | .ref t => simpleProp names (.ref t)
  | .obj (some ps) _ none => innerProps3 names ps
  | _ => false

def simpleNode3 (names : List Str) : Node → Bool
  | .obj (some ps) _ none =>
    ps.all (fun kv => !kv.1.isEmpty && simpleProp3 names kv.2) && decide ((ps.map (·.1)).Nodup)
  | .arr i => leaf3 names i
  | .prim _ _ => true
  | .allOf parts [] _ => parts.all (allOfPart3 names)
  | _ => false

/-- the name under which a property is parsed AND registered, if any -/
def ctxOf3 (n k : Str) (p : Node) : Option Str :=
  match p.core with
  | .obj none _ (some _) => some (mapCtx n k)
  | .obj (some _) _ none => some (n ++ sanClass k)
  | .prim _ true => some (mapCtx n k)
  | _ => none

def ctxsL3 (n : Str) (ps : List (Str × Node)) : List Str := ps.filterMap (fun kv => ctxOf3 n kv.1 kv.2)

/-- the context names of a declared schema -/
def ctxs3 (n : Str) (nd : Node) : List Str := ctxsL3 n (nodeProps nd)

def leafCost3 (rank : Str → Nat) (i : Node) : Nat := leafCost rank i.core

/-- cost of a property of an inline object below the frame of the inline object -/
def innerCost3 (rank : Str → Nat) (p : Node) : Nat :=
  match p.core with
  | .ref t => rank t + 1
  | .arr i => leafCost3 rank i + 1
  | _ => 0

def propCostOK3 (rank : Str → Nat) (R : Nat) (p : Node) : Bool :=
  match p.core with
  | .ref t => decide (rank t + 1 ≤ R)
  | .arr i => decide (leafCost3 rank i + 1 ≤ R)
  | .obj none _ (some a) => decide (leafCost3 rank a + 1 ≤ R)
  | .obj (some ps) _ none => decide (1 ≤ R) && ps.all (fun kv => decide (innerCost3 rank kv.2 + 1 ≤ R))
  | .prim _ true => decide (1 ≤ R)
  | _ => true

def partCostOK3 (rank : Str → Nat) (R : Nat) : Node → Bool
  | .ref t => decide (rank t + 2 ≤ R)
  | .obj (some ps) _ none => decide (1 ≤ R) && ps.all (fun kv => decide (innerCost3 rank kv.2 + 1 ≤ R))
  | _ => true

def nodeCostOK3 (rank : Str → Nat) (R : Nat) : Node → Bool
  | .obj (some ps) _ none => ps.all (fun kv => propCostOK3 rank R kv.2)
  | .arr i => decide (leafCost3 rank i ≤ R)
  | .allOf parts _ _ => parts.all (partCostOK3 rank R)
  | _ => true

/-- the hypotheses of `parse_faithful_partial3` -/
structure Simple3 (decls : Decls) (rank : Str → Nat) : Prop where
  nodup : (decls.map (·.1)).Nodup
  node : ∀ d ∈ decls, simpleNode3 (decls.map (·.1)) d.2 = true
  name : ∀ d ∈ decls, d.1 ≠ [] ∧ sanClass d.1 = d.1
  cost : ∀ d ∈ decls, nodeCostOK3 rank (rank d.1) d.2 = true
  ctxFresh : ∀ d ∈ decls, ∀ c ∈ ctxs3 d.1 d.2, c ∉ decls.map (·.1) ∧ sanClass c = c
  ctxNodup : ∀ d ∈ decls, (ctxs3 d.1 d.2).Nodup
  ctxInj : ∀ d ∈ decls, ∀ d' ∈ decls, ∀ c ∈ ctxs3 d.1 d.2, c ∈ ctxs3 d'.1 d'.2 → d.1 = d'.1

theorem core_core (n : Node) : n.core.core = n.core := by
  fun_induction Node.core n <;> simp_all [Node.core]

theorem nodeKind_core (n : Node) : nodeKind n.core = nodeKind n := by
  fun_induction Node.core n <;> simp_all [nodeKind]

theorem sanClass_of_declared3 (decls : Decls) (rank : Str → Nat) (hS : Simple3 decls rank) (m : Str)
    (hm : m ∈ decls.map (·.1)) : sanClass m = m := by
  obtain ⟨d, hd, rfl⟩ := List.mem_map.mp hm
  exact (hS.name d hd).2

theorem innerProp3_cases (names : List Str) (p : Node) (h : innerProp3 names p = true) :
    (∃ ty, p.core = .prim ty false) ∨
    (∃ t, p.core = .ref t ∧ t ∈ names ∧ t.contains '/' = false ∧ t ≠ []) ∨
    (∃ i, p.core = .arr i ∧ leaf3 names i = true) := by
  unfold innerProp3 at h
  split at h
  · rename_i e; exact Or.inl ⟨_, e⟩
  · rename_i e; exact Or.inr (Or.inl ⟨_, e, simpleProp_ref h⟩)
  · rename_i e; exact Or.inr (Or.inr ⟨_, e, h⟩)
  · cases h

theorem innerProps3_inv (names : List Str) (ps : List (Str × Node)) (h : innerProps3 names ps = true) :
    (∀ kv ∈ ps, kv.1 ≠ [] ∧ innerProp3 names kv.2 = true) ∧ (ps.map (·.1)).Nodup := by
  rwa [innerProps3, Bool.and_eq_true, all_keyed_iff, decide_eq_true_eq] at h

theorem simpleProp3_cases (names : List Str) (p : Node) (h : simpleProp3 names p = true) :
    (∃ ty e, p.core = .prim ty e) ∨
    (∃ t, p.core = .ref t ∧ t ∈ names ∧ t.contains '/' = false ∧ t ≠ []) ∨
    (∃ i, p.core = .arr i ∧ leaf3 names i = true) ∨
    (∃ req a, p.core = .obj none req (some a) ∧ leaf3 names a = true) ∨
    (∃ ps req, p.core = .obj (some ps) req none ∧ innerProps3 names ps = true) := by
  unfold simpleProp3 at h
  split at h
  · rename_i e; exact Or.inl ⟨_, _, e⟩
  · rename_i e; exact Or.inr (Or.inl ⟨_, e, simpleProp_ref h⟩)
  · rename_i e; exact Or.inr (Or.inr (Or.inl ⟨_, e, h⟩))
  · rename_i e; exact Or.inr (Or.inr (Or.inr (Or.inl ⟨_, _, e, h⟩)))
  · rename_i e; exact Or.inr (Or.inr (Or.inr (Or.inr ⟨_, _, e, h⟩)))
  · cases h

theorem ctxsL3_cons (n k : Str) (p : Node) (rest : List (Str × Node)) :
    ctxsL3 n ((k, p) :: rest) = (match ctxOf3 n k p with | some c => [c] | none => []) ++ ctxsL3 n rest := by
  unfold ctxsL3
  rw [List.filterMap_cons]
  cases ctxOf3 n k p <;> rfl

theorem allOfPart3_cases (names : List Str) (part : Node) (h : allOfPart3 names part = true) :
    (∃ t, part = .ref t ∧ t ∈ names ∧ t.contains '/' = false ∧ t ≠ []) ∨
    (∃ ps req, part = .obj (some ps) req none ∧ innerProps3 names ps = true) := by
  unfold allOfPart3 at h
  split at h
  · exact Or.inl ⟨_, rfl, simpleProp_ref h⟩
  · exact Or.inr ⟨_, _, rfl, h⟩
  · cases h

theorem simpleNode3_inv (names : List Str) (nd : Node) (h : simpleNode3 names nd = true) :
    (∃ ps req, nd = .obj (some ps) req none ∧
      (∀ kv ∈ ps, kv.1 ≠ [] ∧ simpleProp3 names kv.2 = true) ∧ (ps.map (·.1)).Nodup) ∨
    (∃ i, nd = .arr i ∧ leaf3 names i = true) ∨
    (∃ ty e, nd = .prim ty e) ∨
    (∃ parts req, nd = .allOf parts [] req ∧ ∀ part ∈ parts, allOfPart3 names part = true) := by
  unfold simpleNode3 at h
  split at h
  · rw [Bool.and_eq_true, all_keyed_iff, decide_eq_true_eq] at h
    exact Or.inl ⟨_, _, rfl, h⟩
  · exact Or.inr (Or.inl ⟨_, rfl, h⟩)
  · exact Or.inr (Or.inr (Or.inl ⟨_, _, rfl⟩))
  · exact Or.inr (Or.inr (Or.inr ⟨_, _, rfl, List.all_eq_true.mp h⟩))
  · cases h

theorem core_of_simpleProp (names : List Str) (i : Node) (h : simpleProp names i = true) : i.core = i := by
  rcases simpleProp_cases _ i h with ⟨ty, e⟩ | ⟨t, e, _⟩
  · subst e; rfl
  · subst e; rfl

theorem leaf3_of_simpleProp (names : List Str) (i : Node) (h : simpleProp names i = true) : leaf3 names i = true := by
  rcases simpleProp_cases _ i h with ⟨ty, e⟩ | ⟨t, e, _⟩
  · subst e; rfl
  · subst e; exact h

theorem simpleProp3_of_simpleProp2 (names : List Str) (p : Node) (h : simpleProp2 names p = true) :
    simpleProp3 names p = true := by
  rcases simpleProp2_cases _ p h with ⟨ty, e⟩ | ⟨t, e, _⟩ | ⟨i, e, hi⟩ | ⟨req, a, e, ha⟩
  · subst e; rfl
  · subst e; exact h
  · subst e; exact leaf3_of_simpleProp _ i hi
  · subst e; exact leaf3_of_simpleProp _ a ha

theorem propCostOK3_of_propCost (names : List Str) (rank : Str → Nat) (R : Nat) (p : Node)
    (h : simpleProp2 names p = true) (hc : propCost rank p ≤ R) : propCostOK3 rank R p = true := by
  rcases simpleProp2_cases _ p h with ⟨ty, e⟩ | ⟨t, e, _⟩ | ⟨i, e, hi⟩ | ⟨req, a, e, ha⟩
  · subst e; rfl
  · subst e
    simpa [propCostOK3, Node.core, propCost] using hc
  · subst e
    simpa [propCostOK3, Node.core, propCost, leafCost3, core_of_simpleProp _ i hi] using hc
  · subst e
    simpa [propCostOK3, Node.core, propCost, leafCost3, core_of_simpleProp _ a ha] using hc

theorem ctxOf3_of_simpleProp2 (names : List Str) (n k : Str) (p : Node) (h : simpleProp2 names p = true) :
    ctxOf3 n k p = if isMapNode p then some (mapCtx n k) else none := by
  rcases simpleProp2_cases _ p h with ⟨ty, e⟩ | ⟨t, e, _⟩ | ⟨i, e, hi⟩ | ⟨req, a, e, ha⟩
  · subst e; rfl
  · subst e; rfl
  · subst e; rfl
  · subst e; rfl

theorem ctxsL3_of_simpleProp2 (names : List Str) (n : Str) (ps : List (Str × Node))
    (h : ∀ kv ∈ ps, simpleProp2 names kv.2 = true) :
    ctxsL3 n ps = ((ps.filter (fun kv => isMapNode kv.2)).map (·.1)).map (mapCtx n) := by
  induction ps with
  | nil => rfl
  | cons kv rest ih =>
    obtain ⟨k, p⟩ := kv
    rw [ctxsL3_cons, ih (fun kv hkv => h kv (List.mem_cons_of_mem _ hkv)),
      ctxOf3_of_simpleProp2 names n k p (h (k, p) (List.mem_cons_self ..)), List.filter_cons]
    cases isMapNode p <;> rfl

theorem ctxs3_of_simple2 {decls : Decls} {rank : Str → Nat} (hS : Simple2 decls rank) (d : Str × Node) (hd : d ∈ decls) :
    ctxs3 d.1 d.2 = (mapKeys d.2).map (mapCtx d.1) := by
  unfold ctxs3 mapKeys
  rcases simpleNode2_inv _ d.2 (hS.node d hd) with ⟨ps, req, e, hp, _⟩ | ⟨i, e, _⟩ | ⟨ty, e⟩
  · rw [e]
    exact ctxsL3_of_simpleProp2 _ d.1 ps (fun kv hkv => (hp kv hkv).2)
  · rw [e]; rfl
  · rw [e]; rfl

theorem mapKeys_nodup {decls : Decls} {rank : Str → Nat} (hS : Simple2 decls rank) (d : Str × Node) (hd : d ∈ decls) :
    (mapKeys d.2).Nodup := by
  unfold mapKeys
  rcases simpleNode2_inv _ d.2 (hS.node d hd) with ⟨ps, req, e, _, hnd⟩ | ⟨i, e, _⟩ | ⟨ty, e⟩
  · rw [e]
    exact List.Nodup.sublist (List.Sublist.map _ List.filter_sublist) hnd
  · rw [e]; exact List.nodup_nil
  · rw [e]; exact List.nodup_nil

theorem Simple2.toSimple3 {decls : Decls} {rank : Str → Nat} (hS : Simple2 decls rank) : Simple3 decls rank := by
  refine ⟨hS.nodup, ?_, hS.name, ?_, ?_, ?_, ?_⟩
  · intro d hd
    rcases simpleNode2_inv _ d.2 (hS.node d hd) with ⟨ps, req, e, hp, hnd⟩ | ⟨i, e, hi⟩ | ⟨ty, e⟩
    · rw [e]
      simp only [simpleNode3, Bool.and_eq_true, all_keyed_iff, decide_eq_true_eq]
      exact ⟨fun kv hkv => ⟨(hp kv hkv).1, simpleProp3_of_simpleProp2 _ _ (hp kv hkv).2⟩, hnd⟩
    · rw [e]; exact leaf3_of_simpleProp _ i hi
    · rw [e]; rfl
  · intro d hd
    obtain ⟨c1, c2⟩ := hS.cost d hd
    rcases simpleNode2_inv _ d.2 (hS.node d hd) with ⟨ps, req, e, hp, hnd⟩ | ⟨i, e, hi⟩ | ⟨ty, e⟩
    · rw [e] at c2 ⊢
      simp only [nodeCostOK3, List.all_eq_true]
      intro kv hkv
      exact propCostOK3_of_propCost _ rank _ kv.2 (hp kv hkv).2 (c2 kv hkv)
    · rw [e] at c1 ⊢
      simpa [nodeCostOK3, leafCost3, core_of_simpleProp _ i hi, topCost] using c1
    · rw [e]; rfl
  · intro d hd c hc
    rw [ctxs3_of_simple2 hS d hd] at hc
    obtain ⟨k, hk, rfl⟩ := List.mem_map.mp hc
    exact hS.ctxFresh d hd k hk
  · intro d hd
    rw [ctxs3_of_simple2 hS d hd]
    exact List.pairwise_map.mpr ((mapKeys_nodup hS d hd).imp_of_mem
      (fun ha hb hne e => hne (hS.ctxInj d hd d hd _ ha _ hb e).2))
  · intro d hd d' hd' c hc hc'
    rw [ctxs3_of_simple2 hS d hd] at hc
    rw [ctxs3_of_simple2 hS d' hd'] at hc'
    obtain ⟨k, hk, rfl⟩ := List.mem_map.mp hc
    obtain ⟨k', hk', e⟩ := List.mem_map.mp hc'
    exact (hS.ctxInj d hd d' hd' k hk k' hk' e.symm).1

/-- the node predicates look at the declared names only through membership -/
theorem simpleNode3_congr {names names' : List Str} (h : names.Perm names') :
    simpleNode3 names = simpleNode3 names' := by
  have h1 : simpleProp names = simpleProp names' := by
    funext p
    unfold simpleProp
    simp only [h.contains_eq]
  have h2 : leaf3 names = leaf3 names' := by funext p; unfold leaf3 leafOK; rw [h1]
  have h3 : innerProps3 names = innerProps3 names' := by funext ps; unfold innerProps3 innerProp3; rw [h1, h2]
  have h4 : simpleProp3 names = simpleProp3 names' := by funext p; unfold simpleProp3; rw [h1, h2, h3]
  have h5 : allOfPart3 names = allOfPart3 names' := by funext p; unfold allOfPart3; rw [h1, h3]
  funext nd
  unfold simpleNode3
  rw [h2, h4, h5]

theorem Simple3.perm {d d' : Decls} {rank : Str → Nat} (hS : Simple3 d rank) (hp : d.Perm d') : Simple3 d' rank where
  nodup := (hp.map (·.1)).nodup_iff.mp hS.nodup
  node := fun x hx => by
    rw [← simpleNode3_congr (hp.map (·.1))]
    exact hS.node x (hp.mem_iff.mpr hx)
  name := fun x hx => hS.name x (hp.mem_iff.mpr hx)
  cost := fun x hx => hS.cost x (hp.mem_iff.mpr hx)
  ctxFresh := fun x hx k hk =>
    ⟨fun hin => (hS.ctxFresh x (hp.mem_iff.mpr hx) k hk).1 ((hp.map (·.1)).mem_iff.mpr hin),
      (hS.ctxFresh x (hp.mem_iff.mpr hx) k hk).2⟩
  ctxNodup := fun x hx => hS.ctxNodup x (hp.mem_iff.mpr hx)
  ctxInj := fun x hx y hy => hS.ctxInj x (hp.mem_iff.mpr hx) y (hp.mem_iff.mpr hy)

end Pog.Prs
