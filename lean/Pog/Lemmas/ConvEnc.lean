import Pog.Lemmas.ConvRound
/-
  C16 `encode_decode`: unstructuring a well-typed value and structuring the result gives the value back
  (union-free fragment; needs the codec law), and at the end the law for the driver's codecs `Codecs.exec` (`exec_lawful`).
-/
namespace Pog

/-- What the induction on the depth budget proves; the last component is what lets `Optional[T]` tell `null` from the
    JSON of a value. -/
def EncDec (c : Codecs) (reg : List Str) (decls : Decls) (n : Nat) (t : Ty) (v : Val) : Prop :=
  ∃ j, unstrF c n reg decls (some t) v = .ok j ∧ structF c n decls t j = .ok v ∧ (j = .null → v = .none)

theorem mapE_encdec {ε : Type} (un : Val → Except ε JsonV) (rec : JsonV → Except SErr Val) (xs : List Val)
    (h : ∀ x ∈ xs, ∃ j, un x = .ok j ∧ rec j = .ok x) :
    ∃ js, mapE un xs = .ok js ∧ structItems rec js = (xs, []) := by
  induction xs with
  | nil => exact ⟨[], rfl, rfl⟩
  | cons x xs ih =>
    obtain ⟨j, hu, hs⟩ := h x (by simp)
    obtain ⟨js, hus, hss⟩ := ih (fun y hy => h y (by simp [hy]))
    exact ⟨j :: js, by simp only [mapE, hu, hus], by simp only [structItems, hs, hss]⟩

theorem mapValsE_encdec {ε : Type} (un : Val → Except ε JsonV) (rec : JsonV → Except SErr Val) (kvs : List (Str × Val))
    (h : ∀ kv ∈ kvs, ∃ j, un kv.2 = .ok j ∧ rec j = .ok kv.2) :
    ∃ js, mapValsE un kvs = .ok js ∧ structDictItems rec js = (kvs, []) := by
  induction kvs with
  | nil => exact ⟨[], rfl, rfl⟩
  | cons kv rest ih =>
    obtain ⟨j, hu, hs⟩ := h kv (by simp)
    obtain ⟨js, hus, hss⟩ := ih (fun y hy => h y (by simp [hy]))
    exact ⟨(kv.1, j) :: js, by simp only [mapValsE, hu, hus], by simp only [structDictItems, hs, hss]⟩

theorem hasTypeF_pos (c : Codecs) (decls : Decls) (n : Nat) (t : Ty) (v : Val) (h : HasTypeF c n decls t v) :
    ∃ m, n = m + 1 := by
  cases n with
  | zero => cases h
  | succ m => exact ⟨m, rfl⟩

/-- A valid leaf value is written by the unstructure hook (or the identity) as JSON that structures back to it. -/
theorem encdec_leaf (c : Codecs) (hl : c.Lawful) (reg : List Str) (decls : Decls) (n : Nat) (l : Leaf) (v : Val)
    (h : HasTypeF c (n + 1) decls (.leaf l) v) : EncDec c reg decls (n + 1) (.leaf l) v := by
  obtain ⟨hres, h⟩ := h
  have hs := fun j => structF_leaf c n decls l j hres
  obtain ⟨hb, hdt, hd, ht, hu⟩ := hl
  cases l with
  | str | int | float | bool => obtain ⟨x, rfl⟩ := h; exact ⟨_, rfl, by rw [hs]; rfl, by nofun⟩
  | bytes => obtain ⟨b, rfl, s, hdec⟩ := h; exact ⟨_, rfl, by rw [hs]; simp only [structLeaf, hb s b hdec], by nofun⟩
  | datetime => obtain ⟨b, rfl, s, hdec⟩ := h; exact ⟨_, rfl, by rw [hs]; simp only [structLeaf, hdt s b hdec], by nofun⟩
  | date => obtain ⟨b, rfl, s, hdec⟩ := h; exact ⟨_, rfl, by rw [hs]; simp only [structLeaf, hd s b hdec], by nofun⟩
  | time => obtain ⟨b, rfl, s, hdec⟩ := h; exact ⟨_, rfl, by rw [hs]; simp only [structLeaf, ht s b hdec], by nofun⟩
  | uuid => obtain ⟨b, rfl, s, hdec⟩ := h; exact ⟨_, rfl, by rw [hs]; simp only [structLeaf, hu s b hdec], by nofun⟩

/-- A well-typed `dict[str, Any]` value is JSON-shaped, and unstructures to that JSON. -/
theorem hasType_dictAny (c : Codecs) (reg : List Str) (decls : Decls) (n : Nat) (v : Val)
    (h : HasTypeF c n decls (.dict .any) v) (j : JsonV) (hu : unstrF c n reg decls (some (.dict .any)) v = .ok j) :
    isObj j = true ∧ v = Val.ofJson j := by
  obtain ⟨m, rfl⟩ := hasTypeF_pos c decls n _ v h
  obtain ⟨_, kvs, rfl, _, hx⟩ := h
  have key : ∀ (l : List (Str × Val)), (∀ kv ∈ l, HasTypeF c m decls .any kv.2) →
      ∃ js, mapValsE (unstrF c m reg decls (some .any)) l = .ok js ∧ l = Val.ofJsonKvs js := by
    intro l
    induction l with
    | nil => intro _; exact ⟨[], rfl, rfl⟩
    | cons kv rest ih =>
      intro hl
      obtain ⟨k, x⟩ := kv
      have hx0 := hl (k, x) (by simp)
      obtain ⟨m', rfl⟩ := hasTypeF_pos c decls m _ _ hx0
      obtain ⟨_, jx, rfl, hfit⟩ := hx0
      obtain ⟨js, h1, h2⟩ := ih (fun y hy => hl y (by simp [hy]))
      have hux : unstrF c (m' + 1) reg decls (some .any) (Val.ofJson jx) = .ok jx :=
        unstr_dyn_ofJson c reg decls m' jx hfit
      exact ⟨(k, jx) :: js, by simp only [mapValsE, hux, h1], by rw [Val.ofJsonKvs, ← h2]⟩
  obtain ⟨js, h1, h2⟩ := key kvs hx
  simp only [unstrF, h1, Except.map, Except.ok.injEq] at hu
  subst hu
  exact ⟨rfl, by rw [Val.ofJson, ← h2]⟩

theorem unstrF_dc_isObj (c : Codecs) (reg : List Str) (decls : Decls) (n : Nat) (name : Str) (v : Val) (j : JsonV)
    (h : unstrF c n reg decls (some (.dc name)) v = .ok j) : isObj j = true := by
  cases n with
  | zero => cases h
  | succ m =>
    simp only [unstrF, Except.map] at h
    repeat' split at h
    all_goals cases h
    rfl

theorem encdec_optional (c : Codecs) (reg : List Str) (decls : Decls) (n : Nat) (t : Ty) (v : Val)
    (ih : ∀ t v, HasTypeF c n decls t v → EncDec c reg decls n t v)
    (h : HasTypeF c (n + 1) decls (.optional t) v) : EncDec c reg decls (n + 1) (.optional t) v := by
  obtain ⟨_, h⟩ := h
  rcases h with rfl | ⟨hvn, ht⟩
  · exact ⟨.null, rfl, by rw [structF_optional, structUnion_optional_null], fun _ => rfl⟩
  · obtain ⟨j, hu, hs, hnull⟩ := ih t v ht
    have hj : j ≠ .null := fun e => hvn (hnull e)
    have hres : resolvable t = true := by
      obtain ⟨m, rfl⟩ := hasTypeF_pos c decls n _ v ht
      exact ht.1
    refine ⟨j, by rw [unstrF_optional c n reg decls t v hvn, hu], ?_, fun e => absurd e hj⟩
    rw [structF_optional]
    exact structUnion_optional_ok _ t j v hj hs (isNoneTy_of_resolvable t hres)
      (fun name e => unstrF_dc_isObj c reg decls n name v j (e ▸ hu))
      (fun e => hasType_dictAny c reg decls n v (e ▸ ht) j (e ▸ hu))

theorem encdec_dc (c : Codecs) (reg : List Str) (decls : Decls) (hwf : declsOk decls = true)
    (hreg : allRegistered reg decls = true) (n : Nat) (name : Str) (v : Val)
    (ih : ∀ t v, HasTypeF c n decls t v → EncDec c reg decls n t v)
    (h : HasTypeF c (n + 1) decls (.dc name) v) : EncDec c reg decls (n + 1) (.dc name) v := by
  obtain ⟨_, cd, hcd, hres, fv, rfl, hfields⟩ := h
  have hok := declsOk_get decls name cd hwf hcd
  obtain ⟨_, hdk, hld⟩ := classOk_spec cd hok
  -- the JSON of every field
  let fj : Field → JsonV := fun f =>
    match unstrF c n reg decls (some f.ty) (fv f) with
    | .ok j => j
    | .error _ => .null
  obtain ⟨hs, hu⟩ := dc_step c n reg decls name cd hcd hok (allRegistered_get reg decls name cd hreg hcd) hres
    (cd.fields.map (fun f => (dumpKey cd f, fj f))) fv fj (fun f hf => by
      obtain ⟨j, hu, hs, _⟩ := ih f.ty (fv f) (hfields f hf)
      rw [hld f hf, aget_map_of_nodup cd.fields (dumpKey cd) fj hdk f hf]
      simp only [fj, hu]
      exact ⟨hs, trivial⟩)
  exact ⟨_, hu, hs, nofun⟩

/-- Induction on the depth budget, then one case per type constructor: the structure hook undoes the unstructure hook
    once it does so on the components (`mapE_encdec`, `mapValsE_encdec`, `dc_step`). -/
theorem encdec_core (c : Codecs) (hl : c.Lawful) (reg : List Str) (decls : Decls) (hwf : declsOk decls = true)
    (hreg : allRegistered reg decls = true) :
    ∀ n t v, HasTypeF c n decls t v → EncDec c reg decls n t v := by
  intro n
  induction n with
  | zero => intro t v h; cases h
  | succ n ih =>
    intro t v h
    cases t with
    | leaf l => exact encdec_leaf c hl reg decls n l v h
    | none => cases h.2
    | fwd _ => cases h.2
    | union _ _ => cases h.2
    | optional t' => exact encdec_optional c reg decls n t' v ih h
    | dc name => exact encdec_dc c reg decls hwf hreg n name v ih h
    | any =>
      obtain ⟨_, j, rfl, hj⟩ := h
      exact ⟨j, unstr_dyn_ofJson c reg decls n j hj, structF_any c n decls j, fun e => e ▸ rfl⟩
    | enum name ms =>
      obtain ⟨_, m, rfl, hok, hmem⟩ := h
      refine ⟨m, ?_, structF_enum c n decls name ms m m (enumLookup_self ms m hok hmem), ?_⟩
      · simp only [unstrF]; split <;> rfl
      · intro e
        exact absurd (by simpa [e] using hmem) (enum_member_ne_null ms hok)
    | list t' =>
      obtain ⟨hres, xs, rfl, hx⟩ := h
      obtain ⟨js, hu, hs⟩ := mapE_encdec (unstrF c n reg decls (some t')) (structF c n decls t') xs
        (fun x hxm => (ih t' x (hx x hxm)).imp fun _ h => ⟨h.1, h.2.1⟩)
      exact ⟨.arr js, by simp only [unstrF, hu, Except.map], structF_list_ok c n decls t' js xs hres hs, nofun⟩
    | dict t' =>
      obtain ⟨hres, kvs, rfl, hnd, hx⟩ := h
      obtain ⟨js, hu, hs⟩ := mapValsE_encdec (unstrF c n reg decls (some t')) (structF c n decls t') kvs
        (fun kv hkv => (ih t' kv.2 (hx kv hkv)).imp fun _ h => ⟨h.1, h.2.1⟩)
      exact ⟨.obj js, by simp only [unstrF, hu, Except.map], structF_dict_ok c n decls t' js kvs hres hs hnd, nofun⟩

theorem isoDateValid_length (t : Str) (h : isoDateValid t = true) : t.length = 10 := by
  unfold isoDateValid at h
  split at h
  · rfl
  · cases h

theorem replaceZ_of_not_mem (u : Str) (hu : 'Z' ∉ u) : replaceZ u = u := by
  induction u with
  | nil => rfl
  | cons x xs ih =>
    simp only [List.mem_cons, not_or] at hu
    have ih' := ih hu.2
    unfold replaceZ at ih' ⊢
    rw [List.flatMap_cons, beq_false_of_ne (Ne.symm hu.1), ih']
    rfl

theorem not_mem_replaceZ (s : Str) : 'Z' ∉ replaceZ s := by
  unfold replaceZ
  intro h
  obtain ⟨x, _, hx⟩ := List.mem_flatMap.mp h
  split at hx
  · revert hx; decide
  · exact absurd (beq_iff_eq.mpr (List.mem_singleton.mp hx).symm) ‹_›

/-- The date-time codec has two normal forms: a bare date is completed to `…T00:00:00`, which is then a date-time and no
    longer a date (ten characters against nineteen), so decoding it again takes the second branch and changes nothing. -/
theorem dt_lawful : Codecs.exec.datetime.Lawful := by
  intro s v h
  simp only [Codecs.exec] at h ⊢
  have hnz := not_mem_replaceZ s
  by_cases hd : isoDateValid (replaceZ s) = true
  · rw [if_pos hd] at h
    cases h
    have hlen := isoDateValid_length _ hd
    have h1 : 'Z' ∉ replaceZ s ++ "T00:00:00".toList := fun hm => (List.mem_append.mp hm).elim hnz (by decide +kernel)
    simp only [id, replaceZ_of_not_mem _ h1]
    have hnd : ¬ isoDateValid (replaceZ s ++ "T00:00:00".toList) = true := fun hv => by
      have := isoDateValid_length _ hv
      simp [hlen] at this
    have hdt : isoDateTimeValid (replaceZ s ++ "T00:00:00".toList) = true := by
      have hdrop : ∀ k, (replaceZ s ++ "T00:00:00".toList).drop (10 + k) = "T00:00:00".toList.drop k := fun k => by
        rw [← List.drop_drop, List.drop_left' hlen]
      unfold isoDateTimeValid
      rw [List.take_left' hlen, hd, hdrop 0, hdrop 1, hdrop 9]
      decide +kernel
    rw [if_neg hnd, if_pos hdt]
  · rw [if_neg hd] at h
    by_cases hdt : isoDateTimeValid (replaceZ s) = true
    · rw [if_pos hdt] at h
      cases h
      simp only [id, replaceZ_of_not_mem _ hnz]
      rw [if_neg hd, if_pos hdt]
    · rw [if_neg hdt] at h; cases h

/-- A codec that keeps values as their normal form (`encode = id`) is lawful when the normal form of an accepted
    spelling is accepted and is its own normal form. -/
theorem lawful_of_normal_form (ok : Str → Bool) (norm : Str → Str)
    (h : ∀ s, ok s = true → ok (norm s) = true ∧ norm (norm s) = norm s) :
    LeafCodec.Lawful { decode := fun s => if ok s then some (norm s) else none, encode := id } := by
  intro s v hv
  by_cases hs : ok s = true
  · simp only [hs, if_true, Option.some.injEq] at hv
    subst hv
    simp only [id, (h s hs).1, (h s hs).2, if_true]
  · simp only [hs] at hv
    cases hv

theorem replaceZ_idem (s : Str) : replaceZ (replaceZ s) = replaceZ s :=
  replaceZ_of_not_mem _ (not_mem_replaceZ s)

theorem bytes_lawful : Codecs.exec.bytes.Lawful :=
  lawful_of_normal_form (fun s => s.all isAscii && b64Canonical (b64Filter s)) b64Filter fun s hs => by
    simp only [Bool.and_eq_true] at hs
    have hf : b64Filter (b64Filter s) = b64Filter s := by simp [b64Filter, List.filter_filter]
    have ha : (b64Filter s).all isAscii = true :=
      List.all_eq_true.mpr fun x hx => List.all_eq_true.mp hs.1 x (List.mem_filter.mp hx).1
    simp only [hf, ha, hs.2, Bool.and_self, and_self]

theorem exec_lawful : Codecs.exec.Lawful :=
  ⟨bytes_lawful, dt_lawful, lawful_of_normal_form isoDateValid id fun _ h => ⟨h, rfl⟩,
    lawful_of_normal_form (fun s => isoTimeValid (replaceZ s)) replaceZ fun s h => ⟨by rw [replaceZ_idem]; exact h, replaceZ_idem s⟩,
    lawful_of_normal_form uuidCanonical id fun _ h => ⟨h, rfl⟩⟩

end Pog
