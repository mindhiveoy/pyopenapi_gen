import Pog.Model.Names
/-
  Lemmas about the name sanitisers of `Pog.Model.Names`.
  Facts about the generated tables are proved by `decide` on table-level properties only.
-/
namespace Pog

theorem toNat_ofNat_small (n : Nat) (h : n < 0xd800) : (Char.ofNat n).toNat = n := by
  have hv : n.isValidChar := Or.inl h
  simp [Char.ofNat, hv, Char.ofNatAux, Char.toNat]

theorem isUpperA_iff (c : Char) : isUpperA c = true ↔ 65 ≤ c.toNat ∧ c.toNat ≤ 90 := by
  simp [isUpperA, Char.le_def, UInt32.le_iff_toNat_le]
theorem isLowerA_iff (c : Char) : isLowerA c = true ↔ 97 ≤ c.toNat ∧ c.toNat ≤ 122 := by
  simp [isLowerA, Char.le_def, UInt32.le_iff_toNat_le]
theorem isDigitA_iff (c : Char) : isDigitA c = true ↔ 48 ≤ c.toNat ∧ c.toNat ≤ 57 := by
  simp [isDigitA, Char.le_def, UInt32.le_iff_toNat_le]
theorem isDigit_iff (c : Char) : c.isDigit = true ↔ 48 ≤ c.toNat ∧ c.toNat ≤ 57 := by
  simp [Char.isDigit, UInt32.le_iff_toNat_le]
theorem eq_us_iff (c : Char) : c = '_' ↔ c.toNat = 95 := by
  constructor
  · rintro rfl; rfl
  · intro h
    rw [← Char.ofNat_toNat c, h]
theorem beq_us_iff (c : Char) : (c == '_') = true ↔ c.toNat = 95 := by
  simp [eq_us_iff]
theorem isAscii_iff (c : Char) : isAscii c = true ↔ c.toNat < 128 := by
  simp [isAscii]

theorem lowerA_toNat (c : Char) :
    (lowerA c).toNat = if 65 ≤ c.toNat ∧ c.toNat ≤ 90 then c.toNat + 32 else c.toNat := by
  unfold lowerA
  by_cases h : isUpperA c = true
  · have h' := (isUpperA_iff c).1 h
    rw [if_pos h, if_pos h', toNat_ofNat_small _ (by omega)]
  · have h' := mt (isUpperA_iff c).2 h
    rw [if_neg h, if_neg h']
theorem upperA_toNat (c : Char) :
    (upperA c).toNat = if 97 ≤ c.toNat ∧ c.toNat ≤ 122 then c.toNat - 32 else c.toNat := by
  unfold upperA
  by_cases h : isLowerA c = true
  · have h' := (isLowerA_iff c).1 h
    rw [if_pos h, if_pos h', toNat_ofNat_small _ (by omega)]
  · have h' := mt (isLowerA_iff c).2 h
    rw [if_neg h, if_neg h']

/-- The ASCII classes are intervals of `Char.toNat`: a fact that needs the intervals (disjointness, what `lowerA` and
    `upperA` do) is reduced to arithmetic and left to `omega`; the others are Boolean and proved as such. -/
macro "char_arith" : tactic =>
  `(tactic| (
    simp only [isIdStart, isIdChar, isAlnumA, isAlphaA, Bool.or_eq_true, Bool.and_eq_true,
      Bool.not_eq_true', Bool.not_eq_true, ← Bool.not_eq_true, bne_iff_ne, ne_eq,
      beq_us_iff, eq_us_iff, isUpperA_iff, isLowerA_iff, isDigitA_iff, isDigit_iff, isAscii_iff,
      lowerA_toNat, upperA_toNat] at *
    <;> (try split) <;> omega))

theorem isAlnumA_lowerA {c : Char} (h : isAlnumA c = true) : isAlnumA (lowerA c) = true := by
  char_arith
theorem isAlnumA_upperA {c : Char} (h : isAlnumA c = true) : isAlnumA (upperA c) = true := by
  char_arith
theorem isIdChar_lowerA {c : Char} (h : isIdChar c = true) : isIdChar (lowerA c) = true := by
  char_arith
theorem isIdChar_of_isAlnumA {c : Char} (h : isAlnumA c = true) : isIdChar c = true := by
  simp [isIdChar, h]
theorem isAscii_of_isAlnumA {c : Char} (h : isAlnumA c = true) : isAscii c = true := by
  char_arith
theorem isIdStart_of_not_digit {c : Char} (h : isIdChar c = true) (hd : isDigitA c = false) :
    isIdStart c = true := by
  simpa [isIdChar, isAlnumA, isIdStart, hd] using h
theorem isIdStart_of_alnum_not_digit {c : Char} (h : isAlnumA c = true) (hd : isDigitA c = false) :
    isIdStart c = true :=
  isIdStart_of_not_digit (isIdChar_of_isAlnumA h) hd
theorem isAlnumA_us : isAlnumA '_' = false := by decide

def noTrailUs (k : Str) : Bool := k.getLast? != some '_'
def noTrailDigit (k : Str) : Bool := match k.getLast? with | some c => !isDigitA c | none => true
def noLeadUs (k : Str) : Bool := k.head? != some '_'

theorem kw_noTrailUs : Gen.pyKeywords.all noTrailUs = true := by decide +kernel
theorem kw_noTrailDigit : Gen.pyKeywords.all noTrailDigit = true := by decide +kernel
theorem kw_noLeadUs : Gen.pyKeywords.all noLeadUs = true := by decide +kernel
theorem kw_hasLower : Gen.pyKeywords.all (fun k => k.any isLowerA) = true := by decide +kernel
theorem kw_lower_or_special :
    Gen.pyKeywords.all (fun k => isKeyword (k.map lowerA) || k == "None".toList
      || k == "True".toList || k == "False".toList) = true := by decide +kernel

theorem isKeyword_iff (s : Str) : isKeyword s = true ↔ s ∈ Gen.pyKeywords := by
  simp [isKeyword]

/-- A string that fails a test every keyword passes is no keyword. -/
theorem not_isKeyword_of_table {p : Str → Bool} (hp : Gen.pyKeywords.all p = true) {s : Str} (hs : p s = false) :
    isKeyword s = false := by
  cases h : isKeyword s with
  | false => rfl
  | true => rw [List.all_eq_true.1 hp s ((isKeyword_iff s).1 h)] at hs; cases hs

theorem not_isKeyword_append_us (s : Str) : isKeyword (s ++ ['_']) = false :=
  not_isKeyword_of_table kw_noTrailUs (by simp [noTrailUs])

theorem not_isKeyword_us_cons (s : Str) : isKeyword ('_' :: s) = false :=
  not_isKeyword_of_table kw_noLeadUs (by simp [noLeadUs])

theorem not_isKeyword_of_trail_digit (s : Str) (c : Char) (hc : isDigitA c = true) :
    isKeyword (s ++ [c]) = false :=
  not_isKeyword_of_table kw_noTrailDigit (by simp [noTrailDigit, hc])

theorem isPyIdent_append_us {s : Str} (h : isPyIdent s = true) : isPyIdent (s ++ ['_']) = true := by
  cases s with
  | nil => cases h
  | cons c cs =>
    simp only [isPyIdent, List.cons_append, Bool.and_eq_true, List.all_append] at *
    exact ⟨h.1, h.2, by decide⟩

/-- The "prefix `_` when the name starts with a digit" step shared by the sanitisers. -/
def digitGuard (s : Str) : Str :=
  match s with
  | d :: _ => if isDigitA d then '_' :: s else s
  | [] => s

theorem digitGuard_cases (s : Str) : digitGuard s = s ∨ digitGuard s = '_' :: s := by
  cases s with
  | nil => exact .inl rfl
  | cons d ds =>
    simp only [digitGuard]
    split
    · exact .inr rfl
    · exact .inl rfl

theorem digitGuard_eq_nil_iff (s : Str) : digitGuard s = [] ↔ s = [] := by
  cases s with
  | nil => simp [digitGuard]
  | cons d ds => simp only [digitGuard]; split <;> simp

theorem isPyIdent_digitGuard (s : Str) (hne : s ≠ []) (hall : s.all isIdChar = true) :
    isPyIdent (digitGuard s) = true := by
  cases s with
  | nil => exact absurd rfl hne
  | cons d ds =>
    simp only [digitGuard]
    split
    · simp only [isPyIdent, hall, Bool.and_true]
      decide
    · rename_i hd
      simp only [List.all_cons, Bool.and_eq_true] at hall
      simp only [isPyIdent, Bool.and_eq_true]
      exact ⟨isIdStart_of_not_digit hall.1 (by simpa using hd), hall.2⟩

/-- A non-empty run of ASCII alphanumerics: what every token is. -/
def GoodTok (t : Str) : Prop := t ≠ [] ∧ t.all isAlnumA = true

/-- An open token is non-empty and alphanumeric, and every finished token is good. -/
def TokSt.Good (st : TokSt) : Prop :=
  (st.kind ≠ .none → st.cur ≠ []) ∧ st.cur.all isAlnumA = true ∧ ∀ t ∈ st.out, GoodTok t

theorem isAlnumA_of_lower {c : Char} (h : isLowerA c = true) : isAlnumA c = true := by
  simp [isAlnumA, isAlphaA, h]
theorem isAlnumA_of_upper {c : Char} (h : isUpperA c = true) : isAlnumA c = true := by
  simp [isAlnumA, isAlphaA, h]
theorem isAlnumA_of_digit {c : Char} (h : isDigitA c = true) : isAlnumA c = true := by
  simp [isAlnumA, h]

theorem TokSt.flush_good {st : TokSt} (h : st.Good) : ∀ t ∈ st.flush, GoodTok t := by
  obtain ⟨k, cur, out⟩ := st
  obtain ⟨h1, h2, h3⟩ := h
  cases k
  · exact h3
  all_goals exact List.forall_mem_cons.2 ⟨⟨by simpa using h1 (by simp), by simpa using h2⟩, h3⟩

theorem TokSt.Good.push {k : TokKind} {c : Char} {cur : Str} {out : List Str} (hc : isAlnumA c = true)
    (hcur : cur.all isAlnumA = true) (hout : ∀ t ∈ out, GoodTok t) : TokSt.Good ⟨k, c :: cur, out⟩ :=
  ⟨fun _ => List.cons_ne_nil _ _, by simp [hc, hcur], hout⟩

theorem tokStep_good (st : TokSt) (c : Char) (h : st.Good) : (tokStep st c).Good := by
  -- where a step closes the open token, the new `out` is the old `flush`
  have hfl := TokSt.flush_good h
  obtain ⟨k, cur, out⟩ := st
  obtain ⟨-, h2, h3⟩ := h
  unfold tokStep
  split
  · rename_i hc
    have hc := isAlnumA_of_lower hc
    cases k
    · exact .push hc rfl h3
    · simp only
      split
      · exact .push hc rfl h3
      · exact .push hc h2 h3
      · rename_i u rest hne
        simp only [List.all_cons, Bool.and_eq_true] at h2
        refine .push hc (by simp [h2.1]) (List.forall_mem_cons.2 ⟨⟨?_, by simpa using h2.2⟩, h3⟩)
        intro hr
        exact hne (by rw [List.reverse_eq_nil_iff.1 hr])
    · exact .push hc h2 h3
    · exact .push hc rfl hfl
  · split
    · rename_i hc
      have hc := isAlnumA_of_upper hc
      cases k
      · exact .push hc rfl h3
      · exact .push hc h2 h3
      · exact .push hc rfl hfl
      · exact .push hc rfl hfl
    · split
      · rename_i hc
        have hc := isAlnumA_of_digit hc
        cases k
        · exact .push hc rfl h3
        · exact .push hc rfl hfl
        · exact .push hc rfl hfl
        · exact .push hc h2 h3
      · exact ⟨by simp, by simp, hfl⟩

theorem foldl_tokStep_good (s : Str) (st : TokSt) (h : st.Good) : (s.foldl tokStep st).Good := by
  induction s generalizing st with
  | nil => exact h
  | cons c cs ih => exact ih _ (tokStep_good st c h)

theorem tokenize_good (s : Str) : ∀ t ∈ tokenize s, GoodTok t := by
  intro t ht
  simp only [tokenize, List.mem_reverse] at ht
  exact TokSt.flush_good (foldl_tokStep_good s _ (by simp [TokSt.Good, TokSt.init])) t ht

theorem tokStep_of_not_alnum (st : TokSt) {c : Char} (h : isAlnumA c = false) :
    tokStep st c = ⟨.none, [], st.flush⟩ := by
  simp only [isAlnumA, isAlphaA, Bool.or_eq_false_iff] at h
  simp [tokStep, h]

theorem tokStep_kind_of_alnum (st : TokSt) {c : Char} (h : isAlnumA c = true) : (tokStep st c).kind ≠ .none := by
  simp only [isAlnumA, isAlphaA, Bool.or_eq_true] at h
  fun_cases tokStep st c <;> simp_all

theorem TokSt.flush_eq_nil_iff (st : TokSt) : st.flush = [] ↔ st.kind = .none ∧ st.out = [] := by
  obtain ⟨k, cur, out⟩ := st
  cases k <;> simp [TokSt.flush]

theorem tokStep_flush_eq_nil_iff (st : TokSt) (c : Char) :
    (tokStep st c).flush = [] ↔ st.flush = [] ∧ isAlnumA c = false := by
  cases h : isAlnumA c with
  | false => rw [tokStep_of_not_alnum st h]; simp [TokSt.flush]
  | true => simp [TokSt.flush_eq_nil_iff, tokStep_kind_of_alnum st h]

theorem foldl_tokStep_flush_eq_nil_iff (s : Str) (st : TokSt) :
    (s.foldl tokStep st).flush = [] ↔ st.flush = [] ∧ s.any isAlnumA = false := by
  induction s generalizing st with
  | nil => simp
  | cons c cs ih => rw [List.foldl_cons, ih, tokStep_flush_eq_nil_iff, List.any_cons, Bool.or_eq_false_iff, and_assoc]

theorem tokenize_eq_nil_iff (s : Str) : tokenize s = [] ↔ s.any isAlnumA = false := by
  rw [tokenize, List.reverse_eq_nil_iff, foldl_tokStep_flush_eq_nil_iff]
  simp [TokSt.init, TokSt.flush]

theorem all_imp {p q : Char → Bool} (hpq : ∀ c, p c = true → q c = true) {s : Str} (h : s.all p = true) :
    s.all q = true := by
  rw [List.all_eq_true] at *
  exact fun c hc => hpq c (h c hc)

theorem all_isIdChar_of_all_isAlnumA {s : Str} (h : s.all isAlnumA = true) : s.all isIdChar = true :=
  all_imp (fun _ => isIdChar_of_isAlnumA) h

theorem capitalizeA_good {t : Str} (h : GoodTok t) : GoodTok (capitalizeA t) := by
  obtain ⟨c, cs, rfl⟩ := List.exists_cons_of_ne_nil h.1
  have h2 := h.2
  simp only [List.all_cons, Bool.and_eq_true] at h2
  refine ⟨List.cons_ne_nil _ _, ?_⟩
  simp only [capitalizeA, List.all_cons, isAlnumA_upperA h2.1, List.all_map, Bool.true_and]
  exact all_imp (fun _ => isAlnumA_lowerA) h2.2

theorem flatMap_capitalizeA_good (ts : List Str) (h : ∀ t ∈ ts, GoodTok t) (hne : ts ≠ []) :
    GoodTok (ts.flatMap capitalizeA) := by
  constructor
  · obtain ⟨t, ts, rfl⟩ := List.exists_cons_of_ne_nil hne
    simp [(capitalizeA_good (h t List.mem_cons_self)).1]
  · rw [List.all_flatMap, List.all_eq_true]
    exact fun t ht => (capitalizeA_good (h t ht)).2

theorem sanClassCore_good (s : Str) : GoodTok (sanClassCore s) := by
  unfold sanClassCore
  simp only
  split
  · rw [String.toList_ofList]
    exact ⟨List.cons_ne_nil _ _, by decide +kernel⟩
  · rename_i hne
    exact flatMap_capitalizeA_good _ (tokenize_good s) (fun h => hne (by rw [h]; rfl))

/-- The part of `sanClass` after `sanClassCore`. -/
def classPost (c : Str) : Str :=
  if isKeyword ((digitGuard c).map lowerA) || isKeyword (digitGuard c) || isReserved ((digitGuard c).map lowerA)
  then digitGuard c ++ ['_'] else digitGuard c

theorem sanClass_eq (s : Str) : sanClass s = classPost (sanClassCore s) := rfl

theorem sanClass_isPyIdent (s : Str) : isPyIdent (sanClass s) = true := by
  have h := sanClassCore_good s
  have hg := isPyIdent_digitGuard _ h.1 (all_isIdChar_of_all_isAlnumA h.2)
  rw [sanClass_eq]
  unfold classPost
  split
  · exact isPyIdent_append_us hg
  · exact hg

theorem sanClass_ne_nil (s : Str) : sanClass s ≠ [] := by
  intro h
  have := sanClass_isPyIdent s
  rw [h] at this
  simp [isPyIdent] at this

/-- The result is never a keyword (F28): either the guard fired (a name ending in `_` is no keyword) or the name itself
    was tested. -/
theorem classPost_not_keyword (c : Str) : isKeyword (classPost c) = false := by
  unfold classPost
  split
  · exact not_isKeyword_append_us _
  · rename_i hcond
    simp only [Bool.or_eq_true, not_or, Bool.not_eq_true] at hcond
    exact hcond.1.2

theorem any_alnum_dropBraces (s : Str) : (dropBraces s).any isAlnumA = s.any isAlnumA := by
  unfold dropBraces
  rw [List.any_filter]
  congr 1; funext c
  by_cases h : (c == '{' || c == '}') = true
  · simp only [Bool.or_eq_true, beq_iff_eq] at h
    rcases h with rfl | rfl <;> decide
  · simp [h]

theorem any_alnum_camelSplit1 (prev : Option Char) (s : Str) :
    (camelSplit1 prev s).any isAlnumA = s.any isAlnumA := by
  induction s generalizing prev with
  | nil => rfl
  | cons c cs ih =>
    unfold camelSplit1
    simp only
    repeat' split
    all_goals simp [List.any_cons, ih, isAlnumA_us]

theorem any_alnum_camelSplit2 (b : Bool) (s : Str) :
    (camelSplit2 b s).any isAlnumA = s.any isAlnumA := by
  induction s generalizing b with
  | nil => rfl
  | cons c cs ih =>
    unfold camelSplit2
    simp only
    repeat' split
    all_goals simp [List.any_cons, ih, isAlnumA_us]

theorem any_alnum_nonId (s : Str) : (nonIdToUnderscore s).any isAlnumA = s.any isAlnumA := by
  unfold nonIdToUnderscore
  rw [List.any_map]
  congr 1
  funext c
  simp only [Function.comp]
  split
  · rfl
  · rename_i h
    rw [isAlnumA_us, Bool.eq_false_iff.2 fun ha => h (isIdChar_of_isAlnumA ha)]

theorem all_idChar_nonId (s : Str) : (nonIdToUnderscore s).all isIdChar = true := by
  unfold nonIdToUnderscore
  rw [List.all_map, List.all_eq_true]
  intro c _
  simp only [Function.comp]
  split
  · assumption
  · rfl

theorem any_collapse (p : Char → Bool) (s : Str) : (collapseUnderscores s).any p = s.any p := by
  fun_induction collapseUnderscores s with
  | case1 => rfl
  | case2 => rfl
  | case3 c d rest h ih =>
    simp only [Bool.and_eq_true, beq_iff_eq] at h
    obtain ⟨rfl, rfl⟩ := h
    rw [ih]; simp [List.any_cons]
  | case4 c d rest h ih =>
    simp only [List.any_cons] at ih ⊢; rw [ih]

theorem all_collapse (p : Char → Bool) (s : Str) : (collapseUnderscores s).all p = s.all p := by
  rw [List.all_eq_not_any_not, any_collapse, ← List.all_eq_not_any_not]

theorem lstripC_suffix (ch : Char) (s : Str) : lstripC ch s <:+ s := by
  induction s with
  | nil => exact List.suffix_refl _
  | cons c cs ih =>
    unfold lstripC
    split
    · exact ih.trans (List.suffix_cons _ _)
    · exact List.suffix_refl _

theorem rstripC_prefix (ch : Char) (s : Str) : rstripC ch s <+: s := by
  unfold rstripC
  simpa using List.reverse_prefix.2 (lstripC_suffix ch s.reverse)

theorem stripC_infix {ch : Char} (s : Str) : stripC ch s <:+: s := by
  unfold stripC
  exact (rstripC_prefix _ _).isInfix.trans (lstripC_suffix _ _).isInfix

theorem all_stripC (ch : Char) (p : Char → Bool) (s : Str) (h : s.all p = true) :
    (stripC ch s).all p = true := by
  rw [List.all_eq_true] at *
  exact fun c hc => h c ((stripC_infix s).subset hc)

theorem lstripC_eq_nil_iff (ch : Char) (s : Str) :
    lstripC ch s = [] ↔ s.all (· == ch) = true := by
  induction s with
  | nil => simp [lstripC]
  | cons c cs ih =>
    unfold lstripC
    split
    · rename_i h; simp [ih, h]
    · rename_i h; simp [h]

theorem all_eq_lstripC (ch : Char) (s : Str) :
    (lstripC ch s).all (· == ch) = s.all (· == ch) := by
  induction s with
  | nil => rfl
  | cons c cs ih =>
    unfold lstripC
    split
    · rename_i h; simp [ih, h]
    · rfl

theorem stripC_eq_nil_iff (ch : Char) (s : Str) :
    stripC ch s = [] ↔ s.all (· == ch) = true := by
  unfold stripC rstripC
  rw [List.reverse_eq_nil_iff, lstripC_eq_nil_iff, List.all_reverse, all_eq_lstripC]

theorem lstripC_head (ch : Char) (s : Str) : (lstripC ch s).head? ≠ some ch := by
  induction s with
  | nil => simp [lstripC]
  | cons c cs ih =>
    unfold lstripC
    split
    · exact ih
    · rename_i h
      simpa using h

theorem lstripC_id_of_head {ch : Char} {s : Str} (h : s.head? ≠ some ch) : lstripC ch s = s := by
  cases s with
  | nil => rfl
  | cons c cs =>
    simp only [List.head?_cons, ne_eq, Option.some.injEq] at h
    simp [lstripC, h]

theorem rstripC_last (ch : Char) (s : Str) : (rstripC ch s).getLast? ≠ some ch := by
  unfold rstripC
  rw [List.getLast?_reverse]
  exact lstripC_head ch _

theorem rstripC_id_of_last {ch : Char} {s : Str} (h : s.getLast? ≠ some ch) : rstripC ch s = s := by
  unfold rstripC
  rw [lstripC_id_of_head (by rw [List.head?_reverse]; exact h), List.reverse_reverse]

theorem stripC_lead (s : Str) : (stripC '_' s).head? ≠ some '_' := by
  unfold stripC
  -- the head of a non-empty prefix of `lstripC '_' s` is the head of `lstripC '_' s`
  obtain ⟨q, hq⟩ := rstripC_prefix '_' (lstripC '_' s)
  have hh := lstripC_head '_' s
  rw [← hq] at hh
  cases hr : rstripC '_' (lstripC '_' s) with
  | nil => simp
  | cons c cs => rwa [hr] at hh

theorem rstripC_append_self (ch : Char) (x : Str) : rstripC ch (x ++ [ch]) = rstripC ch x := by
  unfold rstripC
  simp [lstripC]

theorem stripC_cons_self (ch : Char) (x : Str) : stripC ch (ch :: x) = stripC ch x := by
  simp [stripC, lstripC]

theorem stripC_append_self (ch : Char) (x : Str) : stripC ch (x ++ [ch]) = stripC ch x := by
  induction x with
  | nil => simp [stripC, rstripC, lstripC]
  | cons c cs ih =>
    unfold stripC at *
    simp only [List.cons_append, lstripC]
    split
    · exact ih
    · rw [← List.cons_append, rstripC_append_self]

theorem lstripC_append_of_head (ch : Char) (t : Str) (ht : t.head? ≠ some ch) :
    ∀ p : Str, lstripC ch (p ++ t) = lstripC ch p ++ t := by
  intro p
  induction p with
  | nil => exact lstripC_id_of_head ht
  | cons c cs ih =>
    simp only [List.cons_append, lstripC]
    split
    · exact ih
    · rfl

theorem all_us_iff_no_alnum (t : Str) (h : t.all isIdChar = true) :
    t.all (· == '_') = true ↔ t.any isAlnumA = false := by
  induction t with
  | nil => simp
  | cons c cs ih =>
    simp only [List.all_cons, Bool.and_eq_true] at h
    have hc : (c == '_') = true ↔ isAlnumA c = false := by
      constructor
      · intro h'; rw [beq_iff_eq.1 h']; exact isAlnumA_us
      · intro h'; simpa [isIdChar, h'] using h.1
    simp only [List.all_cons, Bool.and_eq_true, List.any_cons, Bool.or_eq_false_iff, ih h.2, hc]

/-- The string `methodCore` strips and lower-cases. -/
def methodPre (name : Str) : Str :=
  collapseUnderscores (nonIdToUnderscore (camelSplit2 false (camelSplit1 none (dropBraces name))))

theorem methodCore_eq (s : Str) : methodCore s = (stripC '_' (methodPre s)).map lowerA := rfl

theorem methodPre_all (s : Str) : (methodPre s).all isIdChar = true := by
  unfold methodPre
  rw [all_collapse]; exact all_idChar_nonId _

theorem methodPre_any (s : Str) : (methodPre s).any isAlnumA = s.any isAlnumA := by
  unfold methodPre
  rw [any_collapse, any_alnum_nonId, any_alnum_camelSplit2, any_alnum_camelSplit1,
    any_alnum_dropBraces]

theorem methodCore_all (s : Str) : (methodCore s).all isIdChar = true := by
  rw [methodCore_eq, List.all_map, List.all_eq_true]
  intro c hc
  exact isIdChar_lowerA (List.all_eq_true.1 (all_stripC '_' _ _ (methodPre_all s)) c hc)

theorem methodCore_eq_nil_iff (s : Str) : methodCore s = [] ↔ s.any isAlnumA = false := by
  rw [methodCore_eq, List.map_eq_nil_iff, stripC_eq_nil_iff,
    all_us_iff_no_alnum _ (methodPre_all s), methodPre_any]

/-- The part of `sanMethod` after `methodCore`. -/
def methodPost (m : Str) : Str :=
  if isKeyword (digitGuard m) || isReserved (digitGuard m) then digitGuard m ++ ['_']
  else digitGuard m

theorem sanMethod_eq (s : Str) : sanMethod s = methodPost (methodCore s) := by
  unfold sanMethod methodPost digitGuard
  -- with the pipeline opaque, `rfl` only has to match the two guards
  generalize methodCore s = m
  rfl

theorem methodPost_eq_nil_iff (m : Str) : methodPost m = [] ↔ m = [] := by
  unfold methodPost
  split
  · simp only [List.append_eq_nil_iff, List.cons_ne_self, and_false, false_iff]
    intro h; subst h
    rename_i hc
    revert hc; decide
  · exact digitGuard_eq_nil_iff m

theorem methodPost_valid (m : Str) (hne : m ≠ []) (hall : m.all isIdChar = true) :
    isPyIdent (methodPost m) = true ∧ isKeyword (methodPost m) = false := by
  have hg := isPyIdent_digitGuard m hne hall
  unfold methodPost
  split
  · exact ⟨isPyIdent_append_us hg, not_isKeyword_append_us _⟩
  · rename_i hc
    simp only [Bool.or_eq_true, not_or, Bool.not_eq_true] at hc
    exact ⟨hg, hc.1⟩

theorem sanMethod_empty_iff (s : Str) : sanMethod s = [] ↔ s.any isAlnumA = false := by
  rw [sanMethod_eq, methodPost_eq_nil_iff, methodCore_eq_nil_iff]

theorem sanMethod_valid (s : Str) (h : s.any isAlnumA = true) :
    isPyIdent (sanMethod s) = true ∧ isKeyword (sanMethod s) = false := by
  rw [sanMethod_eq]
  apply methodPost_valid _ _ (methodCore_all s)
  intro h0
  rw [methodCore_eq_nil_iff, h] at h0
  cases h0

/-- On ASCII alphanumerics `str.lower` is the ASCII lower-casing, whatever the case table says. -/
theorem lowerS_of_alnum (u : UInfo) {t : Str} (h : t.all isAlnumA = true) : u.lowerS t = t.map lowerA := by
  induction t with
  | nil => rfl
  | cons c cs ih =>
    simp only [List.all_cons, Bool.and_eq_true] at h
    rw [List.map_cons, ← ih h.2]
    simp [UInfo.lowerS, isAscii_of_isAlnumA h.1]

theorem lowerS_good (u : UInfo) {t : Str} (h : GoodTok t) : GoodTok (u.lowerS t) := by
  rw [lowerS_of_alnum u h.2]
  exact ⟨by simpa using h.1, by rw [List.all_map]; exact all_imp (fun _ => isAlnumA_lowerA) h.2⟩

theorem joinWith_good (ws : List Str) (hne : ws ≠ []) (h : ∀ w ∈ ws, GoodTok w) :
    (∃ c cs, joinWith ['_'] ws = c :: cs ∧ isAlnumA c = true) ∧
      (joinWith ['_'] ws).all isIdChar = true := by
  constructor
  · obtain ⟨x, rest, rfl⟩ := List.exists_cons_of_ne_nil hne
    obtain ⟨hx1, hx2⟩ := h x List.mem_cons_self
    obtain ⟨c, cs, rfl⟩ := List.exists_cons_of_ne_nil hx1
    simp only [List.all_cons, Bool.and_eq_true] at hx2
    cases rest <;> exact ⟨c, _, rfl, hx2.1⟩
  · clear hne
    fun_induction joinWith ['_'] ws with
    | case1 => rfl
    | case2 x => exact all_isIdChar_of_all_isAlnumA (h x (by simp)).2
    | case3 x y rest ih =>
      simp only [List.all_append, Bool.and_eq_true]
      exact ⟨⟨all_isIdChar_of_all_isAlnumA (h x (by simp)).2, by decide⟩,
        ih (fun w hw => h w (List.mem_cons_of_mem _ hw))⟩

theorem moduleWords_good (u : UInfo) (s : Str) (h : s.any isAlnumA = true) :
    (tokenize s).isEmpty = false ∧
      (∃ c cs, joinWith ['_'] ((tokenize s).map u.lowerS) = c :: cs ∧ isAlnumA c = true) ∧
      (joinWith ['_'] ((tokenize s).map u.lowerS)).all isIdChar = true := by
  have hne : tokenize s ≠ [] := by
    intro h0; rw [tokenize_eq_nil_iff, h] at h0; cases h0
  refine ⟨by simpa using hne, joinWith_good _ (by simpa using hne) ?_⟩
  intro w hw
  obtain ⟨t, ht, rfl⟩ := List.mem_map.1 hw
  exact lowerS_good u (tokenize_good s t ht)

theorem sanModule_eq (u : UInfo) (s : Str) (h : s.any isAlnumA = true) :
    sanModule u s = methodPost (joinWith ['_'] ((tokenize s).map u.lowerS)) := by
  obtain ⟨hemp, ⟨c, cs, hj, hc⟩, _⟩ := moduleWords_good u s h
  have hd : startsWithDigit u (c :: cs) = isDigitA c := by
    simp [startsWithDigit, UInfo.isDigit, isAscii_of_isAlnumA hc]
  unfold sanModule methodPost
  simp only [hemp, Bool.false_eq_true, if_false, hj, hd, digitGuard]

theorem sanModule_valid (u : UInfo) (s : Str) (h : s.any isAlnumA = true) :
    isPyIdent (sanModule u s) = true ∧ isKeyword (sanModule u s) = false := by
  rw [sanModule_eq u s h]
  obtain ⟨_, ⟨c, cs, hj, _⟩, hall⟩ := moduleWords_good u s h
  exact methodPost_valid _ (by rw [hj]; simp) hall

/-- `[A-Z0-9_]` -/
def EP (c : Char) : Bool := isUpperA c || isDigitA c || c == '_'

/-- `^[A-Z_][A-Z0-9_]*$` -/
def enumOK : Str → Bool
  | [] => false
  | c :: cs => (isUpperA c || c == '_') && cs.all EP

theorem EP_upperA_of_alnum {c : Char} (h : isAlnumA c = true) : EP (upperA c) = true := by
  unfold EP; char_arith
theorem upperA_of_EP {c : Char} (h : EP c = true) : upperA c = c := by
  unfold EP at h
  unfold upperA
  rw [if_neg]
  char_arith
theorem not_lower_of_EP {c : Char} (h : EP c = true) : isLowerA c = false := by
  unfold EP at h; char_arith
theorem isIdChar_of_EP {c : Char} (h : EP c = true) : isIdChar c = true := by
  simp only [EP, Bool.or_eq_true] at h
  rcases h with (h | h) | h <;> simp [isIdChar, isAlnumA, isAlphaA, h]
theorem isIdStart_of_start {c : Char} (h : (isUpperA c || c == '_') = true) : isIdStart c = true := by
  simp only [Bool.or_eq_true] at h
  rcases h with h | h <;> simp [isIdStart, isAlphaA, h]
theorem EP_of_start {c : Char} (h : (isUpperA c || c == '_') = true) : EP c = true := by
  simp only [Bool.or_eq_true] at h
  rcases h with h | h <;> simp [EP, h]

theorem enumOK_all {s : Str} (h : enumOK s = true) : s.all EP = true := by
  cases s with
  | nil => cases h
  | cons c cs =>
    simp only [enumOK, Bool.and_eq_true] at h
    simp only [List.all_cons, Bool.and_eq_true]
    exact ⟨EP_of_start h.1, h.2⟩

theorem enumOK_append {s x : Str} (h : enumOK s = true) (hx : x.all EP = true) : enumOK (s ++ x) = true := by
  cases s with
  | nil => cases h
  | cons c cs =>
    simp only [enumOK, Bool.and_eq_true, List.cons_append, List.all_append] at *
    exact ⟨h.1, h.2, hx⟩

theorem enumOK_member (x : Str) (h : x.all EP = true) : enumOK ("MEMBER_".toList ++ x) = true :=
  enumOK_append (by rw [String.toList_ofList]; decide +kernel) h

theorem enumOK_append_us {s : Str} (h : enumOK s = true) : enumOK (s ++ ['_']) = true :=
  enumOK_append h (by decide)

theorem enumOK_valid {s : Str} (h : enumOK s = true) :
    isPyIdent s = true ∧ isKeyword s = false := by
  refine ⟨?_, not_isKeyword_of_table kw_hasLower ?_⟩
  · cases s with
    | nil => cases h
    | cons c cs =>
      simp only [enumOK, Bool.and_eq_true] at h
      simp only [isPyIdent, Bool.and_eq_true]
      exact ⟨isIdStart_of_start h.1, all_imp (fun _ => isIdChar_of_EP) h.2⟩
  · rw [List.any_eq_false]
    exact fun x hx => by simp [not_lower_of_EP (List.all_eq_true.1 (enumOK_all h) x hx)]

def enumS1 (u : UInfo) (value : Str) : Str :=
  let s := enumFilter (replaceChar ' ' ['_'] (replaceChar '-' ['_'] (u.upperS value)))
  if s.isEmpty then
    let alnum := value.filter isAlnumA
    if alnum.isEmpty then "MEMBER_EMPTY_STRING".toList
    else
      let t := "MEMBER_".toList ++ alnum.map upperA
      if startsDigitA t then "MEMBER_".toList ++ t else t
  else if startsDigitA s then "MEMBER_".toList ++ s else s

def enumS2 (s : Str) : Str := if isKeyword (s.map lowerA) then s ++ ['_'] else s
def enumS3 (s : Str) : Str := if !startsUpperOrUnderscore s then "MEMBER_".toList ++ s else s
def enumFinal (s : Str) : Option Str :=
  match s with
  | [] => none
  | c :: cs =>
    let up := (c :: cs).map upperA
    match up with
    | [] => none
    | d :: ds => if (isUpperA d || d == '_') && ds.all (fun x => isUpperA x || isDigitA x || x == '_')
                 then some s else none

theorem enumMemberStr_eq (u : UInfo) (v : Str) :
    enumMemberStr u v = enumFinal (enumS3 (enumS2 (enumS1 u v))) := by
  unfold enumMemberStr enumS1
  dsimp only
  generalize enumFilter (replaceChar ' ' ['_'] (replaceChar '-' ['_'] (u.upperS v))) = s
  generalize v.filter isAlnumA = a
  rfl

theorem all_EP_enumFilter (s : Str) : (enumFilter s).all EP = true := by
  rw [List.all_eq_true]
  intro c hc
  exact (List.mem_filter.1 hc).2

theorem enumOK_of_all_not_digit {s : Str} (hne : s ≠ []) (h : s.all EP = true)
    (hd : startsDigitA s = false) : enumOK s = true := by
  cases s with
  | nil => exact absurd rfl hne
  | cons c cs =>
    have hd : isDigitA c = false := hd
    simp only [List.all_cons, Bool.and_eq_true] at h
    simp only [enumOK, Bool.and_eq_true]
    exact ⟨by simpa [EP, hd] using h.1, h.2⟩

theorem enumS1_ok (u : UInfo) (v : Str) : enumOK (enumS1 u v) = true := by
  unfold enumS1
  simp only
  split
  · split
    · rw [String.toList_ofList]
      decide +kernel
    · have hall : ((v.filter isAlnumA).map upperA).all EP = true := by
        rw [List.all_map, List.all_eq_true]
        intro c hc
        exact EP_upperA_of_alnum (List.mem_filter.1 hc).2
      split
      · exact enumOK_member _ (enumOK_all (enumOK_member _ hall))
      · exact enumOK_member _ hall
  · rename_i hne
    split
    · exact enumOK_member _ (all_EP_enumFilter _)
    · rename_i hd
      exact enumOK_of_all_not_digit (by simpa using hne) (all_EP_enumFilter _) (by simpa using hd)

theorem enumS2_ok {s : Str} (h : enumOK s = true) : enumOK (enumS2 s) = true := by
  unfold enumS2
  split
  · exact enumOK_append_us h
  · exact h

theorem enumS3_ok {s : Str} (h : enumOK s = true) : enumOK (enumS3 s) = true := by
  unfold enumS3
  split
  · exact enumOK_member _ (enumOK_all h)
  · exact h

theorem enumFinal_ok {s : Str} (h : enumOK s = true) : enumFinal s = some s := by
  cases s with
  | nil => cases h
  | cons c cs =>
    have hall := enumOK_all h
    have hmap : (c :: cs).map upperA = c :: cs :=
      (List.map_congr_left fun x hx => upperA_of_EP (List.all_eq_true.1 hall x hx)).trans (List.map_id _)
    simp only [enumOK, Bool.and_eq_true] at h
    have h2 : cs.all (fun x => isUpperA x || isDigitA x || x == '_') = true := h.2
    simp only [enumFinal, hmap, h.1, h2, Bool.and_self, if_true]

theorem enumMemberStr_some (u : UInfo) (v : Str) :
    enumMemberStr u v = some (enumS3 (enumS2 (enumS1 u v))) := by
  rw [enumMemberStr_eq]
  exact enumFinal_ok (enumS3_ok (enumS2_ok (enumS1_ok u v)))

end Pog
