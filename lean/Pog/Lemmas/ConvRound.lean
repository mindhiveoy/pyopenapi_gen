import Pog.Lemmas.Conv
import Pog.Model.ConvSpec
import Pog.Lemmas.ListExtra
/-
  C16 `decode_encode` for the union-free fragment of M-conv: the facts about `Optional`, the dataclass hook (one step for
  both round-trip directions, `dc_step`), leaves, defaults and enums, then rule induction on the conformance relation
  (`conformsF_induct`, `roundtrip_core`); at the end the error report of the dataclass hook (`structClass_obj`, paths of
  `_extract_errors`).
-/
namespace Pog

theorem ofJsons_eq_map (xs : List JsonV) : Val.ofJsons xs = xs.map Val.ofJson := by
  induction xs with
  | nil => rfl
  | cons x xs ih => simp [Val.ofJsons, ih]

theorem ofJsonKvs_eq_map (kvs : List (Str × JsonV)) :
    Val.ofJsonKvs kvs = kvs.map (fun kv => (kv.1, Val.ofJson kv.2)) := by
  induction kvs with
  | nil => rfl
  | cons kv rest ih => obtain ⟨k, v⟩ := kv; simp [Val.ofJsonKvs, ih]

theorem ofJson_none_iff (j : JsonV) : Val.ofJson j = .none ↔ j = .null := by
  cases j <;> simp [Val.ofJson]

theorem structItems_roundtrip {ε : Type} (rec : JsonV → Except SErr Val) (un : Val → Except ε JsonV) (nm : JsonV → JsonV)
    (xs : List JsonV) (h : ∀ x ∈ xs, ∃ v, rec x = .ok v ∧ un v = .ok (nm x)) :
    ∃ vs, structItems rec xs = (vs, []) ∧ mapE un vs = .ok (xs.map nm) := by
  induction xs with
  | nil => exact ⟨[], rfl, rfl⟩
  | cons x xs ih =>
    obtain ⟨v, hv, hu⟩ := h x (by simp)
    obtain ⟨vs, hvs, hus⟩ := ih (fun y hy => h y (by simp [hy]))
    exact ⟨v :: vs, by simp only [structItems, hv, hvs], by simp only [mapE, hu, hus, List.map_cons]⟩

theorem structDictItems_roundtrip {ε : Type} (rec : JsonV → Except SErr Val) (un : Val → Except ε JsonV)
    (nm : JsonV → JsonV) (kvs : List (Str × JsonV))
    (h : ∀ kv ∈ kvs, ∃ v, rec kv.2 = .ok v ∧ un v = .ok (nm kv.2)) :
    ∃ vs, structDictItems rec kvs = (vs, []) ∧ akeys vs = akeys kvs ∧
      mapValsE un vs = .ok (kvs.map (fun kv => (kv.1, nm kv.2))) := by
  induction kvs with
  | nil => exact ⟨[], rfl, rfl, rfl⟩
  | cons kv rest ih =>
    obtain ⟨k, x⟩ := kv
    obtain ⟨v, hv, hu⟩ := h (k, x) (by simp)
    obtain ⟨vs, hvs, hks, hus⟩ := ih (fun y hy => h y (by simp [hy]))
    exact ⟨(k, v) :: vs, by simp only [structDictItems, hv, hvs], congrArg (k :: ·) hks,
      by simp only [mapValsE, hu, hus, List.map_cons]⟩

theorem structF_list_ok (c : Codecs) (n : Nat) (decls : Decls) (t : Ty) (xs : List JsonV) (vs : List Val)
    (hres : resolvable t = true) (h : structItems (structF c n decls t) xs = (vs, [])) :
    structF c (n + 1) decls (.list t) (.arr xs) = .ok (.list vs) := by
  rw [structF_list c n decls t _ hres]
  simp only [structList, h, List.isEmpty_nil, if_true]

theorem structF_dict_ok (c : Codecs) (n : Nat) (decls : Decls) (t : Ty) (kvs : List (Str × JsonV)) (vs : List (Str × Val))
    (hres : resolvable t = true) (h : structDictItems (structF c n decls t) kvs = (vs, [])) (hnd : (akeys vs).Nodup) :
    structF c (n + 1) decls (.dict t) (.obj kvs) = .ok (.dict vs) := by
  rw [structF_dict c n decls t _ hres]
  simp only [structDict, h, List.isEmpty_nil, if_true, aofPairs_of_nodup vs hnd]

theorem mapE_map_ok {α β ε : Type} (f : β → Except ε α) (g : α → β) (xs : List α)
    (h : ∀ x ∈ xs, f (g x) = .ok x) : mapE f (xs.map g) = .ok xs := by
  induction xs with
  | nil => rfl
  | cons x xs ih =>
    simp only [List.map_cons, mapE, h x (by simp), ih (fun y hy => h y (by simp [hy]))]

theorem mapValsE_map_ok {α β ε : Type} (f : β → Except ε α) (g : α → β) (kvs : List (Str × α))
    (h : ∀ kv ∈ kvs, f (g kv.2) = .ok kv.2) : mapValsE f (kvs.map (fun kv => (kv.1, g kv.2))) = .ok kvs := by
  induction kvs with
  | nil => rfl
  | cons kv rest ih =>
    simp only [List.map_cons, mapValsE, h kv (by simp), ih (fun y hy => h y (by simp [hy]))]

theorem unstr_dyn_ofJson (c : Codecs) (reg : List Str) (decls : Decls) (n : Nat) (j : JsonV)
    (h : jsonFits n j = true) : unstrF c n reg decls none (Val.ofJson j) = .ok j := by
  induction n generalizing j with
  | zero => cases h
  | succ n ih =>
    cases j with
    | arr xs =>
      simp only [jsonFits, List.all_eq_true] at h
      simp only [Val.ofJson, unstrF, ofJsons_eq_map]
      rw [mapE_map_ok _ _ xs (fun x hx => ih x (h x hx))]
      rfl
    | obj kvs =>
      simp only [jsonFits, List.all_eq_true, Bool.and_eq_true] at h
      simp only [Val.ofJson, unstrF, ofJsonKvs_eq_map]
      rw [mapValsE_map_ok _ _ kvs (fun kv hkv => ih kv.2 (h.2 kv hkv))]
      rfl
    | _ => rfl

theorem isNoneTy_of_resolvable (t : Ty) (h : resolvable t = true) : isNoneTy t = false := by
  cases t <;> first | rfl | cases h

theorem isDictAny_eq (t : Ty) (h : isDictAny t = true) : t = .dict .any := by
  unfold isDictAny at h
  split at h
  · rfl
  · cases h

/-- `Optional[T]` through `_structure_union`: a non-null payload that `T` accepts is returned as `T` yields it. -/
theorem structUnion_optional_ok (rec : Ty → JsonV → Except SErr Val) (t : Ty) (j : JsonV) (v : Val)
    (hj : j ≠ .null) (h : rec t j = .ok v) (hnone : isNoneTy t = false)
    (hdc : ∀ name, t = .dc name → isObj j = true)
    (hda : t = .dict .any → isObj j = true ∧ v = Val.ofJson j) :
    structUnion rec [t, .none] none j = .ok v := by
  replace hdc : isDcTy t = true → isObj j = true := fun h => by
    cases t <;> first | exact hdc _ rfl | cases h
  replace hda := fun h => hda (isDictAny_eq t h)
  have filter2 : ∀ p : Ty → Bool, p .none = false → [t, Ty.none].filter p = if p t then [t] else [] := fun p hp => by
    simp only [List.filter, hp]; cases p t <;> rfl
  have hany : [t, Ty.none].any isDictAny = isDictAny t := by simp [isDictAny]
  have hother : isDcTy t = false → isDictAny t = false → firstOk rec j ([t, .none].filter isOtherVariant) = some v :=
    fun hd ha => by simp only [filter2 isOtherVariant rfl, isOtherVariant, hnone, hd, ha, Bool.or_self, Bool.not_false, if_true, firstOk, h]
  cases j with
  | null => exact absurd rfl hj
  | obj kvs =>
    rw [structUnion_obj, filter2 isDcTy rfl, hany]
    cases hd : isDcTy t with
    | true => simp only [if_true, firstOk, h]
    | false =>
      cases ha : isDictAny t with
      | true => simp only [Bool.false_eq_true, if_false, if_true, firstOk, (hda ha).2]
      | false => simp only [Bool.false_eq_true, if_false, firstOk, List.isEmpty_nil, Bool.not_true, hother hd ha]
  | _ =>
    rw [structUnion_scalar rec _ _ rfl hj, hother]
    · cases hd : isDcTy t with
      | false => rfl
      | true => cases hdc hd
    · cases ha : isDictAny t with
      | false => rfl
      | true => cases (hda ha).1

theorem structUnion_optional_null (rec : Ty → JsonV → Except SErr Val) (t : Ty) :
    structUnion rec [t, .none] none .null = .ok .none := by
  simp [structUnion_null, isNoneTy]

theorem unstrF_optional (c : Codecs) (n : Nat) (reg : List Str) (decls : Decls) (t : Ty) (v : Val) (hv : v ≠ .none) :
    unstrF c (n + 1) reg decls (some (.optional t)) v = unstrF c n reg decls (some t) v := by
  cases v with
  | none => exact absurd rfl hv
  | _ => rfl

theorem structFields_obj (rec : Ty → JsonV → Except SErr Val) (cd : ClassDecl) (kvs : List (Str × JsonV))
    (fs : List Field) :
    structFields rec cd (.obj kvs) fs
      = some (fs.filterMap (fieldValue rec cd kvs), fs.filterMap (fieldError rec cd kvs)) := by
  induction fs with
  | nil => rfl
  | cons f fs ih =>
    cases hk : aget kvs (loadKey cd f) with
    | some x =>
      cases hr : rec f.ty x <;> cases hd : f.dflt <;>
        simp [structFields, pyContains, pyGetItem, hk, hd, hr, ih, fieldValue, fieldError, fieldOutcome]
    | none =>
      cases hd : f.dflt <;>
        simp [structFields, pyContains, pyGetItem, hk, hd, ih, fieldValue, fieldError, fieldOutcome]

/-- When no field fails, the error list is empty and every field has its value. -/
theorem structFields_ok (rec : Ty → JsonV → Except SErr Val) (cd : ClassDecl) (kvs : List (Str × JsonV))
    (fv : Field → Val) (fs : List Field)
    (h : ∀ f ∈ fs, match aget kvs (loadKey cd f) with
      | some x => rec f.ty x = .ok (fv f)
      | none => f.dflt ≠ .required ∧ fv f = fieldDefault f.dflt) :
    structFields rec cd (.obj kvs) fs = some (fs.map (fun f => (f.pyName, fv f)), []) := by
  have hv : ∀ f ∈ fs, fieldValue rec cd kvs f = some (f.pyName, fv f) ∧ fieldError rec cd kvs f = none := by
    intro f hf
    have hf' := h f hf
    unfold fieldValue fieldError fieldOutcome
    cases hk : aget kvs (loadKey cd f) with
    | some x => rw [hk] at hf'; simp only [hf', and_self]
    | none => rw [hk] at hf'; simp only [hf'.1, if_false, hf'.2, and_self]
  rw [structFields_obj, filterMap_congr_mem fs _ _ (fun f hf => (hv f hf).1),
    filterMap_congr_mem fs _ _ (fun f hf => (hv f hf).2)]
  simp

theorem unstrFields_ok {rec : Ty → Val → Except UErr JsonV} (cd : ClassDecl) (attrs : List (Str × Val))
    (fv : Field → Val) (nm : Field → JsonV) (fs : List Field)
    (hget : ∀ f ∈ fs, aget attrs f.pyName = some (fv f))
    (hrec : ∀ f ∈ fs, rec f.ty (fv f) = .ok (nm f)) :
    unstrFields rec cd true attrs fs = .ok (fs.map (fun f => (dumpKey cd f, nm f))) := by
  induction fs with
  | nil => rfl
  | cons f fs ih =>
    simp [unstrFields, hget f (by simp), hrec f (by simp),
      ih (fun g hg => hget g (by simp [hg])) (fun g hg => hrec g (by simp [hg]))]

theorem declsOk_get (decls : Decls) (name : Str) (cd : ClassDecl) (h : declsOk decls = true)
    (hg : aget decls name = some cd) : classOk cd = true :=
  aget_of_all decls _ h name cd hg

theorem allRegistered_get (reg : List Str) (decls : Decls) (name : Str) (cd : ClassDecl)
    (h : allRegistered reg decls = true) (hg : aget decls name = some cd) : reg.contains name = true :=
  aget_of_all decls _ h name cd hg

/-- What `classOk` says: python names and wire keys are pairwise distinct, and a field is written under the key it
    is read from. -/
theorem classOk_spec (cd : ClassDecl) (h : classOk cd = true) :
    (cd.fields.map Field.pyName).Nodup ∧ (cd.fields.map (dumpKey cd)).Nodup
      ∧ ∀ f ∈ cd.fields, loadKey cd f = dumpKey cd f := by
  simp only [classOk, Bool.and_eq_true, decide_eq_true_eq, List.all_eq_true, beq_iff_eq] at h
  obtain ⟨⟨hpn, hlk⟩, hld⟩ := h
  exact ⟨hpn, List.map_congr_left hld ▸ hlk, hld⟩

/-- One dataclass, both directions at once: if every field present in the object `kvs` (under its wire key) structures
    to `fv f`, every absent one has a default `fv f`, and `fv f` unstructures to `nm f`, then the object structures to
    the instance holding the `fv f` and the instance unstructures to the `nm f` under the wire keys. -/
theorem dc_step (c : Codecs) (n : Nat) (reg : List Str) (decls : Decls) (name : Str) (cd : ClassDecl)
    (hcd : aget decls name = some cd) (hok : classOk cd = true) (hreg : reg.contains name = true)
    (hres : ∀ f ∈ cd.fields, resolvable f.ty = true) (kvs : List (Str × JsonV)) (fv : Field → Val) (nm : Field → JsonV)
    (h : ∀ f ∈ cd.fields,
      (match aget kvs (loadKey cd f) with
        | some x => structF c n decls f.ty x = .ok (fv f)
        | none => f.dflt ≠ .required ∧ fv f = fieldDefault f.dflt)
      ∧ unstrF c n reg decls (some f.ty) (fv f) = .ok (nm f)) :
    structF c (n + 1) decls (.dc name) (.obj kvs) = .ok (.inst name (cd.fields.map (fun f => (f.pyName, fv f))))
    ∧ unstrF c (n + 1) reg decls (some (.dc name)) (.inst name (cd.fields.map (fun f => (f.pyName, fv f))))
        = .ok (.obj (cd.fields.map (fun f => (dumpKey cd f, nm f)))) := by
  obtain ⟨hpn, hdk, _⟩ := classOk_spec cd hok
  constructor
  · simp [structF_dc, structClass, hcd, List.all_eq_true.mpr hres,
      structFields_ok _ cd kvs fv cd.fields (fun f hf => (h f hf).1)]
  · have hkeys : akeys (cd.fields.map (fun f => (dumpKey cd f, nm f))) = cd.fields.map (dumpKey cd) := by
      simp [akeys, List.map_map, Function.comp_def]
    have hfields := unstrFields_ok (rec := fun ft v => unstrF c n reg decls (some ft) v) cd _ fv nm cd.fields
      (fun f hf => aget_map_of_nodup cd.fields Field.pyName fv hpn f hf) (fun f hf => (h f hf).2)
    simp only [unstrF, hcd, Val.attrs, hreg, hfields, Except.map]
    rw [aofPairs_of_nodup _ (hkeys ▸ hdk)]

theorem canon_iff (c : LeafCodec) (s : Str) : c.canon s = true ↔ ∃ v, c.decode s = some v ∧ c.encode v = s := by
  unfold LeafCodec.canon
  cases c.decode s <;> simp

/-- A conforming leaf is structured to a value that its unstructure hook (or, without one, the identity) writes back
    unchanged. -/
theorem leaf_roundtrip (c : Codecs) (l : Leaf) (j : JsonV) (h : leafConforms c l j = true) :
    ∃ v, structLeaf c l j = .ok v ∧ unstrLeaf c l v = .ok j ∧ v ≠ .none := by
  cases l <;> cases j <;> simp only [leafConforms, Bool.false_eq_true] at h
  case str.str s => exact ⟨.str s, rfl, rfl, nofun⟩
  case int.int n => exact ⟨.int n, rfl, rfl, nofun⟩
  case float.int n => exact ⟨.int n, rfl, rfl, nofun⟩
  case bool.bool b => exact ⟨.bool b, rfl, rfl, nofun⟩
  -- the five leaves with a codec: the payload is a string the codec decodes, and re-encodes to itself
  all_goals
    obtain ⟨v, hd, he⟩ := (canon_iff _ _).mp h
    exact ⟨_, by simp only [structLeaf, hd]; rfl, by rw [← he]; rfl, by nofun⟩

theorem unstr_default (c : Codecs) (reg : List Str) (decls : Decls) (n : Nat) (d : Dflt) (t : Ty)
    (hf : dfltFits d t = true) (hn : 2 ≤ n) :
    unstrF c n reg decls (some t) (fieldDefault d) = .ok (dfltJson d) := by
  -- every (default, type) pair `dfltFits` lists is at most two unfoldings of `unstrF` away from its JSON (`Optional[List[T]]`:
  -- the optional, then the list): this is where the `2 ≤ n` of `conformsF` for an absent field comes from
  obtain ⟨m, rfl⟩ : ∃ m, n = m + 2 := ⟨n - 2, by omega⟩
  unfold dfltFits at hf
  split at hf <;> try rfl
  · -- `x: T = None` for a leaf type without unstructure hook: the identity
    simp only [unstrF, unstrLeaf, hf, if_true]
    rfl
  · cases hf

/-- Between two members of a well-formed enum (all strings, or all integers) Python's `==` is equality. -/
theorem pyEqScalar_of_enumOk (ms : List JsonV) (hok : enumOk ms = true) (m j : JsonV) (hm : m ∈ ms) (hj : j ∈ ms) :
    pyEqScalar m j = true ↔ m = j := by
  simp only [enumOk, Bool.or_eq_true, List.all_eq_true] at hok
  have hkind : (m.isStr = true ∧ j.isStr = true) ∨ (m.isInt = true ∧ j.isInt = true) :=
    hok.imp (fun h => ⟨h m hm, h j hj⟩) (fun h => ⟨h m hm, h j hj⟩)
  cases m <;> cases j <;> simp [JsonV.isStr, JsonV.isInt, pyEqScalar] at hkind ⊢

theorem enumLookup_self (members : List JsonV) (j : JsonV) (hok : enumOk members = true)
    (hmem : members.contains j = true) : enumLookup members j = some j := by
  have hj : j ∈ members := by simpa using hmem
  have heq := fun m hm => pyEqScalar_of_enumOk members hok m j hm hj
  unfold enumLookup
  cases hf : members.find? (fun m => pyEqScalar m j) with
  | none => exact absurd ((heq j hj).mpr rfl) (by simpa using List.find?_eq_none.mp hf j hj)
  | some m => exact congrArg some ((heq m (List.mem_of_find?_eq_some hf)).mp (List.find?_some (p := fun m => pyEqScalar m j) hf))

theorem enum_member_ne_null (members : List JsonV) (hok : enumOk members = true) : JsonV.null ∉ members := by
  intro hmem
  simp only [enumOk, Bool.or_eq_true, List.all_eq_true] at hok
  rcases hok with h | h <;> cases h _ hmem

/-- What the induction on conformance proves; the last component is what lets `Optional[T]` tell `None` from a
    value of `T`. -/
def RoundTrips (c : Codecs) (reg : List Str) (decls : Decls) (n : Nat) (t : Ty) (j : JsonV) : Prop :=
  ∃ v, structF c n decls t j = .ok v
    ∧ unstrF c n reg decls (some t) v = .ok (normaliseF n decls t j)
    ∧ (v = .none → j = .null)

theorem conformsF_resolvable (c : Codecs) (decls : Decls) (n : Nat) (t : Ty) (j : JsonV)
    (h : conformsF c n decls t j = true) : resolvable t = true := by
  cases n with
  | zero => cases h
  | succ n => simp only [conformsF, Bool.and_eq_true] at h; exact h.1

/-- Rule induction for `conformsF`: one case per way a document can conform to a type. -/
theorem conformsF_induct (c : Codecs) (decls : Decls) {P : Nat → Ty → JsonV → Prop}
    (leaf : ∀ n l j, leafCanStructure l = true → (cattrsBuiltinLeaves.contains l || leafHasUnstructureHook l) = true →
      leafConforms c l j = true → P (n + 1) (.leaf l) j)
    (any : ∀ n j, jsonFits n j = true → P (n + 1) .any j)
    (list : ∀ n t xs, resolvable t = true → (∀ x ∈ xs, P n t x) → P (n + 1) (.list t) (.arr xs))
    (dict : ∀ n t kvs, resolvable t = true → (akeys kvs).Nodup → (∀ kv ∈ kvs, P n t kv.2) →
      P (n + 1) (.dict t) (.obj kvs))
    (null : ∀ n t, P (n + 1) (.optional t) .null)
    (optional : ∀ n t j, j ≠ .null → conformsF c n decls t j = true → P n t j → P (n + 1) (.optional t) j)
    (enum : ∀ n name ms j, enumOk ms = true → ms.contains j = true → P (n + 1) (.enum name ms) j)
    (dc : ∀ n name cd kvs, aget decls name = some cd → (akeys kvs).Nodup →
      (∀ k ∈ akeys kvs, ∃ f ∈ cd.fields, loadKey cd f = k) → (∀ f ∈ cd.fields, resolvable f.ty = true) →
      (∀ f ∈ cd.fields, match aget kvs (loadKey cd f) with
        | some x => P n f.ty x
        | none => f.dflt ≠ .required ∧ dfltFits f.dflt f.ty = true ∧ 2 ≤ n) →
      P (n + 1) (.dc name) (.obj kvs)) :
    ∀ n t j, conformsF c n decls t j = true → P n t j := by
  intro n
  induction n with
  | zero => intro t j h; cases h
  | succ n ih =>
    intro t j h
    simp only [conformsF, Bool.and_eq_true] at h
    obtain ⟨hres, h⟩ := h
    cases t with
    | leaf l => simp only [Bool.and_eq_true] at h; exact leaf n l j hres h.1 h.2
    | any => exact any n j h
    | none | fwd _ | union _ _ => cases h
    | enum name ms => simp only [Bool.and_eq_true] at h; exact enum n name ms j h.1 h.2
    | list t' =>
      cases j with
      | arr xs => exact list n t' xs hres (fun x hx => ih t' x (List.all_eq_true.mp h x hx))
      | _ => cases h
    | dict t' =>
      cases j with
      | obj kvs =>
        simp only [Bool.and_eq_true, decide_eq_true_eq, List.all_eq_true] at h
        exact dict n t' kvs hres h.1 (fun kv hkv => ih t' kv.2 (h.2 kv hkv))
      | _ => cases h
    | optional t' =>
      simp only [Bool.or_eq_true, beq_iff_eq] at h
      by_cases hj : j = .null
      · exact hj ▸ null n t'
      · exact optional n t' j hj (h.resolve_left hj) (ih t' j (h.resolve_left hj))
    | dc name =>
      cases hcd : aget decls name with
      | none => simp [hcd] at h
      | some cd =>
        cases j with
        | obj kvs =>
          simp only [hcd, Bool.and_eq_true, decide_eq_true_eq, List.all_eq_true, List.any_eq_true, beq_iff_eq] at h
          obtain ⟨⟨⟨hnd, hkeys⟩, hfres⟩, hfields⟩ := h
          refine dc n name cd kvs hcd hnd hkeys hfres (fun f hf => ?_)
          have hc := hfields f hf
          split
          · next x hk => rw [hk] at hc; exact ih f.ty x hc
          · next hk => simpa [hk, and_assoc] using hc
        | _ => simp [hcd] at h

theorem roundtrip_leaf (c : Codecs) (reg : List Str) (decls : Decls) (n : Nat) (l : Leaf) (j : JsonV)
    (h : conformsF c (n + 1) decls (.leaf l) j = true) : RoundTrips c reg decls (n + 1) (.leaf l) j := by
  simp only [conformsF, resolvable, Bool.and_eq_true] at h
  obtain ⟨v, hs, hu, hv⟩ := leaf_roundtrip c l j h.2.2
  exact ⟨v, by rw [structF_leaf c n decls l j h.1, hs], hu, fun e => absurd e hv⟩

theorem conformsF_dc_obj (c : Codecs) (decls : Decls) (n : Nat) (name : Str) (j : JsonV)
    (h : conformsF c n decls (.dc name) j = true) : isObj j = true := by
  cases n with
  | zero => cases h
  | succ n =>
    simp only [conformsF, resolvable, Bool.true_and] at h
    repeat' split at h
    all_goals first | rfl | cases h

/-- `dict[str, Any]` structures a conforming object to the object itself. -/
theorem structF_dictAny (c : Codecs) (decls : Decls) (n : Nat) (j : JsonV) (v : Val)
    (h : conformsF c n decls (.dict .any) j = true) (hv : structF c n decls (.dict .any) j = .ok v) :
    isObj j = true ∧ v = Val.ofJson j := by
  cases n with
  | zero => cases h
  | succ m =>
    simp only [conformsF, resolvable, Bool.true_and] at h
    cases j with
    | obj kvs =>
      simp only [Bool.and_eq_true, decide_eq_true_eq, List.all_eq_true] at h
      obtain ⟨hnd, h⟩ := h
      have hitems : structDictItems (structF c m decls .any) kvs = (Val.ofJsonKvs kvs, []) := by
        clear hv hnd
        induction kvs with
        | nil => rfl
        | cons kv rest ih =>
          obtain ⟨m', rfl⟩ : ∃ m', m = m' + 1 := by
            cases m with
            | zero => cases h kv (by simp)
            | succ m' => exact ⟨m', rfl⟩
          simp only [structDictItems, structF_any, Val.ofJsonKvs, ih (fun y hy => h y (by simp [hy]))]
      have hk : akeys (Val.ofJsonKvs kvs) = akeys kvs := by
        rw [ofJsonKvs_eq_map]; simp [akeys, List.map_map, Function.comp_def]
      rw [structF_dict_ok c m decls .any kvs _ rfl hitems (hk ▸ hnd)] at hv
      exact ⟨rfl, Except.ok.inj hv ▸ rfl⟩
    | _ => cases h

theorem roundtrip_optional (c : Codecs) (reg : List Str) (decls : Decls) (n : Nat) (t : Ty) (j : JsonV) (hj : j ≠ .null)
    (hc : conformsF c n decls t j = true) (ih : RoundTrips c reg decls n t j) :
    RoundTrips c reg decls (n + 1) (.optional t) j := by
  obtain ⟨v, hs, hu, hnone⟩ := ih
  have hvn : v ≠ .none := fun e => hj (hnone e)
  refine ⟨v, ?_, ?_, fun e => absurd e hvn⟩
  · rw [structF_optional]
    exact structUnion_optional_ok _ t j v hj hs (isNoneTy_of_resolvable t (conformsF_resolvable c decls n t j hc))
      (fun name e => conformsF_dc_obj c decls n name j (e ▸ hc))
      (fun e => structF_dictAny c decls n j v (e ▸ hc) (e ▸ hs))
  · rw [unstrF_optional c n reg decls t v hvn, hu]
    simp only [normaliseF, beq_iff_eq, hj, if_false]

theorem roundtrip_dc (c : Codecs) (reg : List Str) (decls : Decls) (hwf : declsOk decls = true)
    (hreg : allRegistered reg decls = true) (n : Nat) (name : Str) (cd : ClassDecl) (kvs : List (Str × JsonV))
    (hcd : aget decls name = some cd) (hres : ∀ f ∈ cd.fields, resolvable f.ty = true)
    (hfields : ∀ f ∈ cd.fields, match aget kvs (loadKey cd f) with
      | some x => RoundTrips c reg decls n f.ty x
      | none => f.dflt ≠ .required ∧ dfltFits f.dflt f.ty = true ∧ 2 ≤ n) :
    RoundTrips c reg decls (n + 1) (.dc name) (.obj kvs) := by
  -- the value and the normalised JSON of every field
  let fv : Field → Val := fun f =>
    match aget kvs (loadKey cd f) with
    | some x => (match structF c n decls f.ty x with | .ok v => v | .error _ => .none)
    | none => fieldDefault f.dflt
  let nm : Field → JsonV := fun f =>
    match aget kvs (loadKey cd f) with
    | some x => normaliseF n decls f.ty x
    | none => dfltJson f.dflt
  obtain ⟨hs, hu⟩ := dc_step c n reg decls name cd hcd (declsOk_get decls name cd hwf hcd)
    (allRegistered_get reg decls name cd hreg hcd) hres kvs fv nm (fun f hf => by
      have hc := hfields f hf
      cases hk : aget kvs (loadKey cd f) with
      | some x =>
        simp only [hk] at hc
        obtain ⟨v, hs, hu, _⟩ := hc
        simp only [fv, nm, hk, hs, hu, and_self]
      | none =>
        simp only [hk] at hc
        simp only [fv, nm, hk]
        exact ⟨⟨hc.1, trivial⟩, unstr_default c reg decls n f.dflt f.ty hc.2.1 hc.2.2⟩)
  refine ⟨_, hs, ?_, nofun⟩
  rw [hu]
  simp only [normaliseF, hcd]
  rfl

theorem roundtrip_core (c : Codecs) (reg : List Str) (decls : Decls) (hwf : declsOk decls = true)
    (hreg : allRegistered reg decls = true) :
    ∀ n t j, conformsF c n decls t j = true → RoundTrips c reg decls n t j := by
  apply conformsF_induct
  case leaf =>
    intro n l j hs hb h
    exact roundtrip_leaf c reg decls n l j (by simp only [conformsF, resolvable, hs, hb, h, Bool.and_self])
  case any =>
    intro n j h
    exact ⟨Val.ofJson j, structF_any c n decls j, unstr_dyn_ofJson c reg decls n j h, (ofJson_none_iff j).mp⟩
  case null =>
    intro n t
    exact ⟨.none, by rw [structF_optional, structUnion_optional_null], rfl, fun _ => rfl⟩
  case optional => exact roundtrip_optional c reg decls
  case dc =>
    intro n name cd kvs hcd _ _ hres hfields
    exact roundtrip_dc c reg decls hwf hreg n name cd kvs hcd hres hfields
  case enum =>
    intro n name ms j hok hmem
    refine ⟨.enum name j, structF_enum c n decls name ms j j (enumLookup_self ms j hok hmem), ?_, nofun⟩
    simp only [unstrF, normaliseF]
    split <;> rfl
  case list =>
    intro n t xs hres ih
    obtain ⟨vs, hvs, hus⟩ := structItems_roundtrip (structF c n decls t) (unstrF c n reg decls (some t))
      (normaliseF n decls t) xs (fun x hx => (ih x hx).imp fun _ h => ⟨h.1, h.2.1⟩)
    exact ⟨.list vs, structF_list_ok c n decls t xs vs hres hvs, by simp only [unstrF, normaliseF, hus, Except.map], nofun⟩
  case dict =>
    intro n t kvs hres hnd ih
    obtain ⟨vs, hvs, hks, hus⟩ := structDictItems_roundtrip (structF c n decls t) (unstrF c n reg decls (some t))
      (normaliseF n decls t) kvs (fun kv hkv => (ih kv hkv).imp fun _ h => ⟨h.1, h.2.1⟩)
    exact ⟨.dict vs, structF_dict_ok c n decls t kvs vs hres hvs (hks ▸ hnd),
      by simp only [unstrF, normaliseF, hus, Except.map], nofun⟩

/-- A dict payload for a dataclass: success iff no field fails; otherwise a `ClassValidationError` listing exactly
    the failing fields, in declaration order, each under its PYTHON attribute name. -/
theorem structClass_obj (rec : Ty → JsonV → Except SErr Val) (decls : Decls) (name : Str) (cd : ClassDecl)
    (kvs : List (Str × JsonV)) (hcd : aget decls name = some cd)
    (hres : cd.fields.all (fun f => resolvable f.ty) = true) :
    structClass rec decls name (.obj kvs) =
      if (cd.fields.filterMap (fieldError rec cd kvs)).isEmpty
      then .ok (.inst name (cd.fields.filterMap (fieldValue rec cd kvs)))
      else .error (.cls name (cd.fields.filterMap (fieldError rec cd kvs))) := by
  simp [structClass, hcd, hres, structFields_obj]

theorem extractCls_paths (errs : List (Str × SErr)) :
    ∀ pk ∈ extractCls errs [], ∃ fe ∈ errs, pk ∈ extractErrors fe.2 fe.1 := by
  induction errs with
  | nil => simp [extractCls]
  | cons fe rest ih =>
    obtain ⟨f, e⟩ := fe
    intro pk hpk
    simp only [extractCls, List.isEmpty_nil, if_true, List.mem_append] at hpk
    rcases hpk with h | h
    · exact ⟨(f, e), by simp, h⟩
    · obtain ⟨fe', hm, hp⟩ := ih pk h
      exact ⟨fe', by simp [hm], hp⟩

mutual
theorem extractErrors_prefix : ∀ (e : SErr) (p : Str), ∀ pk ∈ extractErrors e p, p <+: pk.1
  | .leaf k, p => by simp [extractErrors]
  | .cls _ subs, p => by
    intro pk h
    exact extractCls_prefix subs p pk (by simpa [extractErrors] using h)
  | .iter subs, p => by
    intro pk h
    have := extractIter_prefix subs (p ++ "[]".toList) pk (by simpa [extractErrors] using h)
    exact List.IsPrefix.trans (List.prefix_append p _) this
theorem extractCls_prefix : ∀ (subs : List (Str × SErr)) (p : Str), ∀ pk ∈ extractCls subs p, p <+: pk.1
  | [], p => by simp [extractCls]
  | (f, e) :: rest, p => by
    intro pk h
    simp only [extractCls, List.mem_append] at h
    rcases h with h | h
    · have := extractErrors_prefix e _ pk h
      by_cases hp : p.isEmpty = true
      · have : p = [] := by simpa using hp
        subst this; exact List.nil_prefix
      · simp only [hp] at this
        exact List.IsPrefix.trans (List.prefix_append p _) this
    · exact extractCls_prefix rest p pk h
theorem extractIter_prefix : ∀ (subs : List SErr) (p : Str), ∀ pk ∈ extractIter subs p, p <+: pk.1
  | [], p => by simp [extractIter]
  | e :: rest, p => by
    intro pk h
    simp only [extractIter, List.mem_append] at h
    rcases h with h | h
    · exact extractErrors_prefix e p pk h
    · exact extractIter_prefix rest p pk h
end

end Pog
