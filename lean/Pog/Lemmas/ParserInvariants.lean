import Pog.Lemmas.ParserFragments
import Pog.Lemmas.ParserSteps
import Pog.Lemmas.SpecShape
/-
  The invariants of the faithfulness proof on `Simple3`.
    `WF3`   every registered object exists, a registered DECLARED name has a faithful model, no object is registered
            twice.  The registry also holds the context names under which map, enum and inline-object properties were
            parsed; `WF3` says nothing about those.  The model of a declared schema is compared with what `shape` computes
            for it (`ShapeIs`), because an `allOf` child carries the merged fields of its parents.
    `TK3`   tracker ↔ registry coherence; every declared name in progress has rank ≥ `R`; a context name has only been
            touched if its owner has.  The index `R` is what keeps cycles out: a declared name `n` is entered under
            `TK3 … (rank n + 1)` (`Pre3`), so no declared name in progress has rank ≤ rank n; while `n` is parsed the
            invariant is `TK3 … (rank n)`, and since `rank` strictly decreases along every `$ref`, allOf member and
            anonymous level (`nodeCostOK3`), the target of a reference always has a rank below every name in progress:
            it is untouched or completed, never IN_PROGRESS.  So `check` never takes a cycle branch, `tr.cycles` stays
            `[]`, and the same bound `rank n + 1 ≤ maxDepth` keeps the depth branch out.  In the proofs this is the
            `TK3.anti` before a `$ref` is followed and the `omega` that refutes the in-progress case.
    `Own3`  a context name whose tracker state changed during a step belongs to an owner parsed from start to end within
            the step (or is one of the listed exceptions: the contexts of the schema being parsed).
-/
namespace Pog.Prs
open Pog Pog.Trk

theorem mapCtx_ne_nil (n k : Str) : mapCtx n k ≠ [] := by
  unfold mapCtx
  split
  · exact sanClass_ne_nil k
  · intro h
    exact sanClass_ne_nil k (List.append_eq_nil_iff.mp h).2

theorem ctxOf3_ne_nil {n k : Str} {p : Node} {c : Str} (h : ctxOf3 n k p = some c) : c ≠ [] := by
  unfold ctxOf3 at h
  split at h
  · cases h; exact mapCtx_ne_nil n k
  · cases h
    intro e
    exact sanClass_ne_nil k (List.append_eq_nil_iff.mp e).2
  · cases h; exact mapCtx_ne_nil n k
  · cases h

/-- the heap object `i` is a faithful model of the declared schema `m` -/
def ModelOK3 (decls : Decls) (rank : Str → Nat) (s : PSt) (m : Str) (i : Nat) : Prop :=
  ∃ nd F R, dGet m decls = some nd ∧ ShapeIs decls rank m nd F R ∧ (s.get i).kind = .full ∧
    All2 (FieldK (decls.map (·.1)) s) F (s.get i).props ∧ ∀ k, k ∈ (s.get i).required ↔ k ∈ R

theorem ModelOK3.step {decls : Decls} {rank : Str → Nat} {s s' : PSt} (h : HStepW s s') (m : Str) (i : Nat)
    (hi : i < s.heap.length) (hm : ModelOK3 decls rank s m i) : ModelOK3 decls rank s' m i := by
  obtain ⟨nd, F, R, h1, h2, h3, h4, h5⟩ := hm
  have hf := shape_fields (h.heap i hi)
  exact ⟨nd, F, R, h1, h2, by rw [hf.1]; exact h3,
    by rw [hf.2.2.2.2.1]; exact All2.imp (fun a b hab => FieldK.step h a b hab) h4,
    by rw [hf.2.2.2.2.2]; exact h5⟩

structure WF3 (decls : Decls) (rank : Str → Nat) (s : PSt) : Prop where
  obj : ∀ m i, dGet m s.reg = some i → i < s.heap.length ∧ (m ∈ decls.map (·.1) → ModelOK3 decls rank s m i)
  inj : ∀ m m' i, dGet m s.reg = some i → dGet m' s.reg = some i → m = m'

theorem ModelOK3.full {decls : Decls} {rank : Str → Nat} {s : PSt} {m : Str} {i : Nat}
    (h : ModelOK3 decls rank s m i) : (s.get i).kind = .full := by
  obtain ⟨_, _, _, _, _, hfull, _⟩ := h
  exact hfull

theorem WF3.step {decls : Decls} {rank : Str → Nat} {s s' : PSt} (h : HStepW s s') (hreg : s'.reg = s.reg)
    (hw : WF3 decls rank s) : WF3 decls rank s' := by
  refine ⟨?_, ?_⟩
  · intro m i hm
    rw [hreg] at hm
    obtain ⟨h1, h2⟩ := hw.obj m i hm
    exact ⟨Nat.lt_of_lt_of_le h1 h.heapLen, fun hmem => ModelOK3.step h m i h1 (h2 hmem)⟩
  · intro m m' i h1 h2
    rw [hreg] at h1 h2
    exact hw.inj m m' i h1 h2

theorem WF3.congr {decls : Decls} {rank : Str → Nat} {s s' : PSt} (hh : s'.heap = s.heap) (hr : s'.reg = s.reg)
    (hw : WF3 decls rank s) : WF3 decls rank s' :=
  WF3.step (HStepW.of_eq hh hr) hr hw

/-- `TK3` with the context names of `Simple2` (the map properties) -/
def TK2 (decls : Decls) (rank : Str → Nat) (s : PSt) (R : Nat) : Prop :=
  s.tr.cycles = [] ∧
  (∀ m ∈ s.tr.stack, dGet m s.tr.states = some .inProgress) ∧
  (∀ m, (dGet m s.tr.states = none ∧ s.regHas m = false) ∨
        (dGet m s.tr.states = some .completed ∧ s.regHas m = true) ∨
        (dGet m s.tr.states = some .inProgress ∧ (m ∈ decls.map (·.1) → R ≤ rank m) ∧ s.regHas m = false)) ∧
  (∀ d ∈ decls, ∀ k ∈ mapKeys d.2, dGet (mapCtx d.1 k) s.tr.states ≠ none → dGet d.1 s.tr.states ≠ none)

theorem TK2.congr {decls : Decls} {rank : Str → Nat} {s s' : PSt} {R : Nat} (hc : s'.tr.cycles = s.tr.cycles)
    (hst : s'.tr.stack = s.tr.stack) (hs : s'.tr.states = s.tr.states) (hr : s'.reg = s.reg)
    (h : TK2 decls rank s R) : TK2 decls rank s' R := by
  unfold TK2 PSt.regHas at *
  rw [hc, hst, hs, hr]
  exact h

/-- tracker ↔ registry coherence: no cycle recorded; a name on the stack is in progress; an untouched name is
    unregistered, a completed one registered, a declared one in progress has rank ≥ `R` and is unregistered; a context
    name has only been touched if its owner has -/
def TK3 (decls : Decls) (rank : Str → Nat) (s : PSt) (R : Nat) : Prop :=
  s.tr.cycles = [] ∧
  (∀ m ∈ s.tr.stack, dGet m s.tr.states = some .inProgress) ∧
  (∀ m, (dGet m s.tr.states = none ∧ s.regHas m = false) ∨
        (dGet m s.tr.states = some .completed ∧ s.regHas m = true) ∨
        (dGet m s.tr.states = some .inProgress ∧ (m ∈ decls.map (·.1) → R ≤ rank m) ∧ s.regHas m = false)) ∧
  (∀ d ∈ decls, ∀ k ∈ ctxs3 d.1 d.2, dGet (k) s.tr.states ≠ none → dGet d.1 s.tr.states ≠ none)

theorem TK3.not_on_stack {decls : Decls} {rank : Str → Nat} {s : PSt} {R : Nat} {n : Str} (hk : TK3 decls rank s R)
    (hstate : dGet n s.tr.states = none) : n ∉ s.tr.stack := by
  intro hm
  have := hk.2.1 n hm
  rw [hstate] at this
  cases this

theorem TK3.unregistered {decls : Decls} {rank : Str → Nat} {s : PSt} {R : Nat} {n : Str} (hk : TK3 decls rank s R)
    (hstate : dGet n s.tr.states = none) : s.regHas n = false := by
  rcases hk.2.2.1 n with ⟨_, b⟩ | ⟨a, _⟩ | ⟨a, _⟩
  · exact b
  · rw [hstate] at a; cases a
  · rw [hstate] at a; cases a

/-- a context name (not in `ex`) whose tracker state changed belongs to an owner that was parsed from
    start to end within the step -/
def Own3 (decls : Decls) (ex : List Str) (s s' : PSt) : Prop :=
  ∀ d ∈ decls, ∀ k ∈ ctxs3 d.1 d.2, k ∉ ex →
    dGet (k) s'.tr.states ≠ dGet (k) s.tr.states →
    dGet d.1 s.tr.states = none ∧ dGet d.1 s'.tr.states = some .completed

theorem Own3.of_states_eq {decls : Decls} {ex : List Str} {s s' : PSt} (h : s'.tr.states = s.tr.states) :
    Own3 decls ex s s' := by
  intro d _ k _ _ hne
  rw [h] at hne
  exact absurd rfl hne

theorem Own3.mono {decls : Decls} {ex ex' : List Str} {s s' : PSt} (hsub : ∀ c ∈ ex, c ∈ ex')
    (h : Own3 decls ex s s') : Own3 decls ex' s s' :=
  fun d hd k hk hnot hne => h d hd k hk (fun hc => hnot (hsub _ hc)) hne

theorem Own3.trans {decls : Decls} {ex : List Str} {a b c : PSt} (s1 : Step a b) (s2 : Step b c)
    (o1 : Own3 decls ex a b) (o2 : Own3 decls ex b c) : Own3 decls ex a c := by
  intro d hd k hk hnot hne
  by_cases e1 : dGet (k) b.tr.states = dGet (k) a.tr.states
  · have e2 : dGet (k) c.tr.states ≠ dGet (k) b.tr.states := by rw [e1]; exact hne
    obtain ⟨x1, x2⟩ := o2 d hd k hk hnot e2
    refine ⟨?_, x2⟩
    rcases s1.states d.1 with e | ⟨_, e, _⟩
    · rw [← e]; exact x1
    · rw [x1] at e; cases e
  · obtain ⟨x1, x2⟩ := o1 d hd k hk hnot e1
    exact ⟨x1, s2.states_some x2⟩

/-- a name whose tracker state a step leaves as it was is not registered by it -/
theorem Step.regHas_false {s s' : PSt} (h : Step s s') {m : Str} (e : dGet m s'.tr.states = dGet m s.tr.states)
    (c : s.regHas m = false) : s'.regHas m = false := by
  cases hr : s'.regHas m with
  | false => rfl
  | true =>
    rcases h.regNew m hr with x | ⟨x, x'⟩
    · rw [c] at x; cases x
    · rw [e, x] at x'; cases x'

theorem TK3.step {decls : Decls} {rank : Str → Nat} {ex : List Str} {s s' : PSt} {R : Nat} (h : Step s s')
    (o : Own3 decls ex s s')
    (hex : ∀ d ∈ decls, ∀ k ∈ ctxs3 d.1 d.2, k ∈ ex → dGet d.1 s'.tr.states ≠ none)
    (hk : TK3 decls rank s R) : TK3 decls rank s' R := by
  obtain ⟨hc, hst, hall, hown⟩ := hk
  refine ⟨by rw [h.cycles]; exact hc, ?_, ?_, ?_⟩
  · intro m hm
    rw [h.stack] at hm
    exact h.states_some (hst m hm)
  · intro m
    rcases h.states m with e | ⟨_, e', r⟩
    · rw [e]
      rcases hall m with ⟨a, b⟩ | ⟨a, b⟩ | ⟨a, b, c⟩
      · exact Or.inl ⟨a, h.regHas_false e b⟩
      · exact Or.inr (Or.inl ⟨a, h.regMono m b⟩)
      · exact Or.inr (Or.inr ⟨a, b, h.regHas_false e c⟩)
    · exact Or.inr (Or.inl ⟨e', r⟩)
  · intro d hd k hk hne
    by_cases hin : k ∈ ex
    · exact hex d hd k hk hin
    · by_cases e : dGet (k) s'.tr.states = dGet (k) s.tr.states
      · rw [e] at hne
        have := hown d hd k hk hne
        rcases h.states d.1 with e1 | ⟨_, e1, _⟩
        · rw [e1]; exact this
        · rw [e1]; exact fun x => by cases x
      · rw [(o d hd k hk hin e).2]
        exact fun x => by cases x

theorem TK3.anti {decls : Decls} {rank : Str → Nat} {s : PSt} {R R' : Nat} (h : TK3 decls rank s R) (hr : R' ≤ R) :
    TK3 decls rank s R' := by
  obtain ⟨hc, hst, hall, hown⟩ := h
  refine ⟨hc, hst, fun m => ?_, hown⟩
  rcases hall m with a | a | ⟨a, b, c⟩
  · exact Or.inl a
  · exact Or.inr (Or.inl a)
  · exact Or.inr (Or.inr ⟨a, fun hm => Nat.le_trans hr (b hm), c⟩)

theorem TK3.congr {decls : Decls} {rank : Str → Nat} {s s' : PSt} {R : Nat} (hc : s'.tr.cycles = s.tr.cycles)
    (hst : s'.tr.stack = s.tr.stack) (hs : s'.tr.states = s.tr.states) (hr : s'.reg = s.reg)
    (h : TK3 decls rank s R) : TK3 decls rank s' R := by
  unfold TK3 PSt.regHas at *
  rw [hc, hst, hs, hr]
  exact h

theorem TK3.anonIn {decls : Decls} {rank : Str → Nat} {s : PSt} {R : Nat} (h : TK3 decls rank s R) :
    TK3 decls rank (anonIn s) R := h

theorem WF3.anonIn {decls : Decls} {rank : Str → Nat} {s : PSt} (h : WF3 decls rank s) : WF3 decls rank (Prs.anonIn s) :=
  WF3.congr (s := s) (s' := Prs.anonIn s) rfl rfl h

theorem WF3.anonOut {decls : Decls} {rank : Str → Nat} {s : PSt} (h : WF3 decls rank s) : WF3 decls rank (Prs.anonOut s) :=
  WF3.congr (s := s) (s' := Prs.anonOut s) rfl rfl h

theorem WF3.close {decls : Decls} {rank : Str → Nat} {se sf : PSt} {n : Str} {model : IR} (hw : WF3 decls rank se) (hhs : HStepW se sf)
    {extra : List IR} (hreg : sf.reg = dSet n se.heap.length se.reg) (hheap : sf.heap = se.heap ++ model :: extra)
    (hm : n ∈ decls.map (·.1) → ModelOK3 decls rank sf n se.heap.length) : WF3 decls rank sf := by
  have hcase : ∀ m i, dGet m sf.reg = some i →
      (m = n ∧ i = se.heap.length) ∨ (dGet m se.reg = some i ∧ i < se.heap.length) := by
    intro m i hmi
    rw [hreg] at hmi
    by_cases hmn : m = n
    · rw [hmn, dGet_dSet_self] at hmi
      exact Or.inl ⟨hmn, (Option.some.inj hmi).symm⟩
    · rw [dGet_dSet_ne _ _ _ _ hmn] at hmi
      exact Or.inr ⟨hmi, (hw.obj m i hmi).1⟩
  refine ⟨?_, ?_⟩
  · intro m i hmi
    rcases hcase m i hmi with ⟨rfl, rfl⟩ | ⟨h1, h2⟩
    · exact ⟨by rw [hheap]; simp, hm⟩
    · exact ⟨Nat.lt_of_lt_of_le h2 hhs.heapLen, fun hmem => ModelOK3.step hhs m i h2 ((hw.obj m i h1).2 hmem)⟩
  · intro m m' i h1 h2
    rcases hcase m i h1 with ⟨e, _⟩ | ⟨a, _⟩
    · rcases hcase m' i h2 with ⟨e', _⟩ | ⟨_, _⟩
      · rw [e, e']
      · omega
    · rcases hcase m' i h2 with ⟨_, _⟩ | ⟨b, _⟩
      · omega
      · exact hw.inj m m' i a b

theorem own_close3 {decls : Decls} {ex ex' : List Str} {n : Str} {s se sf : PSt}
    (hsf : sf.tr.states = dSet n .completed se.tr.states) (ho : Own3 decls ex (afterEnter s n) se)
    (hex : ∀ d ∈ decls, ∀ k ∈ ctxs3 d.1 d.2, k ∉ ex' →
      k ≠ n ∧ (k ∈ ex → dGet d.1 s.tr.states = none ∧ d.1 = n)) :
    Own3 decls ex' s sf := by
  intro d hd k hk hnot hne
  obtain ⟨hcn, hin⟩ := hex d hd k hk hnot
  have h1states : (afterEnter s n).tr.states = dSet n .inProgress s.tr.states := rfl
  rw [hsf, dGet_dSet_ne _ _ _ _ hcn] at hne
  by_cases hc : k ∈ ex
  · obtain ⟨x1, x2⟩ := hin hc
    refine ⟨x1, ?_⟩
    rw [hsf, x2, dGet_dSet_self]
  · have hne' : dGet (k) se.tr.states ≠ dGet (k) (afterEnter s n).tr.states := by
      rw [h1states, dGet_dSet_ne _ _ _ _ hcn]; exact hne
    obtain ⟨x1, x2⟩ := ho d hd k hk hc hne'
    have hdn : d.1 ≠ n := by
      intro e
      rw [h1states, e, dGet_dSet_self] at x1
      cases x1
    rw [h1states, dGet_dSet_ne _ _ _ _ hdn] at x1
    refine ⟨x1, ?_⟩
    rw [hsf, dGet_dSet_ne _ _ _ _ hdn]
    exact x2

theorem TK3.afterEnter {decls : Decls} {rank : Str → Nat} {s : PSt} {R : Nat} {n : Str}
    (hk : TK3 decls rank s R) (hstate : dGet n s.tr.states = none)
    (hrank : n ∈ decls.map (·.1) → R ≤ rank n)
    (hown : ∀ d ∈ decls, ∀ k ∈ ctxs3 d.1 d.2, k = n → dGet d.1 s.tr.states ≠ none) :
    TK3 decls rank (Prs.afterEnter s n) R := by
  obtain ⟨h1stack, _, _, h1cyc, h1states, _, h1reg, _⟩ := afterEnter_facts s n
  have h1regHas : ∀ k, (Prs.afterEnter s n).regHas k = s.regHas k := by intro k; unfold PSt.regHas; rw [h1reg]
  have hnstack := hk.not_on_stack hstate
  have hnreg := hk.unregistered hstate
  refine ⟨by rw [h1cyc]; exact hk.1, ?_, ?_, ?_⟩
  · intro m hm
    rw [h1stack] at hm
    rw [h1states]
    rcases List.mem_append.mp hm with h | h
    · have hne : m ≠ n := fun e => hnstack (e ▸ h)
      rw [dGet_dSet_ne _ _ _ _ hne]
      exact hk.2.1 m h
    · simp at h; subst h; exact dGet_dSet_self _ _ _
  · intro m
    rw [h1states, h1regHas]
    by_cases hmn : m = n
    · subst hmn
      exact Or.inr (Or.inr ⟨dGet_dSet_self _ _ _, hrank, hnreg⟩)
    · rw [dGet_dSet_ne _ _ _ _ hmn]
      exact hk.2.2.1 m
  · intro d hd k hkk hne
    rw [h1states] at hne ⊢
    have hold : dGet d.1 s.tr.states ≠ none := by
      by_cases e : k = n
      · exact hown d hd k hkk e
      · rw [dGet_dSet_ne _ _ _ _ e] at hne
        exact hk.2.2.2 d hd k hkk hne
    by_cases e : d.1 = n
    · rw [e, dGet_dSet_self]
      exact fun x => by cases x
    · rw [dGet_dSet_ne _ _ _ _ e]
      exact hold

/-- what every call of the parser delivers on the fragment: a `Step` that touches no context name of another schema
    (beyond `ex`) and re-establishes `WF3` -/
structure Good (decls : Decls) (rank : Str → Nat) (ex : List Str) (s s' : PSt) : Prop where
  step : Step s s'
  own : Own3 decls ex s s'
  wf : WF3 decls rank s'

section
variable {decls : Decls} {rank : Str → Nat} {ex : List Str}

theorem Good.refl {s : PSt} (hw : WF3 decls rank s) :
    Good decls rank ex s s :=
  ⟨Step.refl s, Own3.of_states_eq rfl, hw⟩

theorem Good.trans {a b c : PSt} (h1 : Good decls rank ex a b)
    (h2 : Good decls rank ex b c) : Good decls rank ex a c :=
  ⟨Step.trans h1.step h2.step, Own3.trans h1.step h2.step h1.own h2.own, h2.wf⟩

theorem Good.mono {ex' : List Str} {s s' : PSt} (hsub : ∀ c ∈ ex, c ∈ ex')
    (h : Good decls rank ex s s') : Good decls rank ex' s s' :=
  ⟨h.step, Own3.mono hsub h.own, h.wf⟩

/-- objects appended to the heap, nothing else touched -/
theorem Good.ext {s s' : PSt} (hw : WF3 decls rank s) (l : List IR)
    (hh : s'.heap = s.heap ++ l) (hr : s'.reg = s.reg) (ho : s'.oom = s.oom) (ht : TrSame s.tr s'.tr) :
    Good decls rank ex s s' :=
  ⟨step_of_ext l hh hr ho ht, Own3.of_states_eq ht.2.2.2.2, WF3.step (HStepW.of_ext l hh hr) hr hw⟩

theorem Good.anon {s s2 : PSt}
    (h : Good decls rank ex (anonIn s) s2) : Good decls rank ex s (anonOut s2) :=
  ⟨step_anon h.step, h.own, h.wf.anonOut⟩

/-- renaming an object allocated during the step -/
theorem Good.modify_fresh {s s' : PSt} (h : Good decls rank ex s s')
    (j : Nat) (f : IR → IR) (hj : s.heap.length ≤ j) (hf : ∀ o, (f o).shape = o.shape) :
    Good decls rank ex s (s'.modify j f) :=
  ⟨h.step.modify_fresh j f hj, h.own, WF3.step (rename_hstepW s' j f hf) rfl h.wf⟩

theorem Good.tk {s s' : PSt} {R : Nat} (h : Good decls rank [] s s')
    (hk : TK3 decls rank s R) : TK3 decls rank s' R :=
  TK3.step h.step h.own (fun _ _ _ _ hin => by cases hin) hk

end

/-- a new object registered under an unregistered name -/
theorem HStepW.register {s s' : PSt} {n : Str} {l : List IR} (hnone : dGet n s.reg = none)
    (hh : s'.heap = s.heap ++ l) (hr : s'.reg = dSet n s.heap.length s.reg) : HStepW s s' := by
  refine ⟨?_, by rw [hh]; simp, fun i hi => by unfold PSt.get; rw [hh, getD_append_left _ _ i hi], ?_⟩
  · intro k i h
    have hkn : k ≠ n := fun e => by rw [e, hnone] at h; cases h
    rw [hr, dGet_dSet_ne _ _ _ _ hkn]
    exact h
  · intro k i h
    rw [hr] at h
    by_cases e : i = s.heap.length
    · exact Or.inr (Nat.le_of_eq e.symm)
    · exact Or.inl (dGet_of_dGet_dSet h e)

/-- the end of the frame of `n`: after a step inside the frame, registering under `n` an object `id` allocated there and
    leaving the tracker's frame make a step of the caller.  Off `n` nothing changes against the step inside; at `n` the
    state goes from untouched to completed and registered. -/
theorem Step.close {s sa : PSt} {n : Str} (id : Nat) (hn : n ≠ []) (hstate : dGet n s.tr.states = none)
    (hnstack : n ∉ s.tr.stack) (hnreg : s.regHas n = false) (hl : Step (afterEnter s n) sa)
    (hid : s.heap.length ≤ id) :
    Step s { (sa.regSet n id).doExit (some n) with nest := ((sa.regSet n id).doExit (some n)).nest - 1 } := by
  have hsen : dGet n sa.tr.states = some .inProgress := hl.states_some (dGet_dSet_self n _ s.tr.states)
  generalize hsf : ({ (sa.regSet n id).doExit (some n) with
      nest := ((sa.regSet n id).doExit (some n)).nest - 1 } : PSt) = sf
  have hheap : sf.heap = sa.heap := by rw [← hsf]; rfl
  have hreg : sf.reg = dSet n id sa.reg := by rw [← hsf]; rfl
  have htr : sf.tr = Trk.exit sa.tr (some n) := by rw [← hsf]; rfl
  rw [exit_inProgress sa.tr n hn hsen] at htr
  have hoff : ∀ m, m ≠ n → dGet m sf.tr.states = dGet m sa.tr.states ∧ sf.regHas m = sa.regHas m ∧
      dGet m (afterEnter s n).tr.states = dGet m s.tr.states := fun m hmn =>
    ⟨by rw [htr]; exact dGet_dSet_ne _ _ _ _ hmn, by unfold PSt.regHas dHas; rw [hreg, dGet_dSet_ne _ _ _ _ hmn],
      dGet_dSet_ne _ _ _ _ hmn⟩
  have hon : dGet n sf.tr.states = some .completed ∧ sf.regHas n = true :=
    ⟨by rw [htr]; exact dGet_dSet_self _ _ _, by unfold PSt.regHas; rw [hreg]; exact dHas_dSet_self _ _ _⟩
  refine ⟨?_, ?_, by rw [htr]; exact hl.maxDepth, by rw [htr]; exact hl.cycles, ?_, ?_, by rw [hheap]; exact hl.heapLen,
    fun i hi => by unfold PSt.get; rw [hheap]; exact hl.heap i hi, ?_, ?_, by rw [← hsf]; exact hl.oom⟩
  · rw [htr]
    show sa.tr.stack.erase n = _
    rw [hl.stack]
    show (s.tr.stack ++ [n]).erase n = _
    rw [List.erase_append_right _ hnstack, List.erase_cons_head, List.append_nil]
  · rw [htr]
    show sa.tr.depth - 1 = _
    rw [hl.depth]
    exact Nat.add_sub_cancel s.tr.depth 1
  · intro m
    by_cases hmn : m = n
    · subst hmn
      exact Or.inr ⟨hstate, hon⟩
    · obtain ⟨e1, e2, e3⟩ := hoff m hmn
      rw [e1, e2, ← e3]
      exact hl.states m
  · intro k i h
    have hkn : k ≠ n := fun e => by
      rw [e] at h
      rw [(regHas_iff_dGet s n).mpr ⟨i, h⟩] at hnreg
      cases hnreg
    rw [hreg, dGet_dSet_ne _ _ _ _ hkn]
    exact hl.reg k i h
  · intro k i h
    rw [hreg] at h
    by_cases e : i = id
    · exact Or.inr (e ▸ hid)
    · exact hl.fresh k i (dGet_of_dGet_dSet h e)
  · intro k hk'
    by_cases hkn : k = n
    · subst hkn
      exact Or.inr ⟨hstate, hon.1⟩
    · obtain ⟨e1, e2, e3⟩ := hoff k hkn
      rw [e2] at hk'
      rw [e1, ← e3]
      exact hl.regNew k hk'

/-- registration and exit: the end of a named call that went through the body; `sa` is the state in which
    the model (and possibly further objects after it) has been allocated on top of `se` -/
theorem named_close (decls : Decls) (rank : Str → Nat) (P : PFn) (n : Str) (node : Node) (s se sa : PSt) (R : Nat)
    (model : IR) (extra : List IR) (hn : n ≠ []) (hk : TK3 decls rank s R) (hstate : dGet n s.tr.states = none)
    (hd : s.tr.depth + 1 ≤ s.tr.maxDepth)
    (hb : body decls P (some n) node true (afterEnter s n) = finish decls (some n) se.heap.length sa)
    (hl1 : Step (afterEnter s n) se)
    (hah : sa.heap = se.heap ++ model :: extra) (har : sa.reg = se.reg) (hao : sa.oom = se.oom)
    (hat : TrSame se.tr sa.tr) (hname : model.name = some n)
    (hsp : ∀ t, model.type = some t → primTypes.contains t = true → model.hasEnum = false →
      dHas n decls = true) :
    ∃ sf, parseStep decls P (some n) node true s = (se.heap.length, sf) ∧
      Step s sf ∧ HStepW se sf ∧ sf.heap = se.heap ++ model :: extra ∧ sf.reg = dSet n se.heap.length se.reg ∧
      sf.tr.states = dSet n .completed se.tr.states ∧ sf.get se.heap.length = model := by
  have hnstack := hk.not_on_stack hstate
  have hnreg := hk.unregistered hstate
  have hin : dGet n (afterEnter s n).tr.states = some .inProgress := dGet_dSet_self _ _ _
  have hsen := hl1.states_some hin
  have hnone : dGet n se.reg = none := by
    simpa [PSt.regHas, dHas] using hl1.regHas_false (hsen.trans hin.symm) hnreg
  have hgeta : sa.get se.heap.length = model := by
    simpa using get_ext _ hah 0
  rw [parseStep_named_eq decls P n node s (enter_fresh s.tr n true hn hstate hnstack hd), hb,
    finish_fresh2 decls n _ _ hn (by rw [har]; exact hnone) (by rw [hat.2.2.2.1, hl1.cycles]; exact hk.1)
      (by rw [hgeta]; exact hname) (by rw [hgeta]; exact hsp)]
  refine ⟨_, rfl, Step.close _ hn hstate hnstack hnreg (hl1.trans (step_of_ext _ hah har hao hat)) hl1.heapLen,
    HStepW.register hnone hah (by rw [← har]; rfl), hah, by rw [← har]; rfl, ?_, hgeta⟩
  show (Trk.exit sa.tr (some n)).states = _
  rw [exit_inProgress sa.tr n hn (by rw [hat.2.2.2.2]; exact hsen)]
  show dSet n .completed sa.tr.states = _
  rw [hat.2.2.2.2]

end Pog.Prs
