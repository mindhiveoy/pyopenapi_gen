import Pog.Lemmas.ParserInvariants
/-
  The contracts of the callback on `Simple3` and `parseStep` case by case (open recursion): `Spec3 P r` collects what
  the callback `P` does on every declared name of rank `< r` (`SpecP3`) and on the anonymous and context nodes below such
  a name; `parseStep` turns `Spec3 P r` into `Spec3 (parseStep P) (r + 1)` (`parse_spec3`, induction on the fuel).
  Cases: leaves, arrays, context objects (map / enum / inline object), property loops, `allOf`, declared schemas.
-/
namespace Pog.Prs
open Pog Pog.Trk

variable {decls : Decls} {rank : Str → Nat} {P : PFn} {r : Nat}

/-- an anonymous `$ref` node whose target is registered: the registered object, nothing changes -/
def RefHit (P : PFn) : Prop := ∀ (t : Str) (s : PSt) (rid : Nat),
  t.contains '/' = false → t ≠ [] → dGet t s.reg = some rid → (s.get rid).depthMarker = false →
  (P none (.ref t) true s).1 = rid ∧
  (P none (.ref t) true s).2.heap = s.heap ∧
  (P none (.ref t) true s).2.reg = s.reg ∧
  (P none (.ref t) true s).2.oom = s.oom ∧
  TrSame s.tr (P none (.ref t) true s).2.tr

theorem parseStep_refHit (decls : Decls) (P : PFn) : RefHit (parseStep decls P) := by
  intro t s rid hno hne hg hdm
  have hemp : t.isEmpty = false := List.isEmpty_eq_false_iff.mpr hne
  have hg' : dGet t (anonIn s).reg = some rid := hg
  have hdm' : ((anonIn s).get rid).depthMarker = false := hdm
  rw [parseStep_anon_eq]
  have hb : body decls P none (.ref t) true (anonIn s) = (rid, anonIn s) := by
    simp [body, Node.core, resolveRef, lastSeg_of_no_slash t hno, hemp, hg', hdm']
  rw [hb]
  refine ⟨rfl, rfl, rfl, rfl, rfl, ?_, rfl, rfl, rfl⟩
  show s.tr.depth = s.tr.depth + 1 - 1
  omega

theorem body_map_eq (decls : Decls) (P : PFn) (c : Str) (a : Node) (req : List Str) (s : PSt) (hc : c ≠ [])
    (hsan : sanClass c = c) :
    body decls P (some c) (.obj none req (some a)) true s =
      finish decls (some c)
        ((P none a true s).2.alloc { name := some c, type := some sObject, required := dedup req,
                                      addl := some (P none a true s).1 }).1
        ((P none a true s).2.alloc { name := some c, type := some sObject, required := dedup req,
                                      addl := some (P none a true s).1 }).2 := by
  simp [body, Node.core, truthy_of_ne c hc, hsan, mkIR_named c hc hsan]

theorem body_obj_eq (decls : Decls) (P : PFn) (n : Str) (ps : List (Str × Node)) (req : List Str) (s : PSt)
    (hn : n ≠ []) (hsan : sanClass n = n) :
    body decls P (some n) (.obj (some ps) req none) true s =
      finish decls (some n)
        ((parseProps decls P (some n) true ps [] s).2.alloc
          { name := some n, type := some sObject, props := (parseProps decls P (some n) true ps [] s).1,
            required := dedup req }).1
        ((parseProps decls P (some n) true ps [] s).2.alloc
          { name := some n, type := some sObject, props := (parseProps decls P (some n) true ps [] s).1,
            required := dedup req }).2 := by
  simp [body, Node.core, truthy_of_ne n hn, hsan, mkIR_named n hn hsan]

def CoreInv (P : PFn) : Prop := ∀ name node allow s, P name node allow s = P name node.core allow s

theorem parseStep_coreInv (decls : Decls) (P : PFn) : CoreInv (parseStep decls P) := by
  intro name node allow s
  unfold parseStep parseCore bodyAndExit body
  rw [core_core]

theorem parse_coreInv (decls : Decls) : ∀ f, CoreInv (parse decls f)
  | 0 => fun _ _ _ _ => rfl
  | f + 1 => parseStep_coreInv decls (parse decls f)

/-- contract on an anonymous primitive, plain or enum: one fresh object, nothing else changes -/
def PrimSpecE (P : PFn) : Prop := ∀ (ty : PrimTy) (e : Bool) (s : PSt),
  (P none (.prim ty e) true s).1 = s.heap.length ∧
  (P none (.prim ty e) true s).2.heap = s.heap ++ [{ type := some ty.str, hasEnum := e }] ∧
  (P none (.prim ty e) true s).2.reg = s.reg ∧
  (P none (.prim ty e) true s).2.oom = s.oom ∧
  TrSame s.tr (P none (.prim ty e) true s).2.tr

theorem parseStep_primSpecE (decls : Decls) (P : PFn) : PrimSpecE (parseStep decls P) := by
  intro ty e s
  simp [parseStep, parseCore, PSt.doEnter, Trk.enter, bodyAndExit, body, Node.core, finish, PSt.doExit,
    Trk.exit, truthy, mkIR, PSt.alloc, TrSame]

def Pre3 (decls : Decls) (rank : Str → Nat) (s : PSt) (n : Str) : Prop :=
  WF3 decls rank s ∧ TK3 decls rank s (rank n + 1) ∧ s.regHas n = false ∧ s.tr.depth + rank n + 1 ≤ s.tr.maxDepth

def Post3 (decls : Decls) (rank : Str → Nat) (s : PSt) (n : Str) (q : Nat × PSt) : Prop :=
  Good decls rank [] s q.2 ∧ dGet n q.2.reg = some q.1

/-- result of parsing an anonymous property node: a fresh object that denotes the kind -/
def AnonPost3 (decls : Decls) (rank : Str → Nat) (s : PSt) (q : Nat × PSt) (K : Kind) : Prop :=
  Good decls rank [] s q.2 ∧ Denotes (decls.map (·.1)) q.2 K q.1 ∧ s.heap.length ≤ q.1

def SpecP3 (decls : Decls) (rank : Str → Nat) (P : PFn) (r : Nat) : Prop :=
  ∀ n nd s, dGet n decls = some nd → rank n < r → Pre3 decls rank s n → Post3 decls rank s n (P (some n) nd true s)

def RefSpec3 (decls : Decls) (rank : Str → Nat) (P : PFn) (r : Nat) : Prop :=
  ∀ t nd s R, dGet t decls = some nd → t.contains '/' = false → t ≠ [] → rank t + 1 < r → rank t < R →
    s.tr.depth + rank t + 2 ≤ s.tr.maxDepth → WF3 decls rank s → TK3 decls rank s R →
    Post3 decls rank s t (P none (.ref t) true s)

def ArrSpec3 (decls : Decls) (rank : Str → Nat) (P : PFn) (r : Nat) : Prop :=
  ∀ i s R, leaf3 (decls.map (·.1)) i = true → leafCost3 rank i < r → leafCost3 rank i ≤ R →
    s.tr.depth + leafCost3 rank i + 1 ≤ s.tr.maxDepth → WF3 decls rank s → TK3 decls rank s R →
    AnonPost3 decls rank s (P none (.arr i) true s) (.arr (nodeKind i))

/-- what a NAMED call under a context name delivers: a registered full object of type `ty` -/
structure CtxPost3 (decls : Decls) (rank : Str → Nat) (c : Str) (s : PSt) (q : Nat × PSt) (ty : Str) (e : Bool) :
    Prop where
  good : Good decls rank [c] s q.2
  reg : dGet c q.2.reg = some q.1
  lt : q.1 < q.2.heap.length
  name : (q.2.get q.1).name = some c
  full : (q.2.get q.1).kind = .full
  noRef : (q.2.get q.1).refersTo = none
  type : (q.2.get q.1).type = some ty
  enum : (q.2.get q.1).hasEnum = e

/-- the state in which a context name may be entered -/
structure CtxPre3 (decls : Decls) (rank : Str → Nat) (c : Str) (s : PSt) (R : Nat) : Prop where
  undeclared : c ∉ decls.map (·.1)
  san : sanClass c = c
  ne : c ≠ []
  wf : WF3 decls rank s
  tk : TK3 decls rank s R
  untouched : dGet c s.tr.states = none
  owner : ∀ d ∈ decls, c ∈ ctxs3 d.1 d.2 → dGet d.1 s.tr.states ≠ none

def MapSpec3 (decls : Decls) (rank : Str → Nat) (P : PFn) (r : Nat) : Prop :=
  ∀ c a req s R, CtxPre3 decls rank c s R → leaf3 (decls.map (·.1)) a = true →
    leafCost3 rank a < r → leafCost3 rank a ≤ R → s.tr.depth + leafCost3 rank a + 1 ≤ s.tr.maxDepth →
    CtxPost3 decls rank c s (P (some c) (.obj none req (some a)) true s) sObject false

def EnumSpec3 (decls : Decls) (rank : Str → Nat) (P : PFn) : Prop :=
  ∀ c ty s R, CtxPre3 decls rank c s R → s.tr.depth + 1 ≤ s.tr.maxDepth →
    CtxPost3 decls rank c s (P (some c) (.prim ty true) true s) ty.str true

def innerOK3 (decls : Decls) (rank : Str → Nat) (ps : List (Str × Node)) (s : PSt) (R r : Nat) : Prop :=
  innerProps3 (decls.map (·.1)) ps = true ∧ 0 < r ∧
  ∀ kv ∈ ps, innerCost3 rank kv.2 ≤ R ∧ innerCost3 rank kv.2 < r ∧
    s.tr.depth + innerCost3 rank kv.2 + 1 ≤ s.tr.maxDepth

def InlSpec3 (decls : Decls) (rank : Str → Nat) (P : PFn) (r : Nat) : Prop :=
  ∀ c ps req s R, CtxPre3 decls rank c s R → innerOK3 decls rank ps s R r → s.tr.depth + 1 ≤ s.tr.maxDepth →
    CtxPost3 decls rank c s (P (some c) (.obj (some ps) req none) true s) sObject false

def AnonObjSpec3 (decls : Decls) (rank : Str → Nat) (P : PFn) (r : Nat) : Prop :=
  ∀ ps req s R, WF3 decls rank s → TK3 decls rank s R → innerOK3 decls rank ps s R r →
    Good decls rank [] s (P none (.obj (some ps) req none) true s).2 ∧
    (P none (.obj (some ps) req none) true s).1 < (P none (.obj (some ps) req none) true s).2.heap.length ∧
    All2 (FieldK (decls.map (·.1)) (P none (.obj (some ps) req none) true s).2) (ps.map toK)
      ((P none (.obj (some ps) req none) true s).2.get (P none (.obj (some ps) req none) true s).1).props ∧
    ((P none (.obj (some ps) req none) true s).2.get (P none (.obj (some ps) req none) true s).1).required = dedup req

structure Spec3 (decls : Decls) (rank : Str → Nat) (P : PFn) (r : Nat) : Prop where
  core : CoreInv P
  prim : PrimSpecE P
  hit : RefHit P
  named : SpecP3 decls rank P r
  ref : RefSpec3 decls rank P r
  arr : ArrSpec3 decls rank P r
  map : MapSpec3 decls rank P r
  enum : EnumSpec3 decls rank P
  inl : InlSpec3 decls rank P r
  anonObj : AnonObjSpec3 decls rank P r

/-- `_resolve_ref` on a declared target -/
theorem resolveRef_spec3 (hP : Spec3 decls rank P r)
    (t : Str) (nd : Node) (s : PSt) (hw : WF3 decls rank s) (hk : TK3 decls rank s (rank t + 1))
    (ht : dGet t decls = some nd) (hno : t.contains '/' = false) (hne : t ≠ []) (hr : rank t < r)
    (hd : s.tr.depth + rank t + 1 ≤ s.tr.maxDepth) :
    Post3 decls rank s t (resolveRef decls P t true s) := by
  unfold resolveRef
  have hemp : t.isEmpty = false := List.isEmpty_eq_false_iff.mpr hne
  simp only [lastSeg_of_no_slash t hno, hemp, Bool.false_eq_true, if_false]
  cases hg : dGet t s.reg with
  | some id =>
    have hdm : (s.get id).depthMarker = false :=
      (kind_full_flags ((hw.obj t id hg).2 (mem_names_of_dGet decls t nd ht)).full).1
    simp only [hdm, Bool.not_false, if_true]
    exact ⟨Good.refl hw, hg⟩
  | none =>
    simp only [ht]
    exact hP.named t nd s ht hr ⟨hw, hk, by unfold PSt.regHas dHas; rw [hg]; rfl, hd⟩

theorem parseStep_refSpec3 (hP : Spec3 decls rank P r) :
    RefSpec3 decls rank (parseStep decls P) (r + 1) := by
  intro t nd s R ht hno hne hr hR hd hw hk
  rw [parseStep_anon_eq]
  have hb : body decls P none (.ref t) true (anonIn s) = resolveRef decls P t true (anonIn s) := by
    simp [body, Node.core]
  rw [hb]
  have hd' : (anonIn s).tr.depth + rank t + 1 ≤ (anonIn s).tr.maxDepth := by
    show s.tr.depth + 1 + rank t + 1 ≤ s.tr.maxDepth
    omega
  obtain ⟨h1, h2⟩ := resolveRef_spec3 hP t nd (anonIn s) hw.anonIn
    (TK3.anti hk.anonIn (by omega)) ht hno hne (by omega) hd'
  exact ⟨h1.anon, h2⟩

theorem parseItems_leaf3 (names : List Str) (P : PFn) (hC : CoreInv P) (name : Option Str) (i : Node) (s : PSt)
    (h : leaf3 names i = true) : parseItems P name i true s = P none i.core true s := by
  unfold leaf3 at h
  rcases leafOK_cases _ i.core h with ⟨ty, en, e⟩ | ⟨t, e, _⟩
  · simp [parseItems, itemName, Node.isRef, Node.isPrim, e, Node.isObjType]
    rw [hC none i true s, e]
  · simp [parseItems, itemName, Node.isRef, Node.isPrim, e, Node.isObjType]
    rw [hC none i true s, e]

/-- an array node parses its items node twice (schema_parser.py:782-844): once before the array object `A _` is
    allocated and once after, and then points the array at the second result -/
def arrItems (P : PFn) (ic : Node) (A : Nat → IR) (s : PSt) : Nat × PSt :=
  let qa := P none ic true s
  let al := qa.2.alloc (A qa.1)
  let qc := P none ic true al.2
  (al.1, qc.2.modify al.1 (fun o => { o with items := some qc.1 }))

theorem body_arr_eq3 (decls : Decls) (P : PFn) (hC : CoreInv P) (i : Node) (s : PSt)
    (h : leaf3 (decls.map (·.1)) i = true) :
    body decls P none (.arr i) true s = arrItems P i.core (fun x => { type := some sArray, items := some x }) s := by
  simp [body, Node.core, truthy, parseItems_leaf3 _ P hC none i _ h, mkIR, finish, arrItems]

/-- an object allocated on top of a well-formed state is registered under no name -/
theorem anon_fresh {s s' : PSt} (hw : WF3 decls rank s) (hr : s'.reg = s.reg) {i : Nat} (hi : s.heap.length ≤ i)
    (hlt : i < s'.heap.length) (hfull : (s'.get i).kind = .full) : Anon s' i := by
  refine ⟨hlt, hfull, ?_⟩
  intro k j hkj
  rw [hr] at hkj
  exact Nat.ne_of_lt (Nat.lt_of_lt_of_le (hw.obj k j hkj).1 hi)

/-- `arrItems` when the second parse of the items only appends objects (`extra`) to the heap -/
theorem arrItems_of_ext {ic : Node} (A : Nat → IR) (hA : ∀ x y, ({ A x with items := some y } : IR) = A y)
    {s se sc : PSt} {x0 x : Nat} {extra : List IR} (h1 : P none ic true s = (x0, se))
    (h2 : P none ic true (se.alloc (A x0)).2 = (x, sc)) (hh : sc.heap = (se.alloc (A x0)).2.heap ++ extra) :
    ∃ sd, arrItems P ic A s = (se.heap.length, sd) ∧ sd.heap = se.heap ++ A x :: extra ∧ sd.reg = sc.reg ∧
      sd.oom = sc.oom ∧ sd.tr = sc.tr := by
  refine ⟨sc.modify se.heap.length (fun o => { o with items := some x }), ?_, ?_, rfl, rfl, rfl⟩
  · simp only [arrItems, h1, h2]
    rfl
  show sc.heap.modify _ _ = _
  rw [hh]
  show (se.heap ++ [A x0] ++ extra).modify _ _ = _
  rw [List.append_assoc]
  simpa [hA] using modify_append_add se.heap ([A x0] ++ extra) 0 (fun o => { o with items := some x })

/-- with primitive items the first item object is orphaned (the last object of `se`) and the array points at the second
    one (`extra`); with `$ref` items the second parse finds the registered schema (`RefHit`) and `extra` is empty -/
theorem arrItems_spec (hS : Simple3 decls rank) (hP : Spec3 decls rank P r) (ic : Node)
    (hi : leafOK (decls.map (·.1)) ic = true) (A : Nat → IR) (hA : ∀ x y, ({ A x with items := some y } : IR) = A y)
    (s : PSt) (R : Nat) (hr : leafCost rank ic < r + 1) (hR : leafCost rank ic ≤ R)
    (hd : s.tr.depth + leafCost rank ic ≤ s.tr.maxDepth) (hw : WF3 decls rank s) (hk : TK3 decls rank s R) :
    ∃ se sd x extra, arrItems P ic A s = (se.heap.length, sd) ∧ Good decls rank [] s se ∧
      sd.heap = se.heap ++ A x :: extra ∧ sd.reg = se.reg ∧ sd.oom = se.oom ∧ TrSame se.tr sd.tr ∧
      Denotes (decls.map (·.1)) sd (nodeKind ic) x := by
  rcases leafOK_cases _ ic hi with ⟨ty, en, rfl⟩ | ⟨t, rfl, hmem, hno, hne⟩
  · obtain ⟨_, a2, a3, a4, a5⟩ := hP.prim ty en s
    generalize h1 : P none (.prim ty en) true s = qa at a2 a3 a4 a5
    obtain ⟨x0, se⟩ := qa
    obtain ⟨c1, c2, c3, c4, c5⟩ := hP.prim ty en (se.alloc (A x0)).2
    generalize h2 : P none (.prim ty en) true (se.alloc (A x0)).2 = qc at c1 c2 c3 c4 c5
    obtain ⟨x, sc⟩ := qc
    obtain ⟨sd, e, hh, hrg, ho, ht⟩ := arrItems_of_ext A hA h1 h2 c2
    have hx : x = se.heap.length + 1 := c1.trans List.length_append
    have hg : sd.get x = { type := some ty.str, hasEnum := en } := by rw [hx]; exact get_ext _ hh 1
    refine ⟨se, sd, x, _, e, Good.ext hw _ a2 a3 a4 a5, hh, hrg.trans c3, ho.trans c4, ht ▸ c5, ?_⟩
    exact ⟨anon_fresh hw ((hrg.trans c3).trans a3) (by rw [hx, a2, List.length_append]; omega) (by rw [hh, hx]; simp)
      (by rw [hg]; rfl), by rw [hg], by rw [hg]⟩
  · obtain ⟨nd, hnd⟩ := dGet_of_mem_keys decls t hmem
    simp only [leafCost] at hr hR hd
    obtain ⟨a1, a4⟩ := hP.ref t nd s R hnd hno hne (by omega) (by omega) (by omega) hw hk
    generalize h1 : P none (.ref t) true s = qa at a1 a4
    obtain ⟨rid, se⟩ := qa
    have hdm : ((se.alloc (A rid)).2.get rid).depthMarker = false := by
      have : (se.alloc (A rid)).2.get rid = se.get rid := getD_append_left _ _ _ (a1.wf.obj t rid a4).1
      rw [this]
      exact (kind_full_flags ((a1.wf.obj t rid a4).2 hmem).full).1
    obtain ⟨c1, c2, c3, c4, c5⟩ := hP.hit t (se.alloc (A rid)).2 rid hno hne a4 hdm
    generalize h2 : P none (.ref t) true (se.alloc (A rid)).2 = qc at c1 c2 c3 c4 c5
    obtain ⟨x, sc⟩ := qc
    obtain ⟨sd, e, hh, hrg, ho, ht⟩ := arrItems_of_ext A hA h1 h2 (extra := []) (by rw [c2, List.append_nil])
    refine ⟨se, sd, x, _, e, a1, hh, hrg.trans c3, ho.trans c4, ht ▸ c5, ?_⟩
    show Denotes _ _ (.ref (sanClass (lastSeg t))) x
    rw [lastSeg_of_no_slash t hno, sanClass_of_declared3 decls rank hS t hmem]
    exact ⟨hmem, by rw [hrg, c3, show x = rid from c1]; exact a4⟩

theorem parseStep_arrSpec3 (hS : Simple3 decls rank) (hP : Spec3 decls rank P r) :
    ArrSpec3 decls rank (parseStep decls P) (r + 1) := by
  intro i s R hi hr hR hd hw hk
  rw [parseStep_anon_eq, body_arr_eq3 decls P hP.core i _ hi, ← nodeKind_core i]
  unfold leafCost3 at hr hR hd
  obtain ⟨se, sd, x, extra, e, h1, hh, hrg, ho, ht, hden⟩ := arrItems_spec hS hP i.core hi
    (fun x => { type := some sArray, items := some x }) (fun _ _ => rfl) (anonIn s) R hr hR
    (by show s.tr.depth + 1 + _ ≤ s.tr.maxDepth; omega) hw.anonIn hk.anonIn
  rw [e]
  have hg : sd.get se.heap.length = { type := some sArray, items := some x } := by
    have := get_ext _ hh 0
    simpa using this
  refine ⟨(h1.trans (Good.ext h1.wf _ hh hrg ho ht)).anon, Denotes.anonOut ?_, h1.step.heapLen⟩
  exact ⟨anon_fresh h1.wf hrg (Nat.le_refl _) (by rw [hh]; simp) (by rw [hg]; rfl), by rw [hg], by rw [hg], x,
    by rw [hg], hden⟩

/-- the value node of a map (only its effect on the state matters) -/
theorem leaf_step3 (hP : Spec3 decls rank P r) (a : Node) (s : PSt) (R : Nat)
    (ha : leaf3 (decls.map (·.1)) a = true) (hr : leafCost3 rank a < r + 1) (hR : leafCost3 rank a ≤ R)
    (hd : s.tr.depth + leafCost3 rank a ≤ s.tr.maxDepth) (hw : WF3 decls rank s) (hk : TK3 decls rank s R) :
    Good decls rank [] s (P none a true s).2 := by
  rw [hP.core none a true s]
  unfold leafCost3 at hr hR hd
  unfold leaf3 at ha
  generalize a.core = a at *
  rcases leafOK_cases _ a ha with ⟨ty, en, e⟩ | ⟨t, e, hmem, hno, hne⟩
  · subst e
    obtain ⟨_, a2, a3, a4, a5⟩ := hP.prim ty en s
    exact Good.ext hw _ a2 a3 a4 a5
  · subst e
    obtain ⟨nd, hnd⟩ := dGet_of_mem_keys decls t hmem
    have h1 : rank t + 2 < r + 1 := hr
    have h2 : rank t + 2 ≤ R := hR
    have h3 : s.tr.depth + (rank t + 2) ≤ s.tr.maxDepth := hd
    exact (hP.ref t nd s R hnd hno hne (by omega) (by omega) (by omega) hw hk).1

/-- the common end of a named call under a context name `c`: the object `model` is allocated on top of `se` -/
theorem ctx_close (P : PFn) {c : Str} {node : Node} {s se : PSt} {R : Nat} {model : IR}
    {ty : Str} {e : Bool} (hpre : CtxPre3 decls rank c s R) (hd : s.tr.depth + 1 ≤ s.tr.maxDepth)
    (hb : body decls P (some c) node true (afterEnter s c) = finish decls (some c) se.heap.length (se.alloc model).2)
    (hl : Good decls rank [] (afterEnter s c) se)
    (hname : model.name = some c) (hfull : model.kind = .full) (href : model.refersTo = none)
    (hty : model.type = some ty) (hen : model.hasEnum = e) (hsp : primTypes.contains ty = true → e = true) :
    CtxPost3 decls rank c s (parseStep decls P (some c) node true s) ty e := by
  obtain ⟨sf, heq, hst, hhs, hfheap, hfreg, hfstates, hfget⟩ :=
    named_close decls rank P c node s se (se.alloc model).2 R model [] hpre.ne hpre.tk hpre.untouched hd hb hl.step rfl rfl rfl
      (TrSame.rfl' _) hname (fun t ht hpt he => by
        rw [hty] at ht
        cases ht
        rw [hen] at he
        exact absurd (hsp hpt) (by rw [he]; exact Bool.false_ne_true))
  rw [heq]
  refine ⟨⟨hst, ?_, WF3.close hl.wf hhs hfreg hfheap (fun h => absurd h hpre.undeclared)⟩,
    by rw [hfreg, dGet_dSet_self],
    by rw [hfheap]; simp, by rw [hfget]; exact hname, by rw [hfget]; exact hfull, by rw [hfget]; exact href,
    by rw [hfget]; exact hty, by rw [hfget]; exact hen⟩
  refine own_close3 hfstates hl.own ?_
  intro d hd' k hk' hnot
  exact ⟨fun e => hnot (by rw [e]; exact List.mem_singleton.mpr rfl), fun hin => by cases hin⟩

theorem CtxPre3.enter {decls : Decls} {rank : Str → Nat} {c : Str} {s : PSt} {R : Nat} (hpre : CtxPre3 decls rank c s R) :
    TK3 decls rank (afterEnter s c) R ∧ WF3 decls rank (afterEnter s c) :=
  ⟨TK3.afterEnter hpre.tk hpre.untouched (fun h => absurd h hpre.undeclared)
      (fun d hd _ hk' e => hpre.owner d hd (e ▸ hk')),
    WF3.congr (s := s) (s' := afterEnter s c) rfl rfl hpre.wf⟩

theorem parseStep_mapSpec3 (hP : Spec3 decls rank P r) :
    MapSpec3 decls rank (parseStep decls P) (r + 1) := by
  intro c a req s R hpre ha hr hR hd
  obtain ⟨hk1, hw1⟩ := hpre.enter
  have hb := body_map_eq decls P c a req (afterEnter s c) hpre.ne hpre.san
  have l1 := leaf_step3 hP a (afterEnter s c) R ha hr hR
    (by show s.tr.depth + 1 + _ ≤ s.tr.maxDepth; omega) hw1 hk1
  generalize hq : P none a true (afterEnter s c) = q at l1 hb
  obtain ⟨ai, se⟩ := q
  exact ctx_close P hpre (by omega) hb l1 rfl rfl rfl rfl rfl (fun h => absurd h (by decide))

theorem body_prim_named_eq3 (decls : Decls) (P : PFn) (n : Str) (ty : PrimTy) (e : Bool) (s : PSt) (hn : n ≠ [])
    (hsan : sanClass n = n) :
    body decls P (some n) (.prim ty e) true s =
      finish decls (some n) (s.alloc { name := some n, type := some ty.str, hasEnum := e }).1
        (s.alloc { name := some n, type := some ty.str, hasEnum := e }).2 := by
  simp [body, Node.core, truthy_of_ne n hn, hsan, mkIR_named n hn hsan]

theorem parseStep_enumSpec3 (P : PFn) :
    EnumSpec3 decls rank (parseStep decls P) := by
  intro c ty s R hpre hd
  exact ctx_close P hpre hd (body_prim_named_eq3 decls P c ty true _ hpre.ne hpre.san) (Good.refl hpre.enter.2)
    rfl rfl rfl rfl rfl (fun _ => rfl)

theorem propStep_core (decls : Decls) (P : PFn) (hC : CoreInv P) (par : Option Str) (k : Str) (p : Node) (s : PSt) :
    propStep decls P par true k p s = propStep decls P par true k p.core s := by
  unfold propStep propInline propOther propCtxName Node.isRef Node.isInlineObj Node.isPlainPrim Node.isSimpleArr
    Node.enumFlag
  simp only [core_core, hC _ p]

theorem rename_post3 {decls : Decls} {rank : Str → Nat} {s : PSt} {q : Nat × PSt} {K : Kind}
    (h : AnonPost3 decls rank s q K) (f : IR → IR) (hf : ∀ o, (f o).shape = o.shape) :
    Good decls rank [] s (q.2.modify q.1 f) ∧ Denotes (decls.map (·.1)) (q.2.modify q.1 f) K q.1 :=
  ⟨h.1.modify_fresh q.1 f h.2.2 hf, Denotes.step (rename_hstepW q.2 q.1 f hf) K q.1 h.2.1⟩

theorem primSpec_anonPost3 (hP : Spec3 decls rank P r) (ty : PrimTy) (s : PSt)
    (hw : WF3 decls rank s) : AnonPost3 decls rank s (P none (.prim ty false) true s) (.prim ty) := by
  obtain ⟨a1, a2, a3, a4, a5⟩ := hP.prim ty false s
  have hg : (P none (.prim ty false) true s).2.get s.heap.length = { type := some ty.str } := by
    have := get_ext _ a2 0
    simpa using this
  refine ⟨Good.ext hw _ a2 a3 a4 a5, ?_, by rw [a1]; exact Nat.le_refl _⟩
  rw [a1]
  exact ⟨anon_fresh hw a3 (Nat.le_refl _) (by rw [a2]; simp) (by rw [hg]; rfl), by rw [hg], by rw [hg]⟩

/-- what every property step delivers; `ex` = the context name the step itself used, if any -/
def PropPost3 (decls : Decls) (rank : Str → Nat) (ex : List Str) (s : PSt) (k : Str) (p : Node) (q : Nat × PSt) : Prop :=
  Good decls rank ex s q.2 ∧ FieldK (decls.map (·.1)) q.2 (k, nodeKind p) (k, q.1)

theorem propStep_prim_eq3 (decls : Decls) (P : PFn) (par : Option Str) (k : Str) (ty : PrimTy) (s : PSt) :
    propStep decls P par true k (.prim ty false) s =
      ((P none (.prim ty false) true s).1,
       (P none (.prim ty false) true s).2.modify (P none (.prim ty false) true s).1
         (fun o => { o with name := some k, hasEnum := o.hasEnum || false })) := by
  simp [propStep, Node.isRef, Node.isInlineObj, Node.core, propOther, propCtxName, Node.isPlainPrim,
    Node.enumFlag]

theorem propStep_arr_eq3 (decls : Decls) (P : PFn) (par : Option Str) (k : Str) (i : Node) (s : PSt)
    (hi : leaf3 (decls.map (·.1)) i = true) :
    propStep decls P par true k (.arr i) s =
      ((P none (.arr i) true s).1,
       (P none (.arr i) true s).2.modify (P none (.arr i) true s).1
         (fun o => { o with name := some k, hasEnum := o.hasEnum || false })) := by
  unfold leaf3 at hi
  rcases leafOK_cases _ i.core hi with ⟨ty, en, e⟩ | ⟨t, e, _⟩
  · simp [propStep, Node.isRef, Node.isInlineObj, Node.core, propOther, propCtxName, Node.isPlainPrim,
      Node.isSimpleArr, Node.isPrim, Node.enumFlag, e]
  · simp [propStep, Node.isRef, Node.isInlineObj, Node.core, propOther, propCtxName, Node.isPlainPrim,
      Node.isSimpleArr, Node.isPrim, Node.enumFlag, e]

theorem propStep_prim3 (hP : Spec3 decls rank P r) (par : Option Str) (k : Str)
    (ty : PrimTy) (s : PSt) (hw : WF3 decls rank s) :
    PropPost3 decls rank [] s k (.prim ty false) (propStep decls P par true k (.prim ty false) s) := by
  rw [propStep_prim_eq3]
  obtain ⟨h1, h4⟩ := rename_post3 (primSpec_anonPost3 hP ty s hw) _ (fun o => rename_shape _ _ o)
  exact ⟨h1, rfl, by simp [nodeKind, kfuel], Or.inl h4⟩

theorem kfuel_leaf (names : List Str) (i : Node) (hi : leaf3 names i = true) : kfuel (nodeKind i) = 1 := by
  unfold leaf3 at hi
  rw [← nodeKind_core]
  rcases leafOK_cases _ i.core hi with ⟨ty, en, e⟩ | ⟨t, e, _⟩
  · rw [e]; rfl
  · rw [e]; rfl

theorem propStep_arr3 (hP : Spec3 decls rank P r)
    (par : Option Str) (k : Str) (i : Node) (s : PSt) (R : Nat) (hi : leaf3 (decls.map (·.1)) i = true)
    (hr : leafCost3 rank i < r) (hR : leafCost3 rank i ≤ R) (hd : s.tr.depth + leafCost3 rank i + 1 ≤ s.tr.maxDepth)
    (hw : WF3 decls rank s) (hk : TK3 decls rank s R) :
    PropPost3 decls rank [] s k (.arr i) (propStep decls P par true k (.arr i) s) := by
  rw [propStep_arr_eq3 decls P par k i s hi]
  obtain ⟨h1, h4⟩ := rename_post3 (hP.arr i s R hi hr hR hd hw hk) _ (fun o => rename_shape _ _ o)
  refine ⟨h1, rfl, ?_, Or.inl h4⟩
  show kfuel (.arr (nodeKind i)) ≤ 6
  simp [kfuel, kfuel_leaf _ i hi]

theorem propStep_ref3 (hS : Simple3 decls rank) (hP : Spec3 decls rank P r) (par : Option Str) (k t : Str) (s : PSt) (hw : WF3 decls rank s)
    (hk : TK3 decls rank s (rank t + 1))
    (hmem : t ∈ decls.map (·.1)) (hno : t.contains '/' = false) (hne : t ≠ []) (hr : rank t < r)
    (hd : s.tr.depth + rank t + 1 ≤ s.tr.maxDepth) :
    PropPost3 decls rank [] s k (.ref t) (propStep decls P par true k (.ref t) s) := by
  have hq : propStep decls P par true k (.ref t) s = resolveRef decls P t true s := by
    simp [propStep, Node.isRef, Node.core]
  rw [hq]
  obtain ⟨nd, hnd⟩ := dGet_of_mem_keys decls t hmem
  obtain ⟨h1, h4⟩ := resolveRef_spec3 hP t nd s hw hk hnd hno hne hr hd
  refine ⟨h1, rfl, by simp [nodeKind, kfuel], Or.inl ?_⟩
  show Denotes _ _ (.ref (sanClass (lastSeg t))) _
  rw [lastSeg_of_no_slash t hno, sanClass_of_declared3 decls rank hS t hmem]
  exact ⟨hmem, h4⟩

/-- `propOther` when the property was parsed and registered under the context name `c`: a nameless reference
    holder.  The two holder branches of `propOther` (`shouldRef` / `registeredHere`) allocate the same object here: the
    type is not `array`, so `items := none`, and `!o.hasEnum && p.enumFlag` is `false` in both cases of `hcase`. -/
theorem propOther_ctx_eq (P : PFn) (par : Option Str) (k c : Str) (p : Node) (s : PSt) (mid : Nat) (sm : PSt) (ty : Str)
    (hctx : propCtxName par k p = some c) (hq : P (some c) p true s = (mid, sm))
    (hreg : dGet c sm.reg = some mid) (hname : (sm.get mid).name = some c) (hfull : (sm.get mid).kind = .full)
    (hty : (sm.get mid).type = some ty)
    (hcase : (ty = sObject ∧ p.enumFlag = false) ∨ (ty ≠ sObject ∧ ty ≠ sArray ∧ (sm.get mid).hasEnum = true))
    (hpp : p.isPlainPrim = false) :
    propOther P par true k p s = sm.alloc { type := some c, refersTo := some mid } := by
  obtain ⟨f1, f2, _, f4⟩ := kind_full_flags hfull
  have hne : ¬ (sObject = sArray) := by decide
  unfold propOther
  simp only [hctx, hq]
  rcases hcase with ⟨e1, e2⟩ | ⟨e1, e2, e3⟩
  · subst e1
    simp [hname, hty, PSt.regHas, dHas, hreg, f1, f2, f4, hpp, e2, mkIR, truthy, hne]
  · simp [hname, hty, PSt.regHas, dHas, hreg, f1, f2, f4, hpp, e1, e2, e3, mkIR, truthy]

theorem propCtxName_ctx (n k : Str) (p : Node) (hn : n ≠ []) (hp : (p.isPlainPrim || p.isSimpleArr) = false) :
    propCtxName (some n) k p = some (mapCtx n k) := by
  simp [propCtxName, truthy_of_ne n hn, hp, mapCtx]

/-- the holder allocated on top of a `CtxPost3` state -/
theorem holder_post (c : Str) (s : PSt) (mid : Nat) (sm : PSt) (ty : Str) (e : Bool)
    (hcn : c ∉ decls.map (·.1)) (h : CtxPost3 decls rank c s (mid, sm) ty e) (H : IR)
    (hH1 : H.kind = .full) (hH2 : H.refersTo = some mid) :
    Good decls rank [c] s (sm.alloc H).2 ∧ Anon (sm.alloc H).2 sm.heap.length ∧
    ∃ c' mid', ((sm.alloc H).2.get sm.heap.length).refersTo = some mid' ∧ c' ∉ decls.map (·.1) ∧
      dGet c' (sm.alloc H).2.reg = some mid' ∧ mid' < (sm.alloc H).2.heap.length ∧
      ((sm.alloc H).2.get mid').kind = .full ∧ ((sm.alloc H).2.get mid').refersTo = none ∧
      ((sm.alloc H).2.get mid').type = some ty := by
  have hh : (sm.alloc H).2.heap = sm.heap ++ [H] := rfl
  have hg : (sm.alloc H).2.get sm.heap.length = H := get_alloc _ _
  have hgm : (sm.alloc H).2.get mid = sm.get mid := getD_append_left _ _ _ h.lt
  refine ⟨h.good.trans (Good.ext h.good.wf _ hh rfl rfl (TrSame.rfl' _)), ?_, ?_⟩
  · exact anon_fresh (s' := (sm.alloc H).2) h.good.wf rfl (Nat.le_refl _) (by rw [hh]; simp) (by rw [hg]; exact hH1)
  · exact ⟨c, mid, by rw [hg]; exact hH2, hcn, h.reg, Nat.lt_of_lt_of_le h.lt (by rw [hh]; simp), by rw [hgm]; exact h.full,
      by rw [hgm]; exact h.noRef, by rw [hgm]; exact h.type⟩

theorem propStep_map3 (hP : Spec3 decls rank P r)
    (n k : Str) (a : Node) (req : List Str) (s : PSt) (R : Nat) (hn : n ≠ [])
    (hpre : CtxPre3 decls rank (mapCtx n k) s R) (ha : leaf3 (decls.map (·.1)) a = true)
    (hr : leafCost3 rank a < r) (hR : leafCost3 rank a ≤ R) (hd : s.tr.depth + leafCost3 rank a + 1 ≤ s.tr.maxDepth) :
    PropPost3 decls rank [mapCtx n k] s k (.obj none req (some a))
      (propStep decls P (some n) true k (.obj none req (some a)) s) := by
  have hq : propStep decls P (some n) true k (.obj none req (some a)) s =
      propOther P (some n) true k (.obj none req (some a)) s := by
    simp [propStep, Node.isRef, Node.isInlineObj, Node.core]
  rw [hq]
  have hpost := hP.map (mapCtx n k) a req s R hpre ha hr hR hd
  generalize hqq : P (some (mapCtx n k)) (.obj none req (some a)) true s = q at hpost
  obtain ⟨mid, sm⟩ := q
  rw [propOther_ctx_eq P (some n) k (mapCtx n k) _ s mid sm sObject (propCtxName_ctx n k _ hn rfl) hqq hpost.reg
    hpost.name hpost.full hpost.type (Or.inl ⟨rfl, rfl⟩) rfl]
  obtain ⟨h1, h4, h5⟩ := holder_post _ s mid sm _ _ hpre.undeclared hpost
    { type := some (mapCtx n k), refersTo := some mid } rfl rfl
  exact ⟨h1, rfl, by simp [nodeKind, kfuel], Or.inl ⟨h4, h5⟩⟩

theorem propStep_enum3 (hP : Spec3 decls rank P r)
    (n k : Str) (ty : PrimTy) (s : PSt) (R : Nat) (hn : n ≠ [])
    (hpre : CtxPre3 decls rank (mapCtx n k) s R) (hd : s.tr.depth + 1 ≤ s.tr.maxDepth) :
    PropPost3 decls rank [mapCtx n k] s k (.prim ty true) (propStep decls P (some n) true k (.prim ty true) s) := by
  have hq : propStep decls P (some n) true k (.prim ty true) s = propOther P (some n) true k (.prim ty true) s := by
    simp [propStep, Node.isRef, Node.isInlineObj, Node.core]
  rw [hq]
  have hpost := hP.enum (mapCtx n k) ty s R hpre hd
  generalize hqq : P (some (mapCtx n k)) (.prim ty true) true s = q at hpost
  obtain ⟨mid, sm⟩ := q
  have hty : ty.str ≠ sObject ∧ ty.str ≠ sArray := by cases ty <;> decide
  rw [propOther_ctx_eq P (some n) k (mapCtx n k) _ s mid sm ty.str (propCtxName_ctx n k _ hn rfl) hqq hpost.reg
    hpost.name hpost.full hpost.type (Or.inr ⟨hty.1, hty.2, hpost.enum⟩) rfl]
  obtain ⟨h1, h4, h5⟩ := holder_post _ s mid sm _ _ hpre.undeclared hpost
    { type := some (mapCtx n k), refersTo := some mid } rfl rfl
  exact ⟨h1, rfl, by simp [nodeKind, kfuel], Or.inr ⟨ty, rfl, h4, h5⟩⟩

theorem propStep_inner3 (hS : Simple3 decls rank) (hP : Spec3 decls rank P r)
    (par : Option Str) (k : Str) (p : Node) (s : PSt) (R : Nat)
    (h : innerProp3 (decls.map (·.1)) p = true) (c1 : innerCost3 rank p ≤ R) (c2 : innerCost3 rank p ≤ r)
    (c3 : s.tr.depth + innerCost3 rank p ≤ s.tr.maxDepth) (hw : WF3 decls rank s) (hk : TK3 decls rank s R) :
    PropPost3 decls rank [] s k p (propStep decls P par true k p s) := by
  rw [propStep_core decls P hP.core]
  unfold PropPost3
  rw [← nodeKind_core p]
  unfold innerCost3 at c1 c2 c3
  rcases innerProp3_cases _ p h with ⟨ty, e⟩ | ⟨t, e, hmem, hno, hne⟩ | ⟨i, e, hi⟩
  · rw [e]
    exact propStep_prim3 hP par k ty s hw
  · rw [e] at c1 c2 c3 ⊢
    simp only at c1 c2 c3
    exact propStep_ref3 hS hP par k t s hw (TK3.anti hk c1) hmem hno hne (by omega) (by omega)
  · rw [e] at c1 c2 c3 ⊢
    simp only at c1 c2 c3
    exact propStep_arr3 hP par k i s R hi (by omega) (by omega) (by omega) hw hk

/-- one round of `_parse_properties` on a non-empty key that has not occurred yet -/
theorem parseProps_fresh (decls : Decls) (P : PFn) (par : Option Str) {names : List Str} (k : Str) (p : Node)
    (rest done : List (Str × Node)) (acc : List (Str × Nat)) (s : PSt) (hkne : k ≠ [])
    (hnd : ((done ++ (k, p) :: rest).map (·.1)).Nodup) (hall : All2 (FieldK names s) (done.map toK) acc) :
    parseProps decls P par true ((k, p) :: rest) acc s =
      parseProps decls P par true rest (acc ++ [(k, (propStep decls P par true k p s).1)])
        (propStep decls P par true k p s).2 := by
  have hkemp : k.isEmpty = false := List.isEmpty_eq_false_iff.mpr hkne
  have hnotin : dHas k acc = false := by
    rw [dHas_iff_contains, hall.keys_eq (fun _ _ h => h.1)]
    cases hc : ((done.map toK).map (·.1)).contains k with
    | false => rfl
    | true =>
      have hmem : k ∈ done.map (·.1) := by
        have := List.contains_iff_mem.mp hc
        simpa [toK, List.map_map, Function.comp_def] using this
      simp only [List.map_append, List.map_cons] at hnd
      exact absurd rfl ((List.nodup_append.mp hnd).2.2 k hmem k (List.mem_cons_self ..))
  simp only [parseProps, hkemp, hnotin, Bool.or_self, Bool.false_eq_true, if_false]
  rw [dSet_of_not_has _ _ _ hnotin]

theorem parseProps_inner3 (hS : Simple3 decls rank) (hP : Spec3 decls rank P r)
    (par : Option Str) (R : Nat) :
    ∀ (rest done : List (Str × Node)) (acc : List (Str × Nat)) (s0 sc : PSt),
      (∀ kv ∈ rest, kv.1 ≠ [] ∧ innerProp3 (decls.map (·.1)) kv.2 = true ∧ innerCost3 rank kv.2 ≤ R ∧
          innerCost3 rank kv.2 ≤ r ∧ s0.tr.depth + innerCost3 rank kv.2 ≤ s0.tr.maxDepth) →
      ((done ++ rest).map (·.1)).Nodup →
      Good decls rank [] s0 sc → TK3 decls rank sc R →
      All2 (FieldK (decls.map (·.1)) sc) (done.map toK) acc →
      Good decls rank [] s0 (parseProps decls P par true rest acc sc).2 ∧
      All2 (FieldK (decls.map (·.1)) (parseProps decls P par true rest acc sc).2) ((done ++ rest).map toK)
        (parseProps decls P par true rest acc sc).1 := by
  intro rest
  induction rest with
  | nil =>
    intro done acc s0 sc _ _ hg _ hall
    simp only [parseProps, List.append_nil]
    exact ⟨hg, hall⟩
  | cons kv rest ih =>
    intro done acc s0 sc hrest hnd hg hk hall
    obtain ⟨k, p⟩ := kv
    obtain ⟨hkne, hinner, c1, c2, c3⟩ := hrest (k, p) (List.mem_cons_self ..)
    rw [parseProps_fresh decls P par k p rest done acc sc hkne hnd hall]
    obtain ⟨h1, h4⟩ := propStep_inner3 hS hP par k p sc R hinner c1 c2
      (by rw [hg.step.depth, hg.step.maxDepth]; exact c3) hg.wf hk
    have hall' : All2 (FieldK (decls.map (·.1)) (propStep decls P par true k p sc).2) ((done ++ [(k, p)]).map toK)
        (acc ++ [(k, (propStep decls P par true k p sc).1)]) := by
      rw [List.map_append]
      exact All2.snoc (All2.imp (fun a b hab => FieldK.step h1.step.toW a b hab) hall) h4
    have := ih (done ++ [(k, p)]) _ s0 _ (fun kv hkv => hrest kv (List.mem_cons_of_mem _ hkv))
      (by simpa [List.append_assoc] using hnd) (hg.trans h1) (h1.tk hk) hall'
    simpa [List.append_assoc] using this

/-- the loop over the properties of an inline object / inline `allOf` member, entered one level below `s` -/
theorem parseProps_innerOK (hS : Simple3 decls rank) (hP : Spec3 decls rank P r) (par : Option Str)
    {ps : List (Str × Node)} {s s0 : PSt} {R : Nat} (hin : innerOK3 decls rank ps s R (r + 1))
    (hd0 : s0.tr.depth = s.tr.depth + 1) (hm0 : s0.tr.maxDepth = s.tr.maxDepth) (hw : WF3 decls rank s0)
    (hk : TK3 decls rank s0 R) :
    Good decls rank [] s0 (parseProps decls P par true ps [] s0).2 ∧
    All2 (FieldK (decls.map (·.1)) (parseProps decls P par true ps [] s0).2) (ps.map toK)
      (parseProps decls P par true ps [] s0).1 := by
  obtain ⟨hprops, hnodup⟩ := innerProps3_inv _ ps hin.1
  have := parseProps_inner3 hS hP par R ps [] [] s0 s0
    (fun kv hkv => ⟨(hprops kv hkv).1, (hprops kv hkv).2, (hin.2.2 kv hkv).1, by have := (hin.2.2 kv hkv).2.1; omega, by
      have := (hin.2.2 kv hkv).2.2
      rw [hd0, hm0]
      omega⟩)
    (by simpa using hnodup) (Good.refl hw) hk .nil
  simpa using this

theorem parseStep_inlSpec3 (hS : Simple3 decls rank) (hP : Spec3 decls rank P r) :
    InlSpec3 decls rank (parseStep decls P) (r + 1) := by
  intro c ps req s R hpre hin hd
  obtain ⟨hk1, hw1⟩ := hpre.enter
  have hb := body_obj_eq decls P c ps req (afterEnter s c) hpre.ne hpre.san
  obtain ⟨l1, l5⟩ := parseProps_innerOK hS hP (some c) (s0 := afterEnter s c) hin rfl rfl hw1 hk1
  generalize hq : parseProps decls P (some c) true ps [] (afterEnter s c) = q at l1 l5 hb
  obtain ⟨fp, se⟩ := q
  exact ctx_close P hpre hd hb l1 rfl rfl rfl rfl rfl (fun h => absurd h (by decide))

theorem body_obj_anon_eq (decls : Decls) (P : PFn) (ps : List (Str × Node)) (req : List Str) (s : PSt) :
    body decls P none (.obj (some ps) req none) true s =
      (parseProps decls P none true ps [] s).2.alloc
        { type := some sObject, props := (parseProps decls P none true ps [] s).1, required := dedup req } := by
  simp [body, Node.core, truthy, mkIR, finish]

theorem parseStep_anonObjSpec3 (hS : Simple3 decls rank) (hP : Spec3 decls rank P r) :
    AnonObjSpec3 decls rank (parseStep decls P) (r + 1) := by
  intro ps req s R hw hk hin
  rw [parseStep_anon_eq, body_obj_anon_eq]
  obtain ⟨l1, l5⟩ := parseProps_innerOK hS hP none (s0 := anonIn s) hin rfl rfl hw.anonIn hk.anonIn
  generalize hq : parseProps decls P none true ps [] (anonIn s) = q at l1 l5
  obtain ⟨fp, se⟩ := q
  generalize hM : ({ type := some sObject, props := fp, required := dedup req } : IR) = M
  have hg : (se.alloc M).2.get se.heap.length = M := get_alloc _ _
  refine ⟨(l1.trans (Good.ext (s' := (se.alloc M).2) l1.wf [M] rfl rfl rfl (TrSame.rfl' _))).anon, ?_, ?_, ?_⟩
  · show se.heap.length < (se.heap ++ [M]).length
    simp
  · show All2 _ _ ((se.alloc M).2.get se.heap.length).props
    rw [hg]
    have hhs : HStepW se (anonOut (se.alloc M).2) := HStepW.of_ext [M] rfl rfl
    subst hM
    exact All2.imp (fun a b hab => FieldK.step hhs a b hab) l5
  · show ((se.alloc M).2.get se.heap.length).required = _
    rw [hg, ← hM]

theorem propInline_eq (P : PFn) (n k : Str) (p : Node) (s : PSt) (mid : Nat) (sm : PSt) (hk : k ≠ [])
    (hq : P (some (n ++ sanClass k)) p true s = (mid, sm))
    (hreg : dGet (n ++ sanClass k) sm.reg = some mid) (hname : (sm.get mid).name = some (n ++ sanClass k))
    (hfull : (sm.get mid).kind = .full) :
    propInline P (some n) true k p s =
      sm.alloc { name := some (sanClass k), type := some (n ++ sanClass k), refersTo := some mid } := by
  obtain ⟨f1, f2, _, f4⟩ := kind_full_flags hfull
  have hc : n ++ sanClass k ≠ [] := fun e => sanClass_ne_nil k (List.append_eq_nil_iff.mp e).2
  have hmk : mkIR { name := some k, type := some (n ++ sanClass k), refersTo := some mid } =
      { name := some (sanClass k), type := some (n ++ sanClass k), refersTo := some mid } := by
    simp [mkIR, truthy_of_ne k hk]
  have hreg' : ∀ H : IR, dGet (n ++ sanClass k) (sm.alloc H).2.reg = some mid := fun _ => hreg
  unfold propInline
  simp only [Option.getD_some, hq, hname, hmk, f1, f2, f4, Bool.not_false, Bool.and_self, if_true]
  have hkey : ∀ H : IR, regKey (sm.alloc H).2 (sm.get mid) (n ++ sanClass k) mid = n ++ sanClass k := by
    intro H
    unfold regKey
    simp [hname, truthy_of_ne _ hc, hreg' H]
  rw [hkey]
  unfold PSt.regSet
  rw [dSet_same _ _ _ (hreg' _)]

theorem propStep_inl3 (hP : Spec3 decls rank P r)
    (n k : Str) (ps : List (Str × Node)) (req : List Str) (s : PSt) (R : Nat) (hn : n ≠ []) (hk : k ≠ [])
    (hpre : CtxPre3 decls rank (n ++ sanClass k) s R) (hin : innerOK3 decls rank ps s R r)
    (hd : s.tr.depth + 1 ≤ s.tr.maxDepth) :
    PropPost3 decls rank [n ++ sanClass k] s k (.obj (some ps) req none)
      (propStep decls P (some n) true k (.obj (some ps) req none) s) := by
  have hq : propStep decls P (some n) true k (.obj (some ps) req none) s =
      propInline P (some n) true k (.obj (some ps) req none) s := by
    simp [propStep, Node.isRef, Node.isInlineObj, Node.core, truthy_of_ne n hn]
  rw [hq]
  have hpost := hP.inl (n ++ sanClass k) ps req s R hpre hin hd
  generalize hqq : P (some (n ++ sanClass k)) (.obj (some ps) req none) true s = q at hpost
  obtain ⟨mid, sm⟩ := q
  rw [propInline_eq P n k _ s mid sm hk hqq hpost.reg hpost.name hpost.full]
  obtain ⟨h1, h4, h5⟩ := holder_post _ s mid sm _ _ hpre.undeclared hpost
    { name := some (sanClass k), type := some (n ++ sanClass k), refersTo := some mid } rfl rfl
  exact ⟨h1, rfl, by simp [nodeKind, kfuel], Or.inl ⟨h4, h5⟩⟩

/-- one property of the declared schema `n`, by the cases of `simpleProp3`: the step registers at most its own context
    name `ctxOf3 n k p`, which `hctx` makes enterable (`CtxPre3`, the owner `n` being in progress) -/
theorem propStep_decl3 (hS : Simple3 decls rank) (hP : Spec3 decls rank P r) (n : Str) (nd : Node)
    (hmemd : (n, nd) ∈ decls) (hRr : rank n ≤ r) (k : Str) (p : Node) (sc : PSt) (hkne : k ≠ [])
    (hsimple : simpleProp3 (decls.map (·.1)) p = true) (hcost : propCostOK3 rank (rank n) p = true)
    (hw : WF3 decls rank sc) (hk : TK3 decls rank sc (rank n))
    (hsn : dGet n sc.tr.states = some .inProgress) (hdep : sc.tr.depth + rank n ≤ sc.tr.maxDepth)
    (hctx : ∀ c ∈ (ctxOf3 n k p).toList, c ∈ ctxs3 n nd ∧ dGet c sc.tr.states = none) :
    PropPost3 decls rank (ctxOf3 n k p).toList sc k p (propStep decls P (some n) true k p sc) := by
  obtain ⟨(hn : n ≠ []), _⟩ := hS.name (n, nd) hmemd
  have hpre : ∀ c ∈ (ctxOf3 n k p).toList, CtxPre3 decls rank c sc (rank n) := by
    intro c hc
    obtain ⟨hcin, hcst⟩ := hctx c hc
    obtain ⟨hcn, hcsan⟩ := hS.ctxFresh (n, nd) hmemd c hcin
    refine ⟨hcn, hcsan, ctxOf3_ne_nil (Option.mem_toList.mp hc), hw, hk, hcst, ?_⟩
    intro d hd hcd
    have := hS.ctxInj d hd (n, nd) hmemd c hcd hcin
    rw [this, hsn]
    exact fun x => by cases x
  rw [propStep_core decls P hP.core]
  unfold PropPost3
  rw [← nodeKind_core p]
  unfold propCostOK3 at hcost
  unfold ctxOf3 at hpre ⊢
  rcases simpleProp3_cases _ p hsimple with ⟨ty, e', e⟩ | ⟨t, e, hmem, hno, hne⟩ | ⟨i, e, hi⟩ | ⟨req, a, e, ha⟩ |
      ⟨ps, req, e, hps⟩
  · rw [e] at hcost hpre ⊢
    cases e' with
    | false => exact propStep_prim3 hP (some n) k ty sc hw
    | true =>
      have hc : 1 ≤ rank n := by simpa using hcost
      exact propStep_enum3 hP n k ty sc (rank n) hn (hpre _ (List.mem_singleton_self _)) (by omega)
  · rw [e] at hcost ⊢
    have hc : rank t + 1 ≤ rank n := by simpa using hcost
    exact propStep_ref3 hS hP (some n) k t sc hw (TK3.anti hk hc) hmem hno hne (by omega) (by omega)
  · rw [e] at hcost ⊢
    have hc : leafCost3 rank i + 1 ≤ rank n := by simpa using hcost
    exact propStep_arr3 hP (some n) k i sc (rank n) hi (by omega) (by omega) (by omega) hw hk
  · rw [e] at hcost hpre ⊢
    have hc : leafCost3 rank a + 1 ≤ rank n := by simpa using hcost
    exact propStep_map3 hP n k a req sc (rank n) hn (hpre _ (List.mem_singleton_self _)) ha (by omega) (by omega)
      (by omega)
  · rw [e] at hcost hpre ⊢
    have hc : 1 ≤ rank n ∧ ∀ kv ∈ ps, innerCost3 rank kv.2 + 1 ≤ rank n := by simpa using hcost
    refine propStep_inl3 hP n k ps req sc (rank n) hn hkne (hpre _ (List.mem_singleton_self _)) ⟨hps, by omega, ?_⟩
      (by omega)
    intro kv hkv
    have := hc.2 kv hkv
    exact ⟨by omega, by omega, by omega⟩

/-- the loop of `_parse_properties` on the declared schema `n`: `n` stays in progress, the context names of the remaining
    properties stay untouched (a step changes only its own, `Own3`), the fields parsed so far keep denoting -/
theorem parseProps_spec3 (hS : Simple3 decls rank) (hP : Spec3 decls rank P r) (n : Str) (nd : Node) (hmemd : (n, nd) ∈ decls) (hRr : rank n ≤ r) :
    ∀ (rest done : List (Str × Node)) (acc : List (Str × Nat)) (s0 sc : PSt),
      (∀ kv ∈ rest, kv.1 ≠ [] ∧ simpleProp3 (decls.map (·.1)) kv.2 = true ∧
          propCostOK3 rank (rank n) kv.2 = true) →
      (∀ c ∈ ctxsL3 n rest, c ∈ ctxs3 n nd) → (ctxsL3 n rest).Nodup →
      ((done ++ rest).map (·.1)).Nodup →
      Good decls rank (ctxs3 n nd) s0 sc → TK3 decls rank sc (rank n) →
      dGet n sc.tr.states = some .inProgress → s0.tr.depth + rank n ≤ s0.tr.maxDepth →
      (∀ c ∈ ctxsL3 n rest, dGet c sc.tr.states = none) →
      All2 (FieldK (decls.map (·.1)) sc) (done.map toK) acc →
      Good decls rank (ctxs3 n nd) s0 (parseProps decls P (some n) true rest acc sc).2 ∧
      All2 (FieldK (decls.map (·.1)) (parseProps decls P (some n) true rest acc sc).2) ((done ++ rest).map toK)
        (parseProps decls P (some n) true rest acc sc).1 := by
  intro rest
  induction rest with
  | nil =>
    intro done acc s0 sc _ _ _ _ hg _ _ _ _ hall
    simp only [parseProps, List.append_nil]
    exact ⟨hg, hall⟩
  | cons kv rest ih =>
    intro done acc s0 sc hrest hsub hcnd hnd hg hk hsn hdep hfree hall
    obtain ⟨k, p⟩ := kv
    obtain ⟨hkne, hsimple, hcost⟩ := hrest (k, p) (List.mem_cons_self ..)
    have hcons : ctxsL3 n ((k, p) :: rest) = (ctxOf3 n k p).toList ++ ctxsL3 n rest := by
      rw [ctxsL3_cons]
      cases ctxOf3 n k p <;> rfl
    rw [hcons] at hsub hcnd hfree
    rw [parseProps_fresh decls P (some n) k p rest done acc sc hkne hnd hall]
    have hdepc : sc.tr.depth + rank n ≤ sc.tr.maxDepth := by rw [hg.step.depth, hg.step.maxDepth]; exact hdep
    have hexin : ∀ c ∈ (ctxOf3 n k p).toList, c ∈ ctxs3 n nd := fun c hc => hsub c (List.mem_append_left _ hc)
    obtain ⟨h1, h4⟩ := propStep_decl3 hS hP n nd hmemd hRr k p sc hkne hsimple hcost
      hg.wf hk hsn hdepc (fun c hc => ⟨hexin c hc, hfree c (List.mem_append_left _ hc)⟩)
    have hsn' := h1.step.states_some hsn
    have hk' : TK3 decls rank (propStep decls P (some n) true k p sc).2 (rank n) := by
      refine TK3.step h1.step h1.own ?_ hk
      intro d hd c hc hin
      have := hS.ctxInj d hd (n, nd) hmemd c hc (hexin c hin)
      rw [this, hsn']
      exact fun x => by cases x
    have hrestsub : ∀ c ∈ ctxsL3 n rest, c ∈ ctxs3 n nd := fun c hc => hsub c (List.mem_append_right _ hc)
    have hfree' : ∀ c ∈ ctxsL3 n rest, dGet c (propStep decls P (some n) true k p sc).2.tr.states = none := by
      intro c hc
      by_cases hch : dGet c (propStep decls P (some n) true k p sc).2.tr.states = dGet c sc.tr.states
      · rw [hch]
        exact hfree c (List.mem_append_right _ hc)
      · -- had the state of `c` changed, its owner `n` would have been untouched before the step (`Own3`)
        have := (h1.own (n, nd) hmemd c (hrestsub c hc)
          (fun hin => (List.nodup_append.mp hcnd).2.2 c hin c hc rfl) hch).1
        rw [hsn] at this
        cases this
    have hall' : All2 (FieldK (decls.map (·.1)) (propStep decls P (some n) true k p sc).2) ((done ++ [(k, p)]).map toK)
        (acc ++ [(k, (propStep decls P (some n) true k p sc).1)]) := by
      rw [List.map_append]
      exact All2.snoc (All2.imp (fun a b hab => FieldK.step h1.step.toW a b hab) hall) h4
    have := ih (done ++ [(k, p)]) _ s0 _ (fun kv hkv => hrest kv (List.mem_cons_of_mem _ hkv)) hrestsub
      (List.nodup_append.mp hcnd).2.1
      (by simpa [List.append_assoc] using hnd) (hg.trans (h1.mono hexin)) hk' hsn' hdep hfree' hall'
    simpa [List.append_assoc] using this

/-- the object `id` carries the fields / required names the member node `part` of `m` denotes -/
def PartOK (decls : Decls) (rank : Str → Nat) (m : Str) (s : PSt) (part : Node) (id : Nat) : Prop :=
  id < s.heap.length ∧ ∃ F R, ShapeIs decls rank m part F R ∧
    All2 (FieldK (decls.map (·.1)) s) F (s.get id).props ∧ ∀ k, k ∈ (s.get id).required ↔ k ∈ R

theorem PartOK.step {decls : Decls} {rank : Str → Nat} {m : Str} {s s' : PSt} (h : Step s s') {part : Node} {id : Nat}
    (hp : PartOK decls rank m s part id) : PartOK decls rank m s' part id := by
  obtain ⟨h0, F, R, h1, h2, h3⟩ := hp
  refine ⟨Nat.lt_of_lt_of_le h0 h.heapLen, F, R, h1, ?_, ?_⟩
  · rw [h.heap id h0]
    exact All2.imp (fun a b hab => FieldK.step h.toW a b hab) h2
  · rw [h.heap id h0]
    exact h3

/-- the members of an `allOf`: a `$ref` member yields the registered model of its target (`WF3.obj`), an inline member
    an anonymous object (`AnonObjSpec3`); a member's object is not touched by the members after it (`PartOK.step`) -/
theorem parseList_spec3 (hS : Simple3 decls rank) (hP : Spec3 decls rank P r) (n : Str) (hRr : rank n ≤ r) :
    ∀ (parts : List Node) (sc : PSt),
      (∀ part ∈ parts, allOfPart3 (decls.map (·.1)) part = true ∧ partCostOK3 rank (rank n) part = true) →
      WF3 decls rank sc → TK3 decls rank sc (rank n) → sc.tr.depth + rank n ≤ sc.tr.maxDepth →
      Good decls rank [] sc (parseList P true parts sc).2 ∧
      All2 (PartOK decls rank n (parseList P true parts sc).2) parts (parseList P true parts sc).1 := by
  intro parts
  induction parts with
  | nil =>
    intro sc _ hw _ _
    exact ⟨Good.refl hw, .nil⟩
  | cons part rest ih =>
    intro sc hparts hw hk hdep
    obtain ⟨hpart, hcost⟩ := hparts part (List.mem_cons_self ..)
    obtain ⟨h1, h4⟩ : Good decls rank [] sc (P none part true sc).2 ∧
        PartOK decls rank n (P none part true sc).2 part (P none part true sc).1 := by
      rcases allOfPart3_cases _ part hpart with ⟨t, e, hmem, hno, hne⟩ | ⟨ps, req, e, hps⟩
      · subst e
        have hc : rank t + 2 ≤ rank n := by simpa [partCostOK3] using hcost
        obtain ⟨ndt, hndt⟩ := dGet_of_mem_keys decls t hmem
        obtain ⟨a1, a4⟩ := hP.ref t ndt sc (rank n) hndt hno hne (by omega) (by omega) (by omega) hw hk
        obtain ⟨alt, nd', F, R, b1, b2, _, b4, b5⟩ := (a1.wf.obj t _ a4).imp id (fun f => f hmem)
        rw [hndt] at b1
        cases b1
        exact ⟨a1, alt, F, R, shapeIs_ref hS.nodup n t ndt F R hndt hno (by omega) b2, b4, b5⟩
      · subst e
        have hc : 1 ≤ rank n ∧ ∀ kv ∈ ps, innerCost3 rank kv.2 + 1 ≤ rank n := by simpa [partCostOK3] using hcost
        obtain ⟨a1, a4, a5, a6⟩ := hP.anonObj ps req sc (rank n) hw hk ⟨hps, by omega, fun kv hkv => by
          have := hc.2 kv hkv
          exact ⟨by omega, by omega, by omega⟩⟩
        refine ⟨a1, a4, ps.map toK, req, shapeIs_obj n ps req none (innerProps3_inv _ ps hps).2, a5, ?_⟩
        intro k
        rw [a6, mem_dedup]
    simp only [parseList]
    obtain ⟨i1, i4⟩ := ih (P none part true sc).2 (fun p hp => hparts p (List.mem_cons_of_mem _ hp))
      h1.wf (h1.tk hk) (by rw [h1.step.depth, h1.step.maxDepth]; exact hdep)
    exact ⟨h1.trans i1, .cons (h4.step i1.step) i4⟩

theorem mergeKeyed_all2 {α β : Type} {R : (Str × α) → (Str × β) → Prop} (hkey : ∀ a b, R a b → b.1 = a.1)
    {B : List (Str × α)} {B' : List (Str × β)} (hB : All2 R B B') :
    ∀ {A : List (Str × α)} {A' : List (Str × β)}, All2 R A A' → All2 R (mergeKeyed A B) (mergeKeyed A' B') := by
  induction hB with
  | nil => intro A A' hA; exact hA
  | @cons a b l l' hab _ ih =>
    intro A A' hA
    rw [mergeKeyed_cons, mergeKeyed_cons]
    have hd : dHas b.1 A' = dHas a.1 A := by
      rw [dHas_iff_contains, dHas_iff_contains, hA.keys_eq hkey, hkey a b hab]
    rw [hd]
    cases dHas a.1 A with
    | true => exact ih hA
    | false => exact ih (All2.snoc hA hab)

theorem mergeParts_cons (s : PSt) (id : Nat) (rest : List Nat) (mp : List (Str × Nat)) (mr : List Str) :
    mergeParts s (id :: rest) mp mr =
      mergeParts s rest (mergeKeyed mp (s.get id).props) (unionInto mr (s.get id).required) := rfl

theorem mergeParts_spec (names : List Str) (s : PSt) {FRs : List (List (Str × Kind) × List Str)} {comps : List Nat}
    (h : All2 (fun fr id => All2 (FieldK names s) fr.1 (s.get id).props ∧ ∀ k, k ∈ (s.get id).required ↔ k ∈ fr.2)
      FRs comps) :
    ∀ (mp : List (Str × Nat)) (mr : List Str) (F0 : List (Str × Kind)) (R0 : List Str),
      All2 (FieldK names s) F0 mp → (∀ k, k ∈ mr ↔ k ∈ R0) →
      All2 (FieldK names s) (FRs.foldl (fun acc r => mergeKeyed acc r.1) F0) (mergeParts s comps mp mr).1 ∧
      ∀ k, k ∈ (mergeParts s comps mp mr).2 ↔ k ∈ FRs.foldl (fun acc r => unionInto acc r.2) R0 := by
  induction h with
  | nil =>
    intro mp mr F0 R0 h1 h2
    exact ⟨h1, h2⟩
  | @cons fr id l l' hab _ ih =>
    intro mp mr F0 R0 h1 h2
    rw [mergeParts_cons]
    simp only [List.foldl_cons]
    refine ih _ _ _ _ (mergeKeyed_all2 (fun a b hab => hab.1) hab.1 h1) ?_
    intro k
    rw [mem_unionInto, mem_unionInto, h2 k, hab.2 k]

theorem body_allOf_eq (decls : Decls) (P : PFn) (n : Str) (parts : List Node) (req : List Str) (s : PSt)
    (hn : n ≠ []) (hsan : sanClass n = n) :
    body decls P (some n) (.allOf parts [] req) true s =
      finish decls (some n)
        ((parseList P true parts s).2.alloc
          { name := some n, type := some sObject,
            props := (mergeParts (parseList P true parts s).2 (parseList P true parts s).1 [] (dedup req)).1,
            required := (mergeParts (parseList P true parts s).2 (parseList P true parts s).1 [] (dedup req)).2,
            allOf := some (parseList P true parts s).1 }).1
        ((parseList P true parts s).2.alloc
          { name := some n, type := some sObject,
            props := (mergeParts (parseList P true parts s).2 (parseList P true parts s).1 [] (dedup req)).1,
            required := (mergeParts (parseList P true parts s).2 (parseList P true parts s).1 [] (dedup req)).2,
            allOf := some (parseList P true parts s).1 }).2 := by
  simp [body, Node.core, truthy_of_ne n hn, hsan, mkIR_named n hn hsan, parseOwn]

theorem partOK_extract (n : Str) (se : PSt) {parts : List Node} {comps : List Nat}
    (h : All2 (PartOK decls rank n se) parts comps) :
    ∃ FRs : List (List (Str × Kind) × List Str), All2 (fun part fr => ShapeIs decls rank n part fr.1 fr.2) parts FRs ∧
      All2 (fun fr id => All2 (FieldK (decls.map (·.1)) se) fr.1 (se.get id).props ∧
        ∀ k, k ∈ (se.get id).required ↔ k ∈ fr.2) FRs comps := by
  induction h with
  | nil => exact ⟨[], .nil, .nil⟩
  | @cons a b l l' hab _ ih =>
    obtain ⟨FRs, i1, i2⟩ := ih
    obtain ⟨_, F, R, b1, b2, b3⟩ := hab
    exact ⟨(F, R) :: FRs, .cons b1 i1, .cons ⟨b2, b3⟩ i2⟩

theorem body_arr_named_eq3 (decls : Decls) (P : PFn) (hC : CoreInv P) (n : Str) (i : Node) (s : PSt) (hn : n ≠ [])
    (hsan : sanClass n = n) (h : leaf3 (decls.map (·.1)) i = true) :
    body decls P (some n) (.arr i) true s =
      finish decls (some n) (arrItems P i.core (fun x => { name := some n, type := some sArray, items := some x }) s).1
        (arrItems P i.core (fun x => { name := some n, type := some sArray, items := some x }) s).2 := by
  simp [body, Node.core, truthy_of_ne n hn, hsan, parseItems_leaf3 _ P hC _ i _ h, mkIR_named n hn hsan, arrItems]

/-- the common end of the cases of `parseStep_spec3`: the object `model`, allocated on top of `se`, carries the fields
    `F` and the required names `R` that `shape` computes for `nd` -/
theorem spec_finish3 (hS : Simple3 decls rank) (P : PFn) {n : Str} {nd : Node}
    (hget : dGet n decls = some nd) {s se sa : PSt} {model : IR} {extra : List IR}
    (hstate : dGet n s.tr.states = none) (hk : TK3 decls rank s (rank n + 1)) (hd : s.tr.depth + 1 ≤ s.tr.maxDepth)
    (hb : body decls P (some n) nd true (afterEnter s n) = finish decls (some n) se.heap.length sa)
    (hl : Good decls rank (ctxs3 n nd) (afterEnter s n) se)
    (hah : sa.heap = se.heap ++ model :: extra) (har : sa.reg = se.reg) (hao : sa.oom = se.oom)
    (hat : TrSame se.tr sa.tr) (hname : model.name = some n) {F : List (Str × Kind)} {R : List Str}
    (hshape : ShapeIs decls rank n nd F R) (hfull : model.kind = .full)
    (hF : All2 (FieldK (decls.map (·.1)) se) F model.props) (hR : ∀ k, k ∈ model.required ↔ k ∈ R) :
    Post3 decls rank s n (parseStep decls P (some n) nd true s) := by
  have hmemd := mem_of_dGet decls n nd hget
  obtain ⟨hn, hsan⟩ := hS.name (n, nd) hmemd
  have hnmem : n ∈ decls.map (·.1) := List.mem_map.mpr ⟨(n, nd), hmemd, rfl⟩
  obtain ⟨sf, heq, hst, hhs, hfheap, hfreg, hfstates, hfget⟩ :=
    named_close decls rank P n nd s se sa _ model extra hn hk hstate hd hb hl.step hah har hao hat hname
      (fun _ _ _ _ => dHas_of_mem decls (n, nd) hmemd)
  rw [heq]
  have hm : ModelOK3 decls rank sf n se.heap.length :=
    ⟨nd, F, R, hget, hshape, by rw [hfget]; exact hfull,
      by rw [hfget]; exact All2.imp (fun a b hab => FieldK.step hhs a b hab) hF, by rw [hfget]; exact hR⟩
  refine ⟨⟨hst, ?_, WF3.close hl.wf hhs hfreg hfheap (fun _ => hm)⟩, by
    show dGet n sf.reg = _; rw [hfreg, dGet_dSet_self]⟩
  refine own_close3 hfstates hl.own ?_
  intro d hd k hk' _
  refine ⟨fun e => (hS.ctxFresh d hd k hk').1 (e ▸ hnmem), ?_⟩
  intro hin
  have := hS.ctxInj d hd (n, nd) hmemd k hk' hin
  exact ⟨by rw [this]; exact hstate, this⟩

/-- `_parse_schema` on a declared schema of the fragment: `SpecP3` one rank up. -/
theorem parseStep_spec3 (hS : Simple3 decls rank) (hP : Spec3 decls rank P r) : SpecP3 decls rank (parseStep decls P) (r + 1) := by
  intro n nd s hget hr hpre
  obtain ⟨hw, hk, hnreg, hdep⟩ := hpre
  have hmem := mem_of_dGet decls n nd hget
  have hnmem : n ∈ decls.map (·.1) := List.mem_map.mpr ⟨(n, nd), hmem, rfl⟩
  obtain ⟨(hn : n ≠ []), (hsan : sanClass n = n)⟩ := hS.name (n, nd) hmem
  have hstate : dGet n s.tr.states = none := by
    rcases hk.2.2.1 n with ⟨a, _⟩ | ⟨_, b⟩ | ⟨_, b, _⟩
    · exact a
    · rw [hnreg] at b; cases b
    · have := b hnmem; omega
  have hd1 : s.tr.depth + 1 ≤ s.tr.maxDepth := by omega
  obtain ⟨_, h1depth, h1max, _, h1states, h1heap, h1reg, _⟩ := afterEnter_facts s n
  have hk1 : TK3 decls rank (afterEnter s n) (rank n) :=
    TK3.afterEnter (hk.anti (Nat.le_succ _)) hstate (fun _ => Nat.le_refl _)
      (fun d hd k hk' e => absurd (e ▸ hnmem) (hS.ctxFresh d hd k hk').1)
  have hw1 : WF3 decls rank (afterEnter s n) := WF3.congr h1heap h1reg hw
  have hdep1 : (afterEnter s n).tr.depth + rank n ≤ (afterEnter s n).tr.maxDepth := by rw [h1depth, h1max]; omega
  have hcosts := hS.cost (n, nd) hmem
  simp only at hcosts
  rcases simpleNode3_inv _ nd (hS.node (n, nd) hmem) with ⟨ps, req, e, hprops, hnodup⟩ | ⟨i, e, hi⟩ | ⟨ty, en, e⟩ |
      ⟨parts, req, e, hparts⟩
  · subst e
    have hb := body_obj_eq decls P n ps req (afterEnter s n) hn hsan
    have hcostp : ∀ kv ∈ ps, propCostOK3 rank (rank n) kv.2 = true := by
      simpa [nodeCostOK3] using hcosts
    have hfree : ∀ c ∈ ctxsL3 n ps, dGet c (afterEnter s n).tr.states = none := by
      intro c hc
      have hcn : c ≠ n := fun e => (hS.ctxFresh (n, _) hmem c hc).1 (by rw [e]; exact hnmem)
      rw [h1states, dGet_dSet_ne _ _ _ _ hcn]
      -- a touched context name would have a touched owner
      exact Decidable.byContradiction fun h => hk.2.2.2 (n, _) hmem c hc h hstate
    obtain ⟨hl1, hl4⟩ := parseProps_spec3 hS hP n _ hmem (by omega) ps [] []
      (afterEnter s n) (afterEnter s n) (fun kv hkv => ⟨(hprops kv hkv).1, (hprops kv hkv).2, hcostp kv hkv⟩)
      (fun c hc => hc) (hS.ctxNodup (n, _) hmem) (by simpa using hnodup) (Good.refl hw1) hk1
      (by rw [h1states, dGet_dSet_self]) hdep1 hfree .nil
    generalize hq : parseProps decls P (some n) true ps [] (afterEnter s n) = q at hl1 hl4 hb
    obtain ⟨fp, se⟩ := q
    simp only [List.nil_append] at hl1 hl4
    exact spec_finish3 hS P hget hstate hk hd1 hb hl1 rfl rfl rfl (TrSame.rfl' _) rfl
      (shapeIs_obj n ps req none hnodup) rfl hl4 (mem_dedup req)
  · subst e
    have hb := body_arr_named_eq3 decls P hP.core n i (afterEnter s n) hn hsan hi
    have hcosts : leafCost rank i.core ≤ rank n := by
      simp only [nodeCostOK3, leafCost3] at hcosts
      exact of_decide_eq_true hcosts
    obtain ⟨se, sd, x, extra, e, l1, hh, hrg, ho, ht, _⟩ := arrItems_spec hS hP
      i.core hi (fun x => { name := some n, type := some sArray, items := some x }) (fun _ _ => rfl) (afterEnter s n)
      (rank n) (by omega) hcosts (by omega) hw1 hk1
    rw [e] at hb
    exact spec_finish3 hS P hget hstate hk hd1 hb (l1.mono (fun c hc => by cases hc))
      hh hrg ho ht rfl (shapeIs_arr n i) rfl .nil (fun _ => Iff.rfl)
  · subst e
    exact spec_finish3 hS P hget hstate hk hd1 (body_prim_named_eq3 decls P n ty en _ hn hsan) (Good.refl hw1)
      rfl rfl rfl (TrSame.rfl' _) rfl (shapeIs_prim n ty en) rfl .nil (fun _ => Iff.rfl)
  · subst e
    have hb := body_allOf_eq decls P n parts req (afterEnter s n) hn hsan
    have hcostp : ∀ part ∈ parts, partCostOK3 rank (rank n) part = true := by
      simpa [nodeCostOK3] using hcosts
    obtain ⟨hl1, hl4⟩ := parseList_spec3 hS hP n (by omega) parts
      (afterEnter s n) (fun p hp => ⟨hparts p hp, hcostp p hp⟩) hw1 hk1 hdep1
    generalize hq : parseList P true parts (afterEnter s n) = q at hl1 hl4 hb
    obtain ⟨comps, se⟩ := q
    simp only at hl1 hl4 hb
    obtain ⟨FRs, hshapes, hobjs⟩ := partOK_extract n se hl4
    obtain ⟨hm1, hm2⟩ := mergeParts_spec (decls.map (·.1)) se hobjs [] (dedup req) [] (dedup req) .nil (fun _ => Iff.rfl)
    generalize hmp : mergeParts se comps [] (dedup req) = mm at hm1 hm2 hb
    obtain ⟨mp, mr⟩ := mm
    exact spec_finish3 hS P hget hstate hk hd1 hb (hl1.mono (fun c hc => by cases hc)) rfl rfl rfl (TrSame.rfl' _) rfl
      (shapeIs_allOf n parts req FRs hshapes) rfl hm1 hm2

theorem parse_spec3 (hS : Simple3 decls rank) (f : Nat) :
    Spec3 decls rank (parse decls (f + 1)) f := by
  induction f with
  | zero =>
    refine ⟨parse_coreInv decls 1, parseStep_primSpecE decls _, parseStep_refHit decls _, ?_, ?_, ?_, ?_,
      parseStep_enumSpec3 _, ?_, ?_⟩
    · intro n nd s _ hr
      exact absurd hr (Nat.not_lt_zero _)
    · intro t nd s R _ _ _ hr
      exact absurd hr (Nat.not_lt_zero _)
    · intro i s R _ hr
      exact absurd hr (Nat.not_lt_zero _)
    · intro c a req s R _ _ hr
      exact absurd hr (Nat.not_lt_zero _)
    · intro c ps req s R _ hin
      exact absurd hin.2.1 (Nat.lt_irrefl _)
    · intro ps req s R _ _ hin
      exact absurd hin.2.1 (Nat.lt_irrefl _)
  | succ f ih =>
    exact ⟨parse_coreInv decls _, parseStep_primSpecE decls _, parseStep_refHit decls _,
      parseStep_spec3 hS ih,
      parseStep_refSpec3 ih,
      parseStep_arrSpec3 hS ih,
      parseStep_mapSpec3 ih,
      parseStep_enumSpec3 _,
      parseStep_inlSpec3 hS ih,
      parseStep_anonObjSpec3 hS ih⟩

end Pog.Prs
