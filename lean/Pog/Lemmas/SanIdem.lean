import Pog.Lemmas.Names
/-
  `NameSanitizer.sanitize_method_name` is idempotent.

  The emitted endpoint method sanitises a parameter name TWICE for the signature and the dict
  displays (`sanitize_method_name(p["name"])` where `p["name"]` is already sanitised) but only ONCE
  for the `{var}` substitution in the URL f-string; idempotence is what makes both spellings agree.
-/
namespace Pog

/-- `[a-z0-9_]` -/
def lowId (c : Char) : Bool := isLowerA c || isDigitA c || c == '_'

theorem lowId_lowerA {c : Char} (h : isIdChar c = true) : lowId (lowerA c) = true := by
  unfold lowId; char_arith
theorem lowId_idChar {c : Char} (h : lowId c = true) : isIdChar c = true := by
  simp only [lowId, Bool.or_eq_true] at h
  rcases h with (h | h) | h <;> simp [isIdChar, isAlnumA, isAlphaA, h]
theorem lowId_not_upper {c : Char} (h : lowId c = true) : isUpperA c = false := by
  unfold lowId at h; char_arith
theorem lowId_lowerA_id {c : Char} (h : lowId c = true) : lowerA c = c := by
  unfold lowerA; rw [lowId_not_upper h]; rfl
theorem lowId_us : lowId '_' = true := by decide
theorem lowId_of_digit {c : Char} (h : isDigitA c = true) : lowId c = true := by
  simp [lowId, h]
theorem lowerA_eq_us {c : Char} (h : lowerA c = '_') : c = '_' := by
  have := congrArg Char.toNat h
  rw [lowerA_toNat] at this
  rw [eq_us_iff]
  have h95 : ('_' : Char).toNat = 95 := rfl
  rw [h95] at this
  split at this <;> omega

theorem dropBraces_of_idChar {t : Str} (h : t.all isIdChar = true) : dropBraces t = t := by
  unfold dropBraces
  rw [List.filter_eq_self]
  intro c hc
  have h1 := List.all_eq_true.1 h c hc
  have : c ≠ '{' ∧ c ≠ '}' := by
    constructor <;> (intro hc; subst hc; revert h1; decide)
  simp [this.1, this.2]

theorem camelSplit1_noUpper : ∀ (t : Str) (prev : Option Char), t.all (fun c => !isUpperA c) = true →
    camelSplit1 prev t = t := by
  intro t
  induction t with
  | nil => intro _ _; rfl
  | cons c cs ih =>
    intro prev h
    simp only [List.all_cons, Bool.and_eq_true, Bool.not_eq_true'] at h
    unfold camelSplit1
    simp only [h.1, Bool.and_false]
    cases prev <;> simp [ih _ h.2]

theorem camelSplit2_noUpper : ∀ (t : Str) (b : Bool), t.all (fun c => !isUpperA c) = true →
    camelSplit2 b t = t := by
  intro t
  induction t with
  | nil => intro _ _; rfl
  | cons c cs ih =>
    intro b h
    simp only [List.all_cons, Bool.and_eq_true, Bool.not_eq_true'] at h
    unfold camelSplit2
    simp only [h.1, Bool.and_false, Bool.false_and, Bool.false_eq_true, if_false]
    rw [ih false h.2]

theorem nonId_of_idChar {t : Str} (h : t.all isIdChar = true) : nonIdToUnderscore t = t := by
  unfold nonIdToUnderscore
  induction t with
  | nil => rfl
  | cons c cs ih =>
    simp only [List.all_cons, Bool.and_eq_true] at h
    simp [h.1, ih h.2]

theorem noUpper_of_lowId {s : Str} (h : s.all lowId = true) : s.all (fun c => !isUpperA c) = true :=
  all_imp (fun c hc => by rw [lowId_not_upper hc]; rfl) h

theorem mapLower_id {s : Str} (h : s.all lowId = true) : s.map lowerA = s := by
  induction s with
  | nil => rfl
  | cons c cs ih =>
    simp only [List.all_cons, Bool.and_eq_true] at h
    simp [lowId_lowerA_id h.1, ih h.2]

def us2 : Str := ['_', '_']

/-- `__` does not occur. -/
def NoDbl (s : Str) : Prop := ¬ us2 <:+: s

theorem NoDbl.of_infix {s t : Str} (h : NoDbl t) (hi : s <:+: t) : NoDbl s :=
  fun hs => h (hs.trans hi)

theorem noDbl_of_short {s : Str} (h : s.length < 2) : NoDbl s := fun hi => by
  have := hi.length_le
  simp only [us2, List.length_cons, List.length_nil] at this
  omega

theorem noDbl_cons {c : Char} {s : Str} (hs : NoDbl s) (hc : c ≠ '_' ∨ s.head? ≠ some '_') : NoDbl (c :: s) := by
  intro h
  rcases List.infix_cons_iff.mp h with hp | hi
  · -- `__` is a prefix: `c` and the head of `s` are both `_`
    obtain ⟨rfl, hp'⟩ := List.cons_prefix_cons.1 hp
    cases s with
    | nil => simp at hp'
    | cons d ds =>
      obtain ⟨rfl, _⟩ := List.cons_prefix_cons.1 hp'
      exact hc.elim (fun h => h rfl) (fun h => h rfl)
  · exact hs hi

theorem collapse_head? (d : Char) (rest : Str) : (collapseUnderscores (d :: rest)).head? = some d := by
  induction rest generalizing d with
  | nil => rfl
  | cons e es ih =>
    unfold collapseUnderscores
    split
    · rename_i h
      simp only [Bool.and_eq_true, beq_iff_eq] at h
      rw [ih, h.1, h.2]
    · rfl

theorem collapse_noDbl (s : Str) : NoDbl (collapseUnderscores s) := by
  fun_induction collapseUnderscores s with
  | case1 => exact noDbl_of_short (by simp)
  | case2 c => exact noDbl_of_short (by simp)
  | case3 c d rest h ih => exact ih
  | case4 c d rest h ih =>
    refine noDbl_cons ih ?_
    rw [collapse_head?]
    simp only [Bool.and_eq_true, beq_iff_eq, not_and] at h
    simp only [ne_eq, Option.some.injEq]
    exact Decidable.not_or_of_imp h

theorem collapse_id {s : Str} (h : NoDbl s) : collapseUnderscores s = s := by
  fun_induction collapseUnderscores s with
  | case1 => rfl
  | case2 c => rfl
  | case3 c d rest hcd ih =>
    exfalso
    simp only [Bool.and_eq_true, beq_iff_eq] at hcd
    obtain ⟨rfl, rfl⟩ := hcd
    exact h ⟨[], rest, rfl⟩
  | case4 c d rest hcd ih =>
    rw [ih (h.of_infix (List.infix_cons (List.infix_refl _)))]

/-- What `methodCore` produces. -/
structure Clean (m : Str) : Prop where
  all : m.all lowId = true
  nd : NoDbl m
  lead : m.head? ≠ some '_'
  trail : m.getLast? ≠ some '_'

theorem noDbl_map_lower {s : Str} (h : NoDbl s) : NoDbl (s.map lowerA) := by
  rintro ⟨a, b, hab⟩
  rw [List.append_assoc] at hab
  obtain ⟨l₁, l₂, rfl, _, h2⟩ := List.map_eq_append_iff.mp hab.symm
  obtain ⟨m₁, m₂, rfl, h3, _⟩ := List.map_eq_append_iff.mp h2
  -- `m₁` is mapped to `__`, and only `_` is mapped to `_`
  obtain ⟨x, r, rfl, hx, hr⟩ := List.map_eq_cons_iff.mp h3
  obtain ⟨y, r', rfl, hy, hr'⟩ := List.map_eq_cons_iff.mp hr
  obtain rfl := List.map_eq_nil_iff.mp hr'
  obtain rfl := lowerA_eq_us hx
  obtain rfl := lowerA_eq_us hy
  exact h ⟨l₁, m₂, List.append_assoc _ _ _⟩

theorem map_lowerA_ne_us {o : Option Char} (h : o ≠ some '_') : o.map lowerA ≠ some '_' := by
  cases o with
  | none => simp
  | some c => simpa using fun e => h (by rw [lowerA_eq_us e])

theorem methodCore_clean (s : Str) : Clean (methodCore s) := by
  rw [methodCore_eq]
  refine ⟨?_, noDbl_map_lower ((collapse_noDbl _).of_infix (stripC_infix _)), ?_, ?_⟩
  · rw [List.all_map]
    exact all_imp (fun _ => lowId_lowerA) (all_stripC '_' _ _ (methodPre_all s))
  · rw [List.head?_map]
    exact map_lowerA_ne_us (stripC_lead _)
  · rw [List.getLast?_map]
    exact map_lowerA_ne_us (rstripC_last _ _)

theorem methodCore_of_lowId {x : Str} (h : x.all lowId = true) (hnd : NoDbl x) :
    methodCore x = stripC '_' x := by
  rw [methodCore_eq]
  unfold methodPre
  have hid := all_imp (fun _ => lowId_idChar) h
  rw [dropBraces_of_idChar hid, camelSplit1_noUpper _ _ (noUpper_of_lowId h),
    camelSplit2_noUpper _ _ (noUpper_of_lowId h), nonId_of_idChar hid, collapse_id hnd]
  exact mapLower_id (all_stripC '_' lowId x h)

/-- The mirror image of `noDbl_cons`. -/
theorem noDbl_append_us {m : Str} (h : NoDbl m) (ht : m.getLast? ≠ some '_') : NoDbl (m ++ ['_']) := by
  have rev : ∀ s : Str, NoDbl s.reverse ↔ NoDbl s := fun _ => not_congr (List.reverse_infix (l₁ := us2))
  rw [← rev, List.reverse_append, List.reverse_singleton, List.singleton_append]
  exact noDbl_cons ((rev m).2 h) (.inr (by rwa [List.head?_reverse]))

/-- The digit guard of a clean `m`: still `[a-z0-9_]*` without `__` and without trailing `_`, and stripping gives `m` back. -/
theorem digitGuard_clean {m : Str} (hm : Clean m) :
    (digitGuard m).all lowId = true ∧ NoDbl (digitGuard m) ∧ (digitGuard m).getLast? ≠ some '_' ∧
      stripC '_' (digitGuard m) = m := by
  have hstrip : stripC '_' m = m := by
    unfold stripC
    rw [lstripC_id_of_head hm.lead, rstripC_id_of_last hm.trail]
  rcases digitGuard_cases m with h | h
  · rw [h]; exact ⟨hm.all, hm.nd, hm.trail, hstrip⟩
  · rw [h, stripC_cons_self]
    refine ⟨by simp [lowId_us, hm.all], noDbl_cons hm.nd (.inr hm.lead), ?_, hstrip⟩
    cases m with
    | nil => cases h
    | cons d ds => rw [List.getLast?_cons_cons]; exact hm.trail

/-- `methodCore ∘ methodPost` is the identity on the image of `methodCore`: the guard and the suffix only add `_` at the ends. -/
theorem methodCore_methodPost {m : Str} (hm : Clean m) : methodCore (methodPost m) = m := by
  obtain ⟨hall, hnd, hlast, hstrip⟩ := digitGuard_clean hm
  unfold methodPost
  split
  · rw [methodCore_of_lowId (by simp [hall, lowId_us]) (noDbl_append_us hnd hlast), stripC_append_self, hstrip]
  · rw [methodCore_of_lowId hall hnd, hstrip]

/-- `NameSanitizer.sanitize_method_name` is idempotent — for every string. -/
theorem sanMethod_idempotent (s : Str) : sanMethod (sanMethod s) = sanMethod s := by
  rw [sanMethod_eq s, sanMethod_eq (methodPost (methodCore s)), methodCore_methodPost (methodCore_clean s)]

end Pog
