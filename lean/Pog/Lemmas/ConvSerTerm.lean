import Pog.Lemmas.ConvSer
/-
  C16 `serializer_terminates`: on EVERY heap — cyclic or not — both cattrs behind the cycle guard (`hUnstr`) and
  `DataclassSerializer.serialize` (`serF`) finish within some budget, for every registry.
  The measure is the number of heap objects that are not in the guard set (`freeCount`): every container the walk
  enters is added to the set, and an object of the set is never entered again.
  Everything is phrased with `Eventually P` = "∃ N, ∀ fuel ≥ N, P fuel", so that no explicit bound is needed.
-/
namespace Pog

def Eventually (P : Nat → Prop) : Prop := ∃ N, ∀ fuel, N ≤ fuel → P fuel

theorem Eventually.and {P Q : Nat → Prop} (hP : Eventually P) (hQ : Eventually Q) : Eventually (fun fuel => P fuel ∧ Q fuel) := by
  obtain ⟨N1, h1⟩ := hP
  obtain ⟨N2, h2⟩ := hQ
  exact ⟨max N1 N2, fun fuel hf => ⟨h1 fuel (by omega), h2 fuel (by omega)⟩⟩

theorem eventually_forall_mem {α : Type} (xs : List α) (P : α → Nat → Prop)
    (h : ∀ x ∈ xs, Eventually (P x)) : Eventually (fun fuel => ∀ x ∈ xs, P x fuel) := by
  induction xs with
  | nil => exact ⟨0, fun _ _ x hx => by cases hx⟩
  | cons x xs ih =>
    obtain ⟨N, hN⟩ := (h x (by simp)).and (ih (fun y hy => h y (by simp [hy])))
    refine ⟨N, fun fuel hf y hy => ?_⟩
    rcases List.mem_cons.mp hy with rfl | hm
    · exact (hN fuel hf).1
    · exact (hN fuel hf).2 y hm

theorem eventually_one (P : Nat → Prop) (h : ∀ n, P (n + 1)) : Eventually P :=
  ⟨1, fun fuel hf => by obtain ⟨n, rfl⟩ : ∃ n, fuel = n + 1 := ⟨fuel - 1, by omega⟩; exact h n⟩

theorem eventually_succ (P Q : Nat → Prop) (hQ : Eventually Q) (h : ∀ n, Q n → P (n + 1)) : Eventually P := by
  obtain ⟨N, hN⟩ := hQ
  exact ⟨N + 1, fun fuel hf => by
    obtain ⟨n, rfl⟩ : ∃ n, fuel = n + 1 := ⟨fuel - 1, by omega⟩
    exact h n (hN n (by omega))⟩

/-! ## the loops hand on the errors of their steps and add none -/

/-- An error that is not the budget's, raised again at another type. -/
theorem reraise_ne_fuel {α β : Type} {r : Except UErr α} {e : UErr} (hr : r ≠ .error .fuel) (h : r = .error e) :
    (Except.error e : Except UErr β) ≠ .error .fuel :=
  fun he => hr (h.trans (congrArg Except.error (Except.error.inj he)))

theorem mapE_ne_fuel {α β : Type} (f : α → Except UErr β) (xs : List α) (h : ∀ x ∈ xs, f x ≠ .error .fuel) :
    mapE f xs ≠ .error .fuel := by
  induction xs with
  | nil => nofun
  | cons x xs ih =>
    cases hfx : f x with
    | error e => simp only [mapE, hfx]; exact reraise_ne_fuel (h x (by simp)) hfx
    | ok y =>
      cases hm : mapE f xs with
      | error e => simp only [mapE, hfx, hm]; exact reraise_ne_fuel (ih fun y hy => h y (by simp [hy])) hm
      | ok ys => simp only [mapE, hfx, hm]; nofun

theorem mapValsE_ne_fuel {α β : Type} (f : α → Except UErr β) (kvs : List (Str × α))
    (h : ∀ kv ∈ kvs, f kv.2 ≠ .error .fuel) : mapValsE f kvs ≠ .error .fuel := by
  induction kvs with
  | nil => nofun
  | cons kv rest ih =>
    cases hfx : f kv.2 with
    | error e => simp only [mapValsE, hfx]; exact reraise_ne_fuel (h kv (by simp)) hfx
    | ok y =>
      cases hm : mapValsE f rest with
      | error e => simp only [mapValsE, hfx, hm]; exact reraise_ne_fuel (ih fun y hy => h y (by simp [hy])) hm
      | ok ys => simp only [mapValsE, hfx, hm]; nofun

theorem hUnstrFields_ne_fuel (rec : Ty → HVal → Except UErr PV) (cd : ClassDecl) (useDump : Bool)
    (attrs : List (Str × HVal)) (fs : List Field)
    (h : ∀ f ∈ fs, ∀ v, aget attrs f.pyName = some v → rec f.ty v ≠ .error .fuel) :
    hUnstrFields rec cd useDump attrs fs ≠ .error .fuel := by
  induction fs with
  | nil => nofun
  | cons f fs ih =>
    cases ha : aget attrs f.pyName with
    | none => simp only [hUnstrFields, ha]; nofun
    | some v =>
      cases hr : rec f.ty v with
      | error e => simp only [hUnstrFields, ha, hr]; exact reraise_ne_fuel (h f (by simp) v ha) hr
      | ok j =>
        cases hm : hUnstrFields rec cd useDump attrs fs with
        | error e =>
          simp only [hUnstrFields, ha, hr, hm]
          exact reraise_ne_fuel (ih fun g hg => h g (by simp [hg])) hm
        | ok rest => simp only [hUnstrFields, ha, hr, hm]; nofun

theorem exceptMap_ne_fuel {α β : Type} (f : α → β) (r : Except UErr α) (h : r ≠ .error .fuel) :
    r.map f ≠ .error .fuel := by
  cases r with
  | error e => exact reraise_ne_fuel h rfl
  | ok x => nofun

theorem hIdentity_ne_fuel (heap : Heap) (v : HVal) : hIdentity heap v ≠ .error .fuel := by
  unfold hIdentity
  repeat' split
  all_goals nofun

theorem hUnstrLeaf_ne_fuel (c : Codecs) (heap : Heap) (l : Leaf) (v : HVal) : hUnstrLeaf c heap l v ≠ .error .fuel := by
  unfold hUnstrLeaf hUnstrIso
  repeat' split
  all_goals first | exact hIdentity_ne_fuel heap v | nofun

/-- The number of objects of the heap whose id is not in `visited`. -/
def freeCount (heap : Heap) (visited : List Nat) : Nat :=
  heap.countP (fun e => !visited.contains e.1)

theorem heap_get_none (heap : Heap) (id : Nat) (h : id ∉ heap.map Prod.fst) : heap.get id = none := by
  induction heap with
  | nil => rfl
  | cons e rest ih =>
    simp only [List.map_cons, List.mem_cons, not_or] at h
    simp only [Heap.get, Ne.symm h.1, if_false]
    exact ih h.2

/-- Entering an object that exists and is not in the guard set strictly decreases the measure. -/
theorem freeCount_lt (heap : Heap) (visited : List Nat) (id : Nat) (o : HObj) (hg : heap.get id = some o)
    (hv : visited.contains id = false) : freeCount heap (id :: visited) < freeCount heap visited := by
  induction heap with
  | nil => cases hg
  | cons e rest ih =>
    simp only [Heap.get] at hg
    simp only [freeCount, List.countP_cons, List.contains_cons] at ih ⊢
    by_cases hi : e.1 = id
    · have mono : rest.countP (fun e => !(e.1 == id || visited.contains e.1)) ≤ rest.countP (fun e => !visited.contains e.1) :=
        List.countP_mono_left fun e _ he => by simp only [Bool.not_eq_true', Bool.or_eq_false_iff] at he ⊢; exact he.2
      simp only [hi, hv, beq_self_eq_true, Bool.true_or, Bool.not_true, Bool.not_false, if_true, Bool.false_eq_true, if_false]
      omega
    · have := ih (by simpa only [hi, if_false] using hg)
      have hne : (e.1 == id) = false := by simpa using hi
      simp only [hne, Bool.false_or]
      omega

/-- "cattrs, with the guard set `visited`, terminates on `x` for every large enough budget". -/
def UnstrEv (c : Codecs) (heap : Heap) (decls : Decls) (visited : List Nat) (t : Option Ty) (x : HVal) : Prop :=
  Eventually (fun fuel => ∀ reg, hUnstr c fuel heap visited reg decls t x ≠ .error .fuel)

/-- What the induction on the measure provides about the values an object outside the guard set holds. -/
def KidsEv (c : Codecs) (heap : Heap) (decls : Decls) (visited : List Nat) : Prop :=
  ∀ id o, heap.get id = some o → visited.contains id = false →
    ∀ x ∈ o.children, ∀ t, UnstrEv c heap decls (id :: visited) t x

/-- One budget for all children of an object: the loops run them under the same fuel. -/
theorem KidsEv.all {c : Codecs} {heap : Heap} {decls : Decls} {visited : List Nat} (hk : KidsEv c heap decls visited)
    {id : Nat} {o : HObj} (hg : heap.get id = some o) (hvis : visited.contains id = false) (t : Option Ty) :
    Eventually (fun fuel => ∀ x ∈ o.children, ∀ reg, hUnstr c fuel heap (id :: visited) reg decls t x ≠ .error .fuel) :=
  eventually_forall_mem _ _ (fun x hx => hk id o hg hvis x hx t)

theorem hAttrs_children (heap : Heap) (v : HVal) (name : Str) (x : HVal) (h : aget (hAttrs heap v) name = some x) :
    ∃ id o, v = .ref id ∧ heap.get id = some o ∧ x ∈ o.children := by
  unfold hAttrs at h
  repeat' split at h
  all_goals first | cases h | skip
  exact ⟨_, .inst _ _, rfl, by assumption, List.mem_map_of_mem (f := Prod.snd) (aget_mem _ _ _ h)⟩

/-- A field-by-field dataclass unstructure (behind the guard) terminates when the attribute values do. -/
theorem unstr_dc_ev (c : Codecs) (heap : Heap) (decls : Decls) (visited : List Nat) (hk : KidsEv c heap decls visited)
    (v : HVal) (name : Str) : UnstrEv c heap decls visited (some (.dc name)) v := by
  cases hcd : aget decls name with
  | none => exact eventually_one _ (fun n reg => by simp [hUnstr, hcd])
  | some cd =>
    cases hge : guardEnter visited v with
    | none => exact eventually_one _ (fun n reg => by simp [hUnstr, hcd, hge])
    | some visited' =>
      -- a uniform budget for the attribute values that exist
      have hfields : Eventually (fun fuel => ∀ f ∈ cd.fields, ∀ x, aget (hAttrs heap v) f.pyName = some x →
          ∀ reg, hUnstr c fuel heap visited' reg decls (some f.ty) x ≠ .error .fuel) := by
        refine eventually_forall_mem cd.fields _ (fun f _ => ?_)
        cases ha : aget (hAttrs heap v) f.pyName with
        | none => exact ⟨0, fun _ _ x hx => by cases hx⟩
        | some x =>
          obtain ⟨id, o, rfl, hg, hx⟩ := hAttrs_children heap v f.pyName x ha
          cases hvis : visited.contains id with
          | true => simp only [guardEnter, hvis, if_true, reduceCtorEq] at hge
          | false =>
            simp only [guardEnter, hvis, Bool.false_eq_true, if_false, Option.some.injEq] at hge
            subst hge
            obtain ⟨N, hN⟩ := hk id o hg hvis x hx (some f.ty)
            exact ⟨N, fun fuel hf y hy => by cases hy; exact hN fuel hf⟩
      refine eventually_succ _ _ hfields (fun n h reg => ?_)
      simp only [hUnstr, hcd, hge]
      exact exceptMap_ne_fuel _ _ (hUnstrFields_ne_fuel _ _ _ _ _ fun f hf x hx => h f hf x hx reg)

theorem unstr_dyn_ev (c : Codecs) (heap : Heap) (decls : Decls) (visited : List Nat) (hk : KidsEv c heap decls visited)
    (v : HVal) : UnstrEv c heap decls visited none v := by
  cases v with
  | ref id =>
    cases hg : heap.get id with
    | none => exact eventually_one _ (fun n reg => by simp [hUnstr, hg])
    | some o =>
      cases o with
      | list items =>
        cases hvis : visited.contains id with
        | true => exact eventually_one _ (fun n reg => by simp only [hUnstr, hg, hvis, if_true]; nofun)
        | false =>
          refine eventually_succ _ _ (hk.all hg hvis none) (fun n h reg => ?_)
          simp only [hUnstr, hg, hvis, Bool.false_eq_true, if_false]
          exact exceptMap_ne_fuel _ _ (mapE_ne_fuel _ _ fun x hx => h x hx reg)
      | dict kvs =>
        cases hvis : visited.contains id with
        | true => exact eventually_one _ (fun n reg => by simp only [hUnstr, hg, hvis, if_true]; nofun)
        | false =>
          refine eventually_succ _ _ (hk.all hg hvis none) (fun n h reg => ?_)
          simp only [hUnstr, hg, hvis, Bool.false_eq_true, if_false]
          exact exceptMap_ne_fuel _ _ (mapValsE_ne_fuel _ _ fun kv hkv => h kv.2 (List.mem_map_of_mem hkv) reg)
      | inst cls attrs =>
        exact eventually_succ _ _ (unstr_dc_ev c heap decls visited hk (.ref id) cls)
          (fun n h reg => by simp only [hUnstr, hg]; exact h reg)
  | _ => exact eventually_one _ (fun n reg => by simp [hUnstr])

/-- Unstructuring by a declared type (`Optional` unwraps the type and keeps the value: recursion on the type). -/
theorem unstr_static_ev (c : Codecs) (heap : Heap) (decls : Decls) (visited : List Nat)
    (hk : KidsEv c heap decls visited) (v : HVal) : ∀ t : Ty, UnstrEv c heap decls visited (some t) v
  | .leaf l => eventually_one _ (fun n reg => by simp only [hUnstr]; exact hUnstrLeaf_ne_fuel c heap l v)
  | .none => eventually_one _ (fun n reg => by simp only [hUnstr]; exact hIdentity_ne_fuel heap v)
  | .fwd _ => eventually_one _ (fun n reg => by simp only [hUnstr]; exact hIdentity_ne_fuel heap v)
  | .any => eventually_succ _ _ (unstr_dyn_ev c heap decls visited hk v) (fun n h reg => by simp only [hUnstr]; exact h reg)
  | .union _ _ =>
    eventually_succ _ _ (unstr_dyn_ev c heap decls visited hk v) (fun n h reg => by simp only [hUnstr]; exact h reg)
  | .dc name => unstr_dc_ev c heap decls visited hk v name
  | .enum _ members => eventually_one _ (fun n reg => by
      simp only [hUnstr]
      repeat' split
      all_goals first | exact hIdentity_ne_fuel heap v | nofun)
  | .optional t' => by
    refine eventually_succ _ _ (unstr_static_ev c heap decls visited hk v t') (fun n h reg => ?_)
    cases v <;> first | exact h reg | nofun
  | .list t' => by
    cases v with
    | ref id =>
      cases hvis : visited.contains id with
      | true => exact eventually_one _ (fun n reg => by simp only [hUnstr, hvis, if_true]; nofun)
      | false =>
        rcases hg : heap.get id with _ | ⟨items | kvs | ⟨cls, attrs⟩⟩
        case some.list =>
          refine eventually_succ _ _ (hk.all hg hvis (some t')) (fun n h reg => ?_)
          simp only [hUnstr, hg, hvis, Bool.false_eq_true, if_false]
          exact exceptMap_ne_fuel _ _ (mapE_ne_fuel _ _ fun x hx => h x hx reg)
        all_goals exact eventually_one _ (fun n reg => by simp only [hUnstr, hg, hvis, Bool.false_eq_true, if_false]; nofun)
    | _ => exact eventually_one _ (fun n reg => nofun)
  | .dict t' => by
    cases v with
    | ref id =>
      cases hvis : visited.contains id with
      | true => exact eventually_one _ (fun n reg => by simp only [hUnstr, hvis, if_true]; nofun)
      | false =>
        rcases hg : heap.get id with _ | ⟨items | kvs | ⟨cls, attrs⟩⟩
        case some.dict =>
          refine eventually_succ _ _ (hk.all hg hvis (some t')) (fun n h reg => ?_)
          simp only [hUnstr, hg, hvis, Bool.false_eq_true, if_false]
          exact exceptMap_ne_fuel _ _ (mapValsE_ne_fuel _ _ fun kv hkv => h kv.2 (List.mem_map_of_mem hkv) reg)
        all_goals exact eventually_one _ (fun n reg => by simp only [hUnstr, hg, hvis, Bool.false_eq_true, if_false]; nofun)
    | _ => exact eventually_one _ (fun n reg => nofun)

/-- cattrs behind the cycle guard terminates on every value of every heap, at every type, for every guard set. -/
theorem unstr_ev_all (c : Codecs) (heap : Heap) (decls : Decls) :
    ∀ k visited, freeCount heap visited < k → ∀ t v, UnstrEv c heap decls visited t v := by
  intro k
  induction k with
  | zero => intro _ h; cases h
  | succ k ih =>
    intro visited hfc t v
    have hk : KidsEv c heap decls visited := fun id o hg hvis x _ t' =>
      ih (id :: visited) (by have := freeCount_lt heap visited id o hg hvis; omega) t' x
    cases t with
    | none => exact unstr_dyn_ev c heap decls visited hk v
    | some t => exact unstr_static_ev c heap decls visited hk v t

mutual
theorem ensureWith_ne_fuel (track : List Str → Nat → Except UErr (PV × List Str)) :
    ∀ (p : PV) (reg : List Str), (∀ id ∈ p.leaks, ∀ r, track r id ≠ .error .fuel) →
      PV.ensureWith track reg p ≠ .error .fuel
  | .leak id, reg, h => by simp only [PV.ensureWith]; exact h id (by simp [PV.leaks]) reg
  | .null, _, _ => nofun
  | .bool _, _, _ => nofun
  | .int _, _, _ => nofun
  | .str _, _, _ => nofun
  | .opaque _ _, _, _ => nofun
  | .arr xs, reg, h => by
    have := ensureListWith_ne_fuel track xs reg h
    cases hm : PV.ensureListWith track reg xs with
    | error e => simp only [PV.ensureWith, hm]; exact reraise_ne_fuel this hm
    | ok r => simp only [PV.ensureWith, hm]; nofun
  | .obj kvs, reg, h => by
    have := ensureKvsWith_ne_fuel track kvs reg h
    cases hm : PV.ensureKvsWith track reg kvs with
    | error e => simp only [PV.ensureWith, hm]; exact reraise_ne_fuel this hm
    | ok r => simp only [PV.ensureWith, hm]; nofun
theorem ensureListWith_ne_fuel (track : List Str → Nat → Except UErr (PV × List Str)) :
    ∀ (xs : List PV) (reg : List Str), (∀ id ∈ PV.leaksList xs, ∀ r, track r id ≠ .error .fuel) →
      PV.ensureListWith track reg xs ≠ .error .fuel
  | [], _, _ => nofun
  | x :: xs, reg, h => by
    have h1 := ensureWith_ne_fuel track x reg (fun id hid => h id (by simp [PV.leaksList, hid]))
    cases hx : PV.ensureWith track reg x with
    | error e => simp only [PV.ensureListWith, hx]; exact reraise_ne_fuel h1 hx
    | ok r =>
      have h2 := ensureListWith_ne_fuel track xs r.2 (fun id hid => h id (by simp [PV.leaksList, hid]))
      cases hm : PV.ensureListWith track r.2 xs with
      | error e => simp only [PV.ensureListWith, hx, hm]; exact reraise_ne_fuel h2 hm
      | ok r2 => simp only [PV.ensureListWith, hx, hm]; nofun
theorem ensureKvsWith_ne_fuel (track : List Str → Nat → Except UErr (PV × List Str)) :
    ∀ (kvs : List (Str × PV)) (reg : List Str), (∀ id ∈ PV.leaksKvs kvs, ∀ r, track r id ≠ .error .fuel) →
      PV.ensureKvsWith track reg kvs ≠ .error .fuel
  | [], _, _ => nofun
  | (k, x) :: rest, reg, h => by
    have hrest := fun reg' => ensureKvsWith_ne_fuel track rest reg' (fun id hid => h id (by simp [PV.leaksKvs, hid]))
    simp only [PV.ensureKvsWith]
    split
    · exact hrest reg
    · have h1 := ensureWith_ne_fuel track x reg (fun id hid => h id (by simp [PV.leaksKvs, hid]))
      cases hx : PV.ensureWith track reg x with
      | error e => exact reraise_ne_fuel h1 hx
      | ok r =>
        cases hm : PV.ensureKvsWith track r.2 rest with
        | error e => simp only [hm]; exact reraise_ne_fuel (hrest r.2) hm
        | ok r2 => simp only [hm]; nofun
end

theorem mapSt_ne_fuel {α β : Type} (f : List Str → α → Except UErr (β × List Str)) (xs : List α)
    (h : ∀ x ∈ xs, ∀ r, f r x ≠ .error .fuel) : ∀ reg, mapSt f reg xs ≠ .error .fuel := by
  induction xs with
  | nil => intro reg; nofun
  | cons x xs ih =>
    intro reg
    cases hfx : f reg x with
    | error e => simp only [mapSt, hfx]; exact reraise_ne_fuel (h x (by simp) reg) hfx
    | ok r =>
      cases hm : mapSt f r.2 xs with
      | error e => simp only [mapSt, hfx, hm]; exact reraise_ne_fuel (ih (fun z hz => h z (by simp [hz])) r.2) hm
      | ok r2 => simp only [mapSt, hfx, hm]; nofun

theorem mapStKvs_ne_fuel {α : Type} (f : List Str → α → Except UErr (PV × List Str)) (kvs : List (Str × α))
    (h : ∀ kv ∈ kvs, ∀ r, f r kv.2 ≠ .error .fuel) : ∀ reg, mapStKvs f reg kvs ≠ .error .fuel := by
  induction kvs with
  | nil => intro reg; nofun
  | cons kv rest ih =>
    intro reg
    cases hfx : f reg kv.2 with
    | error e => simp only [mapStKvs, hfx]; exact reraise_ne_fuel (h kv (by simp) reg) hfx
    | ok r =>
      cases hm : mapStKvs f r.2 rest with
      | error e => simp only [mapStKvs, hfx, hm]; exact reraise_ne_fuel (ih (fun z hz => h z (by simp [hz])) r.2) hm
      | ok r2 => simp only [mapStKvs, hfx, hm]; nofun

/-- Serialising `.ref i` does not exhaust the budget for ANY `i`, uniformly: ids of the heap by hypothesis, an id that is
    no object of the heap because the lookup fails (which is not a budget failure). -/
theorem serF_refs_ev (c : Codecs) (heap : Heap) (decls : Decls) (visited : List Nat)
    (h : ∀ i ∈ heap.map Prod.fst, Eventually (fun fuel => ∀ reg, serF c fuel heap decls visited reg (.ref i) ≠ .error .fuel)) :
    Eventually (fun fuel => ∀ i reg, serF c fuel heap decls visited reg (.ref i) ≠ .error .fuel) := by
  obtain ⟨N, hN⟩ := eventually_forall_mem (heap.map Prod.fst) _ h
  refine ⟨N + 1, fun fuel hf i reg => ?_⟩
  by_cases hmem : i ∈ heap.map Prod.fst
  · exact hN fuel (by omega) i hmem reg
  · obtain ⟨m, rfl⟩ : ∃ m, fuel = m + 1 := ⟨fuel - 1, by omega⟩
    simp only [serF, heap_get_none heap i hmem]
    split <;> nofun

/-- One level of `_serialize_with_tracking`: it terminates when it does on every value below an object that it
    enters (`sub`). -/
theorem serF_ev_step (c : Codecs) (heap : Heap) (decls : Decls) (visited : List Nat)
    (sub : ∀ id o, heap.get id = some o → visited.contains id = false → ∀ x,
      Eventually (fun fuel => ∀ reg, serF c fuel heap decls (id :: visited) reg x ≠ .error .fuel)) (v : HVal) :
    Eventually (fun fuel => ∀ reg, serF c fuel heap decls visited reg v ≠ .error .fuel) := by
  -- the immediates cattrs is asked about
  have helse : (∀ n reg, serF c (n + 1) heap decls visited reg v =
      match hUnstr c n heap visited reg decls none v with
      | .error e => .error e
      | .ok result => .ok (result.removeNone, reg)) →
      Eventually (fun fuel => ∀ reg, serF c fuel heap decls visited reg v ≠ .error .fuel) := fun hs =>
    eventually_succ _ _ (unstr_ev_all c heap decls _ visited (Nat.lt_succ_self _) none v) (fun n h reg => by
      rw [hs]
      cases hu : hUnstr c n heap visited reg decls none v with
      | error e => exact reraise_ne_fuel (h reg) hu
      | ok p => nofun)
  cases v with
  | ref id =>
    cases hvis : visited.contains id with
    | true => exact eventually_one _ (fun n reg => by simp only [serF, hvis, if_true]; nofun)
    | false =>
      cases hg : heap.get id with
      | none => exact eventually_one _ (fun n reg => by simp only [serF, hvis, hg]; nofun)
      | some o =>
        cases o with
        | list items =>
          refine eventually_succ _ _ (eventually_forall_mem items _ (fun x _ => sub id _ hg hvis x)) (fun n h reg => ?_)
          simp only [serF, hvis, hg, Bool.false_eq_true, if_false]
          cases hm : mapSt (fun r item => serF c n heap decls (id :: visited) r item) reg items with
          | error e => exact reraise_ne_fuel (mapSt_ne_fuel _ items (fun x hx r' => h x hx r') reg) hm
          | ok pr => nofun
        | dict kvs =>
          refine eventually_succ _ _
            (eventually_forall_mem kvs (fun kv fuel => ∀ reg, serF c fuel heap decls (id :: visited) reg kv.2 ≠ .error .fuel)
              (fun kv _ => sub id _ hg hvis kv.2)) (fun n h reg => ?_)
          simp only [serF, hvis, hg, Bool.false_eq_true, if_false]
          cases hm : mapStKvs (fun r x => serF c n heap decls (id :: visited) r x) reg kvs with
          | error e => exact reraise_ne_fuel (mapStKvs_ne_fuel _ kvs (fun kv hkv r' => h kv hkv r') reg) hm
          | ok pr => nofun
        | inst cls attrs =>
          -- cattrs on the instance, then whatever instance it left in its result, serialised below `id`
          refine eventually_succ _ _
            ((unstr_ev_all c heap decls _ visited (Nat.lt_succ_self _) (some (.dc cls)) (.ref id)).and
              (serF_refs_ev c heap decls (id :: visited) (fun i _ => sub id _ hg hvis (.ref i)))) (fun n h reg => ?_)
          simp only [serF, hvis, hg, Bool.false_eq_true, if_false]
          generalize (regTy n decls [] (.dc cls)).foldl insertName reg = reg1
          cases hu : hUnstr c n heap visited reg1 decls (some (.dc cls)) (.ref id) with
          | error e => exact reraise_ne_fuel (h.1 reg1) hu
          | ok p =>
            have hE := ensureWith_ne_fuel (fun r' i => serF c n heap decls (id :: visited) r' (.ref i)) p reg1
              (fun i _ r' => h.2 i r')
            cases he : PV.ensureWith (fun r' i => serF c n heap decls (id :: visited) r' (.ref i)) reg1 p with
            | error e => simp only [he]; exact reraise_ne_fuel hE he
            | ok pr => simp only [he]; nofun
  | none | bool _ | int _ | str _ | enum _ _ | bytearray _ => exact eventually_one _ (fun n reg => nofun)
  | _ => exact helse (fun n reg => by simp only [serF]; rfl)

/-- `DataclassSerializer.serialize` terminates on every value of every heap, for every guard set. -/
theorem serF_ev_all (c : Codecs) (heap : Heap) (decls : Decls) :
    ∀ k visited, freeCount heap visited < k → ∀ v,
      Eventually (fun fuel => ∀ reg, serF c fuel heap decls visited reg v ≠ .error .fuel) := by
  intro k
  induction k with
  | zero => intro _ h; cases h
  | succ k ih =>
    intro visited hfc v
    exact serF_ev_step c heap decls visited (fun id o hg hvis x =>
      ih (id :: visited) (by have := freeCount_lt heap visited id o hg hvis; omega) x) v

end Pog
