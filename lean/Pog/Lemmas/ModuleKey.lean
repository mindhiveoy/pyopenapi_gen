import Pog.Lemmas.Names
/-
  The module file name of a tag client determines the normalised tag key (ASCII tags):
      normTagKey u t = (sanModule u t).filter (· != '_')
  because the tokenizer keeps exactly the ASCII alphanumerics and everything `sanModule` adds is an underscore.
-/
namespace Pog

/-! ## The tokenizer loses no alphanumeric character -/

def TokSt.content (st : TokSt) : Str := st.out.reverse.flatten ++ st.cur.reverse

def TokSt.WF (st : TokSt) : Prop := st.kind = .none → st.cur = []

theorem TokSt.flush_content {st : TokSt} (h : st.WF) : st.flush.reverse.flatten = st.content := by
  obtain ⟨k, cur, out⟩ := st
  cases k
  · have : cur = [] := h rfl
    subst this
    simp [TokSt.flush, TokSt.content]
  all_goals simp [TokSt.flush, TokSt.content]

theorem not_alnum_of_not {c : Char} (h1 : ¬ isLowerA c = true) (h2 : ¬ isUpperA c = true) (h3 : ¬ isDigitA c = true) :
    isAlnumA c = false := by
  simp only [Bool.not_eq_true] at h1 h2 h3
  simp [isAlnumA, isAlphaA, h1, h2, h3]

theorem tokStep_content (st : TokSt) (c : Char) (h : st.WF) :
    (tokStep st c).WF ∧ (tokStep st c).content = st.content ++ (if isAlnumA c then [c] else []) := by
  -- every branch of `tokStep` moves `c` into `cur` when it is a letter or digit (the three facts below say these
  -- are the alphanumerics) and otherwise only flushes `cur` into `out`
  have hfl := TokSt.flush_content h
  have hl := @isAlnumA_of_lower c
  have hu := @isAlnumA_of_upper c
  have hd := @isAlnumA_of_digit c
  have hn := @not_alnum_of_not c
  fun_cases tokStep st c <;> simp_all [TokSt.WF, TokSt.content]

theorem foldl_tokStep_content (s : Str) (st : TokSt) (h : st.WF) :
    (s.foldl tokStep st).WF ∧ (s.foldl tokStep st).content = st.content ++ s.filter isAlnumA := by
  induction s generalizing st with
  | nil => exact ⟨h, by simp⟩
  | cons c cs ih =>
    obtain ⟨h1, h2⟩ := tokStep_content st c h
    obtain ⟨h3, h4⟩ := ih _ h1
    refine ⟨h3, ?_⟩
    simp only [List.foldl_cons]
    rw [h4, h2, List.filter_cons]
    split <;> simp

/-- The tokens, concatenated, are exactly the ASCII alphanumerics of the input in order. -/
theorem tokenize_flatten (s : Str) : (tokenize s).flatten = s.filter isAlnumA := by
  have h0 : TokSt.init.WF := fun _ => rfl
  obtain ⟨h1, h2⟩ := foldl_tokStep_content s TokSt.init h0
  unfold tokenize
  rw [TokSt.flush_content h1, h2]
  simp [TokSt.content, TokSt.init]

def noUs (s : Str) : Str := s.filter (· != '_')

theorem noUs_append (a b : Str) : noUs (a ++ b) = noUs a ++ noUs b := by simp [noUs]

theorem noUs_joinWith (ws : List Str) : noUs (joinWith ['_'] ws) = noUs ws.flatten := by
  fun_induction joinWith ['_'] ws with
  | case1 => rfl
  | case2 x => simp
  | case3 x y rest ih =>
    rw [noUs_append, noUs_append, ih]
    simp [noUs]

theorem noUs_eq_nil_iff (s : Str) : noUs s = [] ↔ ∀ c ∈ s, c = '_' := by
  simp [noUs, List.filter_eq_nil_iff]

theorem noUs_of_all_us (s : Str) (h : ∀ c ∈ s, c = '_') : noUs s = [] := (noUs_eq_nil_iff s).2 h

theorem noUs_of_alnum (w : Str) (h : w.all isAlnumA = true) : noUs w = w := by
  unfold noUs
  rw [List.filter_eq_self]
  intro c hc
  have := List.all_eq_true.1 h c hc
  have hne : c ≠ '_' := by
    intro e; subst e; simp [isAlnumA_us] at this
  simpa using hne

theorem lowerS_flatten (u : UInfo) (ws : List Str) : u.lowerS ws.flatten = (ws.map u.lowerS).flatten := by
  induction ws with
  | nil => rfl
  | cons w ws ih => simp_all [UInfo.lowerS]

/-- Apart from underscores, the module name is the lower-cased words run together: the separators, the digit guard
    and the keyword guard add underscores only. -/
theorem noUs_sanModule (u : UInfo) (t : Str) :
    noUs (sanModule u t) =
      noUs (u.lowerS (if (tokenize t).isEmpty then splitWordRuns u t [] else tokenize t).flatten) := by
  have hcons : ∀ (b : Bool) (m : Str), noUs (if b then '_' :: m else m) = noUs m := by
    intro b m; cases b <;> simp [noUs]
  have hsnoc : ∀ (b : Bool) (m : Str), noUs (if b then m ++ ['_'] else m) = noUs m := by
    intro b m; cases b <;> simp [noUs]
  unfold sanModule
  simp only [hsnoc, hcons, noUs_joinWith, lowerS_flatten]

theorem lowerS_ascii (u : UInfo) (s : Str) (h : s.all isAscii = true) : u.lowerS s = s.map lowerA := by
  induction s with
  | nil => rfl
  | cons c cs ih =>
    simp only [List.all_cons, Bool.and_eq_true] at h
    have ih' := ih h.2
    simp only [UInfo.lowerS] at ih' ⊢
    simp [List.flatMap_cons, h.1, ih']

theorem normTagKey_ascii (u : UInfo) (t : Str) (h : t.all isAscii = true) :
    normTagKey u t = (t.filter isAlnumA).map lowerA := by
  unfold normTagKey
  have hf : t.filter (fun c => u.isWord c && c != '_') = t.filter isAlnumA := by
    apply List.filter_congr
    intro c hc
    have hca := List.all_eq_true.1 h c hc
    simp only [UInfo.isWord, hca, if_true]
    by_cases hu : c = '_'
    · subst hu; decide
    · simp [isIdChar, bne, beq_eq_false_iff_ne.2 hu]
  rw [hf, lowerS_ascii]
  exact List.all_eq_true.2 fun c hc => List.all_eq_true.1 h c (List.mem_filter.1 hc).1

/-- A tag with at least one ASCII alphanumeric: the underscore-free module name is the lower-cased alphanumerics. -/
theorem noUs_sanModule_alnum (u : UInfo) (t : Str) (h : t.any isAlnumA = true) :
    noUs (sanModule u t) = (t.filter isAlnumA).map lowerA := by
  have hne : tokenize t ≠ [] := fun e => by simp [(tokenize_eq_nil_iff t).1 e] at h
  have hall : (t.filter isAlnumA).all isAlnumA = true := by simp
  rw [noUs_sanModule, if_neg (by simpa using hne), tokenize_flatten, lowerS_of_alnum u hall]
  apply noUs_of_alnum
  rw [List.all_map]
  exact all_imp (fun _ => isAlnumA_lowerA) hall

/-! ### No ASCII alphanumeric: the module name consists of underscores only -/

theorem splitWordRuns_flatten (u : UInfo) (s cur : Str) :
    (splitWordRuns u s cur).flatten = cur.reverse ++ s.filter u.isWord := by
  fun_induction splitWordRuns u s cur <;> simp_all

theorem sanModule_all_us (u : UInfo) (t : Str) (hascii : t.all isAscii = true) (h : t.any isAlnumA = false) :
    ∀ c ∈ sanModule u t, c = '_' := by
  -- the fallback words are the word characters of `t`, and an ASCII word character that is not alphanumeric is `_`
  have hw : ∀ c ∈ t.filter u.isWord, c = '_' := by
    intro c hc
    obtain ⟨hct, hcw⟩ := List.mem_filter.1 hc
    have hca := List.all_eq_true.1 hascii c hct
    have hna : isAlnumA c = false := by simpa using List.any_eq_false.1 h c hct
    simpa [UInfo.isWord, hca, isIdChar, hna] using hcw
  have hwa : (t.filter u.isWord).all isAscii = true := List.all_eq_true.2 fun c hc => by rw [hw c hc]; rfl
  rw [← noUs_eq_nil_iff, noUs_sanModule, (tokenize_eq_nil_iff t).2 h, if_pos List.isEmpty_nil, splitWordRuns_flatten,
    List.reverse_nil, List.nil_append, lowerS_ascii u _ hwa, noUs_eq_nil_iff]
  intro c hc
  obtain ⟨d, hd, rfl⟩ := List.mem_map.1 hc
  rw [hw d hd]; rfl

/-- For an ASCII tag the module name determines the normalised key. -/
theorem normTagKey_eq_noUs_sanModule (u : UInfo) (t : Str) (h : t.all isAscii = true) :
    normTagKey u t = noUs (sanModule u t) := by
  rw [normTagKey_ascii u t h]
  cases ha : t.any isAlnumA with
  | true => rw [noUs_sanModule_alnum u t ha]
  | false =>
    rw [noUs_of_all_us _ (sanModule_all_us u t h ha)]
    rw [List.filter_eq_nil_iff.2 (List.any_eq_false.1 ha)]
    rfl

end Pog
