import Pog.Model.Tracker
/-
  Lemmas about M-tracker: first the association lists (`dGet` / `dSet` / `dHas`) that hold the
  tracker's states and the parser's registry, then the effect of single events on depth / stack /
  states, the shape of the event words the parser emits, and the bracket theorem.
-/
namespace Pog.Trk
open Pog

theorem dGet_dSet_self {β : Type} (k : Str) (v : β) (d : List (Str × β)) :
    dGet k (dSet k v d) = some v := by
  induction d with
  | nil => simp [dSet, dGet]
  | cons p rest ih => by_cases h : p.1 = k <;> simp [dSet, dGet, h, ih]

theorem dGet_dSet_ne {β : Type} (k m : Str) (v : β) (d : List (Str × β)) (h : m ≠ k) :
    dGet m (dSet k v d) = dGet m d := by
  induction d with
  | nil => simp [dSet, dGet, Ne.symm h]
  | cons p rest ih =>
    by_cases h1 : p.1 = k
    · simp [dSet, dGet, h1, Ne.symm h]
    · by_cases h2 : p.1 = m <;> simp [dSet, dGet, h1, h2, ih, h]

theorem dGet_of_dGet_dSet {β : Type} {k n : Str} {v w : β} {d : List (Str × β)}
    (h : dGet k (dSet n w d) = some v) (hv : v ≠ w) : dGet k d = some v := by
  by_cases e : k = n
  · subst e
    rw [dGet_dSet_self] at h
    cases h
    exact absurd rfl hv
  · rwa [dGet_dSet_ne _ _ _ _ e] at h

theorem dHas_dSet_self {β : Type} (k : Str) (v : β) (d : List (Str × β)) : dHas k (dSet k v d) = true := by
  simp [dHas, dGet_dSet_self]

theorem dHas_dSet_mono {β : Type} (k k' : Str) (v : β) (d : List (Str × β)) (h : dHas k d = true) :
    dHas k (dSet k' v d) = true := by
  by_cases e : k = k'
  · subst e; exact dHas_dSet_self _ _ _
  · simpa [dHas, dGet_dSet_ne _ _ _ _ e] using h

theorem dHas_of_mem {β : Type} (d : List (Str × β)) (kv : Str × β) (h : kv ∈ d) : dHas kv.1 d = true := by
  induction d with
  | nil => cases h
  | cons p rest ih =>
    obtain ⟨k', v'⟩ := p
    simp only [dHas, dGet]
    split
    · rfl
    · rename_i e
      exact ih ((List.mem_cons.mp h).resolve_left fun h1 => e (h1 ▸ rfl))

def isPh (v : SchemaState) : Bool := v == .phCycle || v == .phDepth || v == .phSelfRef

/-- The five answers of `check`, each with the condition under which it is given: COMPLETED, a
    placeholder state, the depth cut, a cycle (the placeholder stored or not), CONTINUE. -/
theorem check_cases (s : TrSt) (n : Str) :
    (s.stateOf n = .completed ∧ check s n = (s, { action := .returnExisting })) ∨
    (isPh (s.stateOf n) = true ∧ check s n = (s, { action := .returnPlaceholder })) ∨
    ((s.stateOf n = .notStarted ∨ s.stateOf n = .inProgress) ∧ s.maxDepth < s.depth ∧ check s n =
      ({ s with depthExceeded := if s.depthExceeded.contains n then s.depthExceeded
                                 else s.depthExceeded ++ [n],
                states := dSet n .phDepth s.states, cycleDetected := true },
       { action := .createPlaceholder, placeholder := some .depth, stored := true })) ∨
    ((s.stateOf n = .notStarted ∨ s.stateOf n = .inProgress) ∧ s.depth ≤ s.maxDepth ∧ n ∈ s.stack ∧
      ∃ cs k ci v b, isPh v = true ∧ check s n =
        ({ s with cycleDetected := true, cycles := cs,
                  states := if b = true then dSet n v s.states else s.states },
         { action := .createPlaceholder, placeholder := some k, stored := b, info := some ci })) ∨
    ((s.stateOf n = .notStarted ∨ s.stateOf n = .inProgress) ∧ s.depth ≤ s.maxDepth ∧ n ∉ s.stack ∧
      check s n = ({ s with states := dSet n .inProgress s.states }, { action := .continueParsing })) := by
  unfold check
  cases h : s.stateOf n <;> dsimp only
  case completed => exact .inl ⟨rfl, rfl⟩
  case phCycle | phDepth | phSelfRef => exact .inr (.inl ⟨rfl, rfl⟩)
  all_goals
    refine .inr (.inr ?_)
    by_cases hd : s.depth > s.maxDepth
    · rw [if_pos hd]
      exact .inl ⟨by simp, hd, rfl⟩
    · rw [if_neg hd]
      by_cases hm : s.stack.contains n = true
      · rw [if_pos hm]
        refine .inr (.inl ⟨by simp, Nat.le_of_not_lt hd, by simpa using hm, ?_⟩)
        by_cases hs : shouldStore n (analyzeCycle n s.stack) = true
        · rw [if_pos hs]
          exact ⟨_, _, _, _, true, by split <;> rfl, rfl⟩
        · rw [if_neg hs]
          exact ⟨_, _, _, .phCycle, false, rfl, rfl⟩
      · rw [if_neg hm]
        exact .inr (.inr ⟨by simp, Nat.le_of_not_lt hd, by simpa using hm, rfl⟩)

/-- `check` only writes `cycles`, `depthExceeded`, `cycleDetected` and the entry of its own name,
    and a placeholder state only together with a stored placeholder. -/
theorem check_fst (s : TrSt) (n : Str) : ∃ st cs de cd,
    (check s n).1 = { s with states := st, cycles := cs, depthExceeded := de, cycleDetected := cd } ∧
    (st = s.states ∨ ∃ v, st = dSet n v s.states ∧ (isPh v = true → (check s n).2.stored = true)) := by
  rcases check_cases s n with ⟨_, e⟩ | ⟨_, e⟩ | ⟨_, _, e⟩ | ⟨_, _, _, _, _, _, _, b, _, e⟩ | ⟨_, _, _, e⟩
  all_goals rw [e]
  · exact ⟨_, _, _, _, rfl, .inl rfl⟩
  · exact ⟨_, _, _, _, rfl, .inl rfl⟩
  · exact ⟨_, _, _, _, rfl, .inr ⟨_, rfl, fun _ => rfl⟩⟩
  · cases b
    · exact ⟨_, _, _, _, rfl, .inl rfl⟩
    · exact ⟨_, _, _, _, rfl, .inr ⟨_, rfl, fun _ => rfl⟩⟩
  · exact ⟨_, _, _, _, rfl, .inr ⟨_, rfl, fun h => by cases h⟩⟩

theorem check_depth (s : TrSt) (n : Str) : (check s n).1.depth = s.depth := by
  obtain ⟨_, _, _, _, e, _⟩ := check_fst s n
  rw [e]

theorem check_stack (s : TrSt) (n : Str) : (check s n).1.stack = s.stack := by
  obtain ⟨_, _, _, _, e, _⟩ := check_fst s n
  rw [e]

theorem check_maxDepth (s : TrSt) (n : Str) : (check s n).1.maxDepth = s.maxDepth := by
  obtain ⟨_, _, _, _, e, _⟩ := check_fst s n
  rw [e]

theorem check_states_ne (s : TrSt) (n m : Str) (h : m ≠ n) :
    dGet m (check s n).1.states = dGet m s.states := by
  obtain ⟨_, _, _, _, e, rfl | ⟨_, rfl, _⟩⟩ := check_fst s n <;> rw [e]
  exact dGet_dSet_ne _ _ _ _ h

/-- CONTINUE is only answered for a name that is not on the stack. -/
theorem check_continue_not_mem (s : TrSt) (n : Str)
    (h : (check s n).2.action = .continueParsing) : n ∉ s.stack := by
  rcases check_cases s n with ⟨_, e⟩ | ⟨_, e⟩ | ⟨_, _, e⟩ | ⟨_, _, _, _, _, _, _, _, _, e⟩ | ⟨_, _, hm, _⟩
  all_goals first | exact hm | (rw [e] at h; cases h)

/-- The answer of `enter` is that of `check`, and so is the state, but for the push on CONTINUE. -/
theorem enter_some (s : TrSt) (n : Str) (a : Bool) :
    enter s (some n) a =
      let c := check { s with allowSelf := a, depth := s.depth + 1 } n
      (if c.2.action = .continueParsing ∧ n ≠ [] then { c.1 with stack := c.1.stack ++ [n] } else c.1,
       c.2) := by
  unfold enter
  dsimp only
  split <;> rfl

theorem enter_snd (s : TrSt) (n : Str) (a : Bool) :
    (enter s (some n) a).2 = (check { s with allowSelf := a, depth := s.depth + 1 } n).2 := by
  rw [enter_some]

theorem enter_states (s : TrSt) (n : Str) (a : Bool) :
    (enter s (some n) a).1.states = (check { s with allowSelf := a, depth := s.depth + 1 } n).1.states := by
  rw [enter_some]
  dsimp only
  split <;> rfl

theorem enter_depth (s : TrSt) (n : Option Str) (a : Bool) :
    (enter s n a).1.depth = s.depth + 1 := by
  cases n with
  | none => rfl
  | some m =>
    rw [enter_some]
    dsimp only
    split <;> exact check_depth _ m

theorem enter_maxDepth (s : TrSt) (n : Option Str) (a : Bool) :
    (enter s n a).1.maxDepth = s.maxDepth := by
  cases n with
  | none => rfl
  | some m =>
    rw [enter_some]
    dsimp only
    split <;> exact check_maxDepth _ m

theorem enter_stack (s : TrSt) (n : Option Str) (a : Bool) :
    (enter s n a).1.stack = s.stack ∨
    ∃ m, n = some m ∧ m ≠ [] ∧ m ∉ s.stack ∧ (enter s n a).2.action = .continueParsing ∧
      (enter s n a).1.stack = s.stack ++ [m] := by
  cases n with
  | none => exact Or.inl rfl
  | some m =>
    rw [enter_some]
    dsimp only
    split
    · rename_i hc
      exact Or.inr ⟨m, rfl, hc.2, check_continue_not_mem { s with allowSelf := a, depth := s.depth + 1 } m hc.1,
        hc.1, by rw [check_stack]⟩
    · exact Or.inl (check_stack _ m)

theorem enter_states_none (s : TrSt) (a : Bool) : (enter s none a).1.states = s.states := rfl

theorem enter_states_ne (s : TrSt) (n m : Str) (a : Bool) (h : m ≠ n) :
    dGet m (enter s (some n) a).1.states = dGet m s.states := by
  rw [enter_states]
  exact check_states_ne _ n m h

theorem exit_some (s : TrSt) (m : Str) :
    exit s (some m) =
      if m = [] then { s with depth := s.depth - 1 }
      else { s with depth := s.depth - 1, stack := s.stack.erase m,
                    states := if dGet m s.states = some .inProgress then dSet m .completed s.states
                              else s.states } := by
  unfold exit
  dsimp only
  split
  · rfl
  · split <;> rfl

theorem exit_depth (s : TrSt) (n : Option Str) : (exit s n).depth = s.depth - 1 := by
  cases n with
  | none => rfl
  | some m =>
    rw [exit_some]
    split <;> rfl

theorem exit_maxDepth (s : TrSt) (n : Option Str) : (exit s n).maxDepth = s.maxDepth := by
  cases n with
  | none => rfl
  | some m =>
    rw [exit_some]
    split <;> rfl

theorem exit_stack_none (s : TrSt) : (exit s none).stack = s.stack := rfl

theorem exit_stack_some (s : TrSt) (m : Str) :
    (exit s (some m)).stack = if m = [] then s.stack else s.stack.erase m := by
  rw [exit_some]
  split <;> rfl

theorem exit_stack_sublist (s : TrSt) (n : Option Str) : (exit s n).stack.Sublist s.stack := by
  cases n with
  | none => exact List.Sublist.refl _
  | some m =>
    rw [exit_stack_some]
    split
    · exact List.Sublist.refl _
    · exact List.erase_sublist

theorem exit_states_none (s : TrSt) : (exit s none).states = s.states := rfl

/-- The one write of `exit`: IN_PROGRESS becomes COMPLETED. -/
theorem exit_states (s : TrSt) (n : Option Str) :
    (exit s n).states = s.states ∨
    ∃ m, n = some m ∧ dGet m s.states = some .inProgress ∧ (exit s n).states = dSet m .completed s.states := by
  cases n with
  | none => exact .inl rfl
  | some m =>
    rw [exit_some]
    split
    · exact .inl rfl
    · dsimp only
      split
      · exact .inr ⟨m, rfl, ‹_›, rfl⟩
      · exact .inl rfl

theorem exit_states_ne (s : TrSt) (n m : Str) (h : m ≠ n) :
    dGet m (exit s (some n)).states = dGet m s.states := by
  rcases exit_states s (some n) with e | ⟨_, hn, _, e⟩ <;> rw [e]
  cases hn
  exact dGet_dSet_ne _ _ _ _ h

theorem exit_not_inProgress (s : TrSt) (n : Str) (hn : n ≠ []) :
    dGet n (exit s (some n)).states ≠ some .inProgress := by
  rw [exit_some, if_neg hn]
  dsimp only
  split
  · rw [dGet_dSet_self]
    nofun
  · assumption

theorem reset_states_ne (s : TrSt) (n m : Str) (h : m ≠ n) :
    dGet m (reset s n).states = dGet m s.states := dGet_dSet_ne _ _ _ _ h

theorem reset_states_self (s : TrSt) (n : Str) : dGet n (reset s n).states = some .notStarted :=
  dGet_dSet_self _ _ _

theorem runEvs_append (s : TrSt) (u v : List Ev) : runEvs s (u ++ v) = runEvs (runEvs s u) v := by
  simp [runEvs, List.foldl_append]

theorem runEvs_cons (s : TrSt) (e : Ev) (w : List Ev) : runEvs s (e :: w) = runEvs (apply s e) w :=
  rfl

theorem runEvs_nil (s : TrSt) : runEvs s [] = s := rfl

/-- the `reset` the parser performs after an unsuccessful RETURN_EXISTING (`if schema_name:`) -/
def resetEvs : Option Str → List Ev
  | some m => if m = [] then [] else [.reset m]
  | none => []

theorem resetEvs_cases (n : Option Str) :
    resetEvs n = [] ∨ ∃ m, n = some m ∧ resetEvs n = [.reset m] := by
  cases n with
  | none => exact .inl rfl
  | some m => by_cases h : m = [] <;> simp [resetEvs, h]

/-- Event words as `_parse_schema` emits them.
    `cont`: CONTINUE_PARSING — body, then the `finally` exit.
    `stop`: any other action answered by an immediate balancing exit and a return.
    `fall`: RETURN_EXISTING whose schema is in neither registry: balancing exit, state reset to
            NOT_STARTED, *fall through* into the body, and the `finally` exit AGAIN. -/
inductive Shaped : List Ev → Prop
  | nil : Shaped []
  | cont (n : Option Str) (a : Bool) (w w2 : List Ev) : Shaped w → Shaped w2 →
      Shaped (.enter n a .continueParsing :: (w ++ .exit n :: w2))
  | stop (n : Option Str) (a : Bool) (act : CycleAction) (w2 : List Ev) :
      act ≠ .continueParsing → Shaped w2 → Shaped (.enter n a act :: .exit n :: w2)
  | fall (n : Option Str) (a : Bool) (w w2 : List Ev) : Shaped w → Shaped w2 →
      Shaped (.enter n a .returnExisting :: .exit n :: (resetEvs n ++ (w ++ .exit n :: w2)))

/-- The Dyck language proper: every enter has exactly one exit. -/
inductive WellBracketed : List Ev → Prop
  | nil : WellBracketed []
  | cont (n : Option Str) (a : Bool) (w w2 : List Ev) : WellBracketed w → WellBracketed w2 →
      WellBracketed (.enter n a .continueParsing :: (w ++ .exit n :: w2))
  | stop (n : Option Str) (a : Bool) (act : CycleAction) (w2 : List Ev) :
      act ≠ .continueParsing → WellBracketed w2 → WellBracketed (.enter n a act :: .exit n :: w2)

theorem WellBracketed.shaped {w : List Ev} (h : WellBracketed w) : Shaped w := by
  induction h with
  | nil => exact .nil
  | cont n a w w2 _ _ ih1 ih2 => exact .cont n a w w2 ih1 ih2
  | stop n a act w2 hact _ ih => exact .stop n a act w2 hact ih

/-- Shaped words are the concatenations of the three brackets: a property of words that holds of
    `[]`, of each bracket around a word it holds of, and of `u ++ v` with `u` and `v`, holds of
    every shaped word. -/
theorem Shaped.blocks {P : List Ev → Prop} (nil : P [])
    (append : ∀ u v, P u → P v → P (u ++ v))
    (cont : ∀ n a w, P w → P (.enter n a .continueParsing :: (w ++ [.exit n])))
    (stop : ∀ n a act, act ≠ .continueParsing → P [.enter n a act, .exit n])
    (fall : ∀ n a w, P w → P (.enter n a .returnExisting :: .exit n :: (resetEvs n ++ (w ++ [.exit n]))))
    {w : List Ev} (hw : Shaped w) : P w := by
  induction hw with
  | nil => exact nil
  | cont n a w w2 _ _ ih1 ih2 => simpa using append _ _ (cont n a w ih1) ih2
  | stop n a act w2 hact _ ih => exact append _ _ (stop n a act hact) ih
  | fall n a w w2 _ _ ih1 ih2 => simpa using append _ _ (fall n a w ih1) ih2

theorem Shaped.append {u v : List Ev} (hu : Shaped u) (hv : Shaped v) : Shaped (u ++ v) := by
  induction hu with
  | nil => simpa using hv
  | cont n a w w2 h1 _ _ ih2 => simpa [List.append_assoc] using Shaped.cont n a w (w2 ++ v) h1 ih2
  | stop n a act w2 hact _ ih => exact Shaped.stop n a act (w2 ++ v) hact ih
  | fall n a w w2 h1 _ _ ih2 => simpa [List.append_assoc] using Shaped.fall n a w (w2 ++ v) h1 ih2

/-- names of the `enter` events -/
def entered : List Ev → List Str
  | [] => []
  | .enter (some n) _ _ :: w => n :: entered w
  | _ :: w => entered w

theorem entered_append (u v : List Ev) : entered (u ++ v) = entered u ++ entered v := by
  induction u with
  | nil => rfl
  | cons e u ih =>
    cases e with
    | enter n a act => cases n <;> simp [entered, ih]
    | exit n => simp [entered, ih]
    | reset n => simp [entered, ih]

theorem entered_resetEvs (n : Option Str) : entered (resetEvs n) = [] := by
  rcases resetEvs_cases n with e | ⟨_, _, e⟩ <;> rw [e] <;> rfl

/-- A reflexive and transitive relation between the states after and before a word that holds for a
    lone `exit`, a lone `reset`, and for `enter n · w · exit n` whenever it holds for `w`, holds for
    every shaped word (the fall-through is a closed bracket, the reset, a body and one more exit). -/
theorem shaped_rel {R : TrSt → TrSt → Prop} (refl : ∀ s, R s s) (trans : ∀ {a b c}, R a b → R b c → R a c)
    (hexit : ∀ s n, R (exit s n) s) (hreset : ∀ s n, R (reset s n) s)
    (hbracket : ∀ s n a s2, R s2 (enter s n a).1 → R (exit s2 n) s) {w : List Ev} (hw : Shaped w) :
    ∀ s, R (runEvs s w) s := by
  have bracket : ∀ n a act (w : List Ev), (∀ s, R (runEvs s w) s) →
      ∀ s, R (runEvs s (.enter n a act :: (w ++ [.exit n]))) s := by
    intro n a act w ih s
    rw [runEvs_cons, runEvs_append]
    exact hbracket s n a _ (ih _)
  have append : ∀ u v : List Ev, (∀ s, R (runEvs s u) s) → (∀ s, R (runEvs s v) s) →
      ∀ s, R (runEvs s (u ++ v)) s := by
    intro u v hu hv s
    rw [runEvs_append]
    exact trans (hv _) (hu s)
  refine hw.blocks (P := fun w => ∀ s, R (runEvs s w) s) refl append (fun n a => bracket n a _)
    (fun n a act _ => bracket n a act [] refl) ?_
  intro n a w ih
  refine append [.enter n a .returnExisting, .exit n] _ (bracket n a _ [] refl)
    (append (resetEvs n) _ (fun s => ?_) (append _ [.exit n] ih fun s => hexit s n))
  rcases resetEvs_cases n with e | ⟨m, _, e⟩ <;> rw [e]
  · exact refl s
  · exact hreset s m

theorem shaped_depth_le {w : List Ev} (hw : Shaped w) : ∀ s : TrSt, (runEvs s w).depth ≤ s.depth :=
  shaped_rel (R := fun s' s => s'.depth ≤ s.depth) (fun _ => Nat.le_refl _) Nat.le_trans
    (fun s n => by rw [exit_depth]; omega) (fun _ _ => Nat.le_refl _)
    (fun s n a s2 h => by rw [enter_depth] at h; rw [exit_depth]; omega) hw

theorem wellBracketed_depth_eq {w : List Ev} (hw : WellBracketed w) :
    ∀ s : TrSt, (runEvs s w).depth = s.depth := by
  induction hw with
  | nil => intro s; rfl
  | cont n a w w2 _ _ ih1 ih2 =>
    intro s
    simp only [runEvs_cons, runEvs_append, apply, ih2, exit_depth, ih1, enter_depth]
    omega
  | stop n a act w2 _ _ ih =>
    intro s
    simp only [runEvs_cons, apply, ih, exit_depth, enter_depth]
    omega

theorem runEvs_maxDepth (w : List Ev) : ∀ s : TrSt, (runEvs s w).maxDepth = s.maxDepth := by
  induction w with
  | nil => intro s; rfl
  | cons e w ih =>
    intro s
    rw [runEvs_cons, ih]
    cases e with
    | enter n a act => exact enter_maxDepth s n a
    | exit n => exact exit_maxDepth s n
    | reset n => rfl

theorem runEvs_resetEvs_maxDepth (s : TrSt) (n : Option Str) :
    (runEvs s (resetEvs n)).maxDepth = s.maxDepth :=
  runEvs_maxDepth _ s

theorem apply_stack_nodup (s : TrSt) (e : Ev) (h : s.stack.Nodup) : (apply s e).stack.Nodup := by
  cases e with
  | enter n a act =>
    show (enter s n a).1.stack.Nodup
    rcases enter_stack s n a with h1 | ⟨m, _, _, hm, _, h1⟩ <;> rw [h1]
    · exact h
    · simpa [List.nodup_append, h] using fun x hx (e : x = m) => hm (e ▸ hx)
  | exit n => exact List.Sublist.nodup (exit_stack_sublist s n) h
  | reset n => exact h

/-- No event sequence whatsoever (shaped or not) creates a duplicate. -/
theorem runEvs_stack_nodup (w : List Ev) : ∀ s : TrSt, s.stack.Nodup → (runEvs s w).stack.Nodup := by
  induction w with
  | nil => intro s h; exact h
  | cons e w ih => intro s h; exact ih _ (apply_stack_nodup s e h)

/-- enter n · w · exit n never grows the stack, whatever the inner word does to it. -/
private theorem bracket_sublist (s s2 : TrSt) (n : Option Str) (a : Bool)
    (h2 : s2.stack.Sublist (enter s n a).1.stack) : (exit s2 n).stack.Sublist s.stack := by
  rcases enter_stack s n a with he | ⟨m, hn, hne, hm, _, he⟩ <;> rw [he] at h2
  · exact List.Sublist.trans (exit_stack_sublist s2 n) h2
  · subst hn
    rw [exit_stack_some, if_neg hne]
    have := List.Sublist.erase m h2
    rwa [List.erase_append_right _ hm, List.erase_cons_head, List.append_nil] at this

theorem shaped_stack_sublist {w : List Ev} (hw : Shaped w) :
    ∀ s : TrSt, (runEvs s w).stack.Sublist s.stack :=
  shaped_rel (R := fun s' s => s'.stack.Sublist s.stack) (fun _ => .refl _) .trans exit_stack_sublist
    (fun _ _ => .refl _) (fun s n a s2 => bracket_sublist s s2 n a) hw

/-- the name whose state an event can write -/
def Ev.name : Ev → Option Str
  | .enter n _ _ => n
  | .exit n => n
  | .reset n => some n

theorem apply_states_ne (s : TrSt) (e : Ev) (m : Str) (h : e.name ≠ some m) :
    dGet m (apply s e).states = dGet m s.states := by
  cases e with
  | enter n a act =>
    cases n with
    | none => rfl
    | some k => exact enter_states_ne s k m a fun e => h (e ▸ rfl)
  | exit n =>
    cases n with
    | none => rfl
    | some k => exact exit_states_ne s k m fun e => h (e ▸ rfl)
  | reset k => exact reset_states_ne s k m fun e => h (e ▸ rfl)

theorem runEvs_states_ne (m : Str) (w : List Ev) (h : ∀ e ∈ w, e.name ≠ some m) :
    ∀ s : TrSt, dGet m (runEvs s w).states = dGet m s.states := by
  induction w with
  | nil => intro s; rfl
  | cons e w ih =>
    intro s
    rw [runEvs_cons, ih (fun e he => h e (List.mem_cons_of_mem _ he)),
      apply_states_ne s e m (h e List.mem_cons_self)]

private def StatesKept (w : List Ev) : Prop :=
  ∀ (s : TrSt) (m : Str),
    (m ∉ entered w → dGet m (runEvs s w).states = dGet m s.states) ∧
    (m ∈ entered w → m ≠ [] → dGet m (runEvs s w).states ≠ some .inProgress)

/-- A word between events of the name `n` (of which exactly the first is an enter) and a final
    `exit n`: the three brackets are of this form. -/
private theorem statesKept_bracket (n : Option Str) (a : Bool) (act : CycleAction) (p w : List Ev)
    (hp : ∀ e ∈ p, e.name = n) (hpe : entered p = []) (hw : StatesKept w) :
    StatesKept (.enter n a act :: (p ++ (w ++ [.exit n]))) := by
  intro s m
  have hent : ∀ x, x ∈ entered (.enter n a act :: (p ++ (w ++ [.exit n]))) ↔ n = some x ∨ x ∈ entered w := by
    intro x
    cases n <;> simp [entered, entered_append, hpe, eq_comm]
  rw [runEvs_cons, runEvs_append, runEvs_append]
  -- events of another name than `m` before and after `w`
  have skip : n ≠ some m →
      dGet m (runEvs (runEvs (runEvs (apply s (.enter n a act)) p) w) [.exit n]).states =
        dGet m (runEvs (runEvs (apply s (.enter n a act)) p) w).states ∧
      dGet m (runEvs (apply s (.enter n a act)) p).states = dGet m s.states := by
    intro hn
    refine ⟨apply_states_ne _ (.exit n) m hn, ?_⟩
    rw [runEvs_states_ne m p (fun e he => hp e he ▸ hn), apply_states_ne s (.enter n a act) m hn]
  constructor
  · intro hm
    have hm' := mt (hent m).mpr hm
    have hn : n ≠ some m := fun e => hm' (.inl e)
    rw [(skip hn).1, (hw _ m).1 (fun h => hm' (.inr h)), (skip hn).2]
  · intro hm hne
    by_cases hn : n = some m
    · subst hn
      exact exit_not_inProgress _ m hne
    · rw [(skip hn).1]
      exact (hw _ m).2 (((hent m).mp hm).resolve_left hn) hne

/-- Names that are not entered in a shaped word keep their state; names that are entered (and are
    truthy) are not IN_PROGRESS afterwards. -/
theorem shaped_states {w : List Ev} (hw : Shaped w) :
    ∀ (s : TrSt) (m : Str),
      (m ∉ entered w → dGet m (runEvs s w).states = dGet m s.states) ∧
      (m ∈ entered w → m ≠ [] → dGet m (runEvs s w).states ≠ some .inProgress) := by
  have nil : StatesKept [] := fun s m => ⟨fun _ => rfl, fun h => by cases h⟩
  refine hw.blocks (P := StatesKept) nil ?_
    (fun n a w ih => statesKept_bracket n a _ [] w (fun _ h => by cases h) rfl ih)
    (fun n a act _ => statesKept_bracket n a act [] [] (fun _ h => by cases h) rfl nil)
    (fun n a w ih => statesKept_bracket n a _ (.exit n :: resetEvs n) w ?_ (entered_resetEvs n) ih)
  · intro u v hu hv s m
    rw [runEvs_append, entered_append, List.mem_append]
    constructor
    · intro h
      rw [(hv _ m).1 (fun h' => h (.inr h')), (hu s m).1 (fun h' => h (.inl h'))]
    · intro h hne
      by_cases h2 : m ∈ entered v
      · exact (hv _ m).2 h2 hne
      · rw [(hv _ m).1 h2]
        exact (hu s m).2 (h.resolve_right h2) hne
  · refine List.forall_mem_cons.2 ⟨rfl, ?_⟩
    rcases resetEvs_cases n with e | ⟨k, rfl, e⟩ <;> rw [e]
    · nofun
    · exact List.forall_mem_singleton.2 rfl

end Pog.Trk
