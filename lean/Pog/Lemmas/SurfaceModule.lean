import Pog.Lemmas.SurfaceGroup
import Pog.Lemmas.ModuleKey
/-
  Two tag groups can never be written to the same `endpoints/<module>.py`: the module name determines the
  normalised key (`Pog.Lemmas.ModuleKey`), and the keys of the groups are pairwise different.
-/
namespace Pog

theorem tagPairs_key (u : UInfo) (ops : List TagOp) (p : Str × Str × Option Str) (hp : p ∈ tagPairs u ops) :
    p.1 = normTagKey u p.2.1 ∧ ∃ op ∈ ops, p.2.1 ∈ tagsOrDefault op := by
  unfold tagPairs at hp
  obtain ⟨op, hop, hp⟩ := List.mem_flatMap.1 hp
  obtain ⟨h1, h2⟩ := opTagPairs_mem u op.id _ [] p hp
  exact ⟨h1, op, hop, h2⟩

/-- The canonical tag of a group is one of the tags of some operation, and its normalised key is the group's key. -/
theorem groupEndpoints_canon (u : UInfo) (ops : List TagOp) (g : TagGroup) (hg : g ∈ groupEndpoints u ops) :
    g.key = normTagKey u g.canon ∧ (∃ op ∈ ops, g.canon ∈ tagsOrDefault op) ∧
      g.module = sanModule u g.canon ∧ g.cls = sanClass g.canon ++ kClientSuffix := by
  unfold groupEndpoints at hg
  obtain ⟨e, he, rfl⟩ := List.mem_map.1 hg
  rw [keyToPairs_eq] at he
  obtain ⟨h1, h2⟩ := gfold_entry _ _ _ e he
  have hne : e.2.map (·.1) ≠ [] := by simpa using h2
  have hsome := pyMaxTag_of_ne u _ hne
  have hmem := pyMaxTag_mem u _ _ hsome
  obtain ⟨q, hq, hqc⟩ := List.mem_map.1 hmem
  rw [h1] at hq
  obtain ⟨p, hp, rfl⟩ := List.mem_map.1 hq
  obtain ⟨hp1, hp2⟩ := List.mem_filter.1 hp
  obtain ⟨hk, hop⟩ := tagPairs_key u ops p hp1
  refine ⟨?_, ?_, rfl, rfl⟩
  · show e.1 = normTagKey u ((pyMaxTag u (e.2.map (·.1))).getD kDefaultTag)
    have hp2' : p.1 = e.1 := by simpa using hp2
    rw [← hqc, ← hk, hp2']
  · show ∃ op ∈ ops, (pyMaxTag u (e.2.map (·.1))).getD kDefaultTag ∈ tagsOrDefault op
    rw [← hqc]; exact hop

theorem kDefaultTag_ascii : kDefaultTag.all isAscii = true := by decide

theorem groupEndpoints_modules_nodup (u : UInfo) (ops : List TagOp)
    (hascii : ∀ op ∈ ops, ∀ t ∈ op.tags, t.all isAscii = true) :
    ((groupEndpoints u ops).map (·.module)).Nodup := by
  apply nodup_map_of_factor (groupEndpoints u ops) (·.module) (·.key) noUs _ (groupEndpoints_keys_nodup u ops)
  intro g hg
  obtain ⟨hk, ⟨op, hop, hc⟩, hm, _⟩ := groupEndpoints_canon u ops g hg
  have hca : g.canon.all isAscii = true := by
    unfold tagsOrDefault at hc
    split at hc
    · rw [List.mem_singleton.1 hc]; exact kDefaultTag_ascii
    · exact hascii op hop _ hc
  rw [hk, hm]
  exact normTagKey_eq_noUs_sanModule u g.canon hca

end Pog
