import Pog.Model.Extract
import Pog.Lemmas.Fresh
import Pog.Lemmas.ListExtra
/-
  Lemmas about `Pog.Model.Extract`.

  Both passes are one loop at two levels (`thread`: over the entries of the registry, and over the properties of one
  entry).  What holds of the loop is proved once; in particular its TRACE: every output element is the result of the
  one-element step at some intermediate side dictionary, and what the step made of that dictionary is a prefix of the
  final one — everything else is local case analysis on the one-property steps.  The trace is then read as OUTCOMES:
  per property `ItemOutcome` / `EnumOutcome` (kept, or promoted / extracted with the new registry entry), per registry
  entry `ItemsEntry` / `EnumsEntry` (`ArrEntry` / `EnumEntry` are the same entries at trace level; `enumEntry` of the
  model is something else: the schema registered for an extracted enum).
-/
namespace Pog.Extract
open Pog

/-- Two lists of the same length related position by position. -/
inductive All₂ {α β : Type} (R : α → β → Prop) : List α → List β → Prop
  | nil : All₂ R [] []
  | cons {a : α} {b : β} {as : List α} {bs : List β} : R a b → All₂ R as bs → All₂ R (a :: as) (b :: bs)

section
variable {α β : Type} {R : α → β → Prop} {a : List α} {b : List β}

theorem All₂.length_eq (h : All₂ R a b) :
    a.length = b.length := by
  induction h with
  | nil => rfl
  | cons _ _ ih => simp [ih]

theorem All₂.imp {S : α → β → Prop} (h : All₂ R a b) (hi : ∀ x y, R x y → S x y) : All₂ S a b := by
  induction h with
  | nil => exact All₂.nil
  | cons h1 _ ih => exact All₂.cons (hi _ _ h1) ih

theorem All₂.trans {γ : Type} {S : β → γ → Prop} {T : α → γ → Prop} {c : List γ} (h1 : All₂ R a b) (h2 : All₂ S b c)
    (hi : ∀ x y z, R x y → S y z → T x z) : All₂ T a c := by
  induction h1 generalizing c with
  | nil => cases h2; exact All₂.nil
  | cons r _ ih =>
    cases h2 with
    | cons s t => exact All₂.cons (hi _ _ _ r s) (ih t)

theorem All₂.map_eq {γ : Type} (f : α → γ) (g : β → γ) (h : All₂ R a b) (hi : ∀ x y, R x y → g y = f x) : b.map g = a.map f := by
  induction h with
  | nil => rfl
  | cons h1 _ ih => simp [hi _ _ h1, ih]

theorem All₂.of_mem_right (h : All₂ R a b) {y : β} (hy : y ∈ b) : ∃ x ∈ a, R x y := by
  induction h with
  | nil => cases hy
  | cons h1 _ ih =>
    rcases List.mem_cons.1 hy with rfl | hy
    · exact ⟨_, List.mem_cons_self, h1⟩
    · obtain ⟨x, hx, hr⟩ := ih hy
      exact ⟨x, List.mem_cons_of_mem _ hx, hr⟩

theorem All₂.append_left_inv {a' : List α} {c : List β} (h : All₂ R (a ++ a') c) :
    ∃ c1 c2, c = c1 ++ c2 ∧ All₂ R a c1 ∧ All₂ R a' c2 := by
  induction a generalizing c with
  | nil => exact ⟨[], c, rfl, All₂.nil, h⟩
  | cons x a ih =>
    cases h with
    | cons h1 ht =>
      obtain ⟨c1, c2, rfl, ha, hb⟩ := ih ht
      exact ⟨_ :: c1, c2, rfl, All₂.cons h1 ha, hb⟩

theorem All₂.and_mem (h : All₂ R a b) :
    All₂ (fun x y => x ∈ a ∧ R x y) a b := by
  induction h with
  | nil => exact All₂.nil
  | cons h1 _ ih =>
    exact All₂.cons ⟨List.mem_cons_self, h1⟩ (ih.imp (fun x y hxy => ⟨List.mem_cons_of_mem _ hxy.1, hxy.2⟩))

theorem All₂.take (h : All₂ R a b) (n : Nat) :
    All₂ R (a.take n) (b.take n) := by
  induction h generalizing n with
  | nil => simpa using All₂.nil
  | cons h1 _ ih =>
    cases n with
    | zero => simpa using All₂.nil
    | succ n => simpa using All₂.cons h1 (ih n)

end

theorem regKeys_append (a b : Reg) : regKeys (a ++ b) = regKeys a ++ regKeys b := by
  simp [regKeys]

theorem regKeys_cons (k : Str) (s : Schema) (r : Reg) : regKeys ((k, s) :: r) = k :: regKeys r := rfl

theorem dictSet_fresh (r : Reg) (k : Str) (v : Schema) (h : k ∉ regKeys r) :
    dictSet r k v = r ++ [(k, v)] := by
  induction r with
  | nil => rfl
  | cons e r ih =>
    obtain ⟨k', v'⟩ := e
    simp only [regKeys_cons, List.mem_cons, not_or] at h
    have hne : (k' == k) = false := by
      simp only [beq_eq_false_iff_ne, ne_eq]; exact fun e => h.1 e.symm
    simp only [dictSet, hne, Bool.false_eq_true, if_false, List.cons_append, ih h.2]

/-- Keys that are pairwise distinct and not in `keys`. -/
def FreshList (keys : List Str) (new : Reg) : Prop :=
  (regKeys new).Nodup ∧ ∀ k ∈ regKeys new, k ∉ keys

theorem FreshList.nil (keys : List Str) : FreshList keys [] := ⟨List.nodup_nil, by simp [regKeys]⟩

theorem FreshList.append {keys : List Str} {a b : Reg} (ha : FreshList keys a)
    (hb : FreshList (keys ++ regKeys a) b) : FreshList keys (a ++ b) := by
  rw [FreshList, regKeys_append]
  refine ⟨List.nodup_append.2 ⟨ha.1, hb.1, fun x hx y hy e => hb.2 y hy (List.mem_append_right _ (e ▸ hx))⟩, ?_⟩
  intro k hk
  rcases List.mem_append.1 hk with hk | hk
  · exact ha.2 k hk
  · exact fun hm => hb.2 k hk (List.mem_append_left _ hm)

theorem FreshList.snoc {keys : List Str} {new : Reg} (h : FreshList keys new) (k : Str) (v : Schema)
    (hk : k ∉ keys ++ regKeys new) : FreshList keys (new ++ [(k, v)]) :=
  h.append ⟨by simp [regKeys], fun x hx => by rwa [List.mem_singleton.1 hx]⟩

theorem FreshList.prefix {keys : List Str} {a b : Reg} (h : FreshList keys b) (hp : a <+: b) :
    FreshList keys a := by
  obtain ⟨t, rfl⟩ := hp
  rw [FreshList, regKeys_append] at h
  exact ⟨(List.nodup_append.1 h.1).1, fun k hk => h.2 k (List.mem_append_left _ hk)⟩

theorem dictUpdate_fresh (r new : Reg) (h : FreshList (regKeys r) new) : dictUpdate r new = r ++ new := by
  unfold dictUpdate
  induction new generalizing r with
  | nil => simp
  | cons e new ih =>
    obtain ⟨hnd, hk⟩ := h
    rw [regKeys_cons, List.nodup_cons] at hnd
    rw [List.foldl_cons, dictSet_fresh r e.1 e.2 (hk _ List.mem_cons_self), ih, List.append_assoc, List.singleton_append]
    -- the remaining keys are fresh for `r ++ [e]` too
    refine ⟨hnd.2, fun x hx hm => ?_⟩
    rcases List.mem_append.1 (regKeys_append _ _ ▸ hm) with hm | hm
    · exact hk x (List.mem_cons_of_mem _ hx) hm
    · exact hnd.1 ((List.mem_singleton.1 hm : x = e.1) ▸ hx)

theorem lookup_append_left (a b : Reg) (k : Str) (h : k ∈ regKeys a) : (a ++ b).lookup k = a.lookup k := by
  rw [List.lookup_append]
  cases h' : a.lookup k with
  | some v => rfl
  | none =>
    obtain ⟨p, hp, rfl⟩ := List.mem_map.1 h
    simpa using List.lookup_eq_none_iff.1 h' p hp

theorem lookup_append_right (a b : Reg) (k : Str) (h : k ∉ regKeys a) : (a ++ b).lookup k = b.lookup k := by
  have : a.lookup k = none := List.lookup_eq_none_iff.2 fun p hp => by
    simpa using fun e : k = p.1 => h (e ▸ List.mem_map_of_mem (f := (·.1)) hp)
  rw [List.lookup_append, this, Option.none_or]

/-- An entry appended on the way to a fresh side dictionary `final` has a new key, and is what `schemas[k]` gives after
    `schemas.update(final)`. -/
theorem lookup_of_snoc_prefix {keys : List Str} {r final new0 : Reg} {k : Str} {v : Schema}
    (hf : FreshList keys final) (hk : regKeys r = keys) (h : new0 ++ [(k, v)] <+: final) :
    k ∉ keys ∧ (r ++ final).lookup k = some v := by
  have hm : (k, v) ∈ final := List.IsPrefix.mem (by simp) h
  have hkey : k ∈ regKeys final := List.mem_map_of_mem (f := (·.1)) hm
  refine ⟨hf.2 k hkey, ?_⟩
  rw [lookup_append_right _ _ _ (hk ▸ hf.2 k hkey)]
  exact lookup_of_mem_nodup hf.1 hm

/-- The fuel `|taken| + 1` of `inlineName` always suffices: the python `while` loop terminates, on a name that is not
    taken, the base or the base with a number. -/
theorem inlineName_total (taken : List Str) (base : Str) :
    inlineName taken base = some (freshT taken base) ∧ freshT taken base ∉ taken ∧
      (freshT taken base = base ∨ ∃ k, freshT taken base = base ++ natStr k) := by
  obtain ⟨n, hn, h⟩ := freshName_spec (sufPlain base) 1 taken base (sufPlain_inj base)
  have : inlineName taken base = some n := hn
  simp only [freshT, this, Option.getD_some]
  exact ⟨trivial, h⟩

theorem freshT_not_mem (taken : List Str) (base : Str) : freshT taken base ∉ taken :=
  (inlineName_total taken base).2.1

theorem freshT_shape (taken : List Str) (base : Str) :
    freshT taken base = base ∨ ∃ k, freshT taken base = base ++ natStr k :=
  (inlineName_total taken base).2.2

theorem freshT_ne_nil (taken : List Str) (base : Str) (h : base ≠ []) : freshT taken base ≠ [] := by
  rcases freshT_shape taken base with e | ⟨k, e⟩ <;> rw [e]
  · exact h
  · simp [h]

theorem append_natStr_ne (base : Str) (k : Nat) {target : Str} (hne : target ≠ [])
    (hlast : isDigitA (target.getLast hne) = false) : base ++ natStr k ≠ target := by
  intro e
  obtain ⟨ds, d, hk, hd⟩ := natStr_snoc k
  rw [hk, ← List.append_assoc] at e
  subst e
  rw [List.getLast_concat, hd] at hlast
  cases hlast

/-- A name that does not end in a digit is only produced from itself. -/
theorem freshT_eq_nodigit (taken : List Str) (base target : Str) (hne : target ≠ [])
    (hlast : ∀ h : target ≠ [], isDigitA (target.getLast h) = false)
    (h : freshT taken base = target) : base = target := by
  rcases freshT_shape taken base with e | ⟨k, e⟩
  · rw [← e, h]
  · exact absurd (e.symm.trans h) (append_natStr_ne base k hne (hlast hne))

/-- A side dictionary is threaded through a keyed list whose values are rewritten.  Both passes are this loop
    twice: over the entries of the registry, and inside over the properties of one entry. -/
def thread {α β : Type} (f : Reg → Str → α → Reg × β) : Reg → List (Str × α) → Reg × List (Str × β)
  | new, [] => (new, [])
  | new, p :: rest =>
    ((thread f (f new p.1 p.2).1 rest).1, (p.1, (f new p.1 p.2).2) :: (thread f (f new p.1 p.2).1 rest).2)

section
variable {α β : Type} {f : Reg → Str → α → Reg × β} (I : Reg → Prop) (as : List (Str × α))

theorem thread_inv (hI : ∀ p ∈ as, ∀ new, I new → I (f new p.1 p.2).1) : ∀ new, I new → I (thread f new as).1 := by
  induction as with
  | nil => exact fun _ h => h
  | cons p rest ih =>
    exact fun new h => ih (fun q hq => hI q (List.mem_cons_of_mem _ hq)) _ (hI p List.mem_cons_self new h)

theorem thread_forall (P : Str × Schema → Prop)
    (hP : ∀ p ∈ as, ∀ new, (∀ x ∈ new, P x) → ∀ x ∈ (f new p.1 p.2).1, P x) :
    ∀ new, (∀ x ∈ new, P x) → ∀ x ∈ (thread f new as).1, P x :=
  thread_inv (fun r => ∀ x ∈ r, P x) as hP

theorem thread_prefix (hp : ∀ new k a, new <+: (f new k a).1) (new : Reg) : new <+: (thread f new as).1 :=
  thread_inv (new <+: ·) as (fun p _ s h => h.trans (hp s p.1 p.2)) new (List.prefix_refl _)

/-- Every output element keeps its key and is the step at some intermediate side dictionary `s` that satisfies
    the invariant; what the step made of `s` is a prefix of `final`. -/
theorem thread_trace (hI : ∀ new k a, I new → I (f new k a).1) (hp : ∀ new k a, new <+: (f new k a).1)
    (final : Reg) : ∀ new, I new → (thread f new as).1 <+: final →
      All₂ (fun p p' => p'.1 = p.1 ∧ ∃ s, I s ∧ p'.2 = (f s p.1 p.2).2 ∧ (f s p.1 p.2).1 <+: final)
        as (thread f new as).2 := by
  induction as with
  | nil => exact fun _ _ _ => All₂.nil
  | cons p rest ih =>
    exact fun new h hfin =>
      All₂.cons ⟨rfl, new, h, rfl, (thread_prefix rest hp _).trans hfin⟩ (ih _ (hI new p.1 p.2 h) hfin)

theorem thread_quiet {f : Reg → Str → α → Reg × α} (h : ∀ p ∈ as, ∀ new, f new p.1 p.2 = (new, p.2)) (new : Reg) :
    thread f new as = (new, as) := by
  induction as with
  | nil => rfl
  | cons p rest ih =>
    rw [thread, h p List.mem_cons_self, ih (fun q hq => h q (List.mem_cons_of_mem _ hq))]

end

section
variable {u : UInfo} {keys : List Str} {sname : Str} {new : Reg} {pn : Str} {ps : Schema}

theorem arrayProp_none (h : wantsItem ps = none) : arrayProp u keys sname new pn ps = (new, ps) := by
  simp only [arrayProp, h]

theorem arrayProp_some {it : Schema} (h : wantsItem ps = some it) :
    arrayProp u keys sname new pn ps =
      (new ++ [(freshT (keys ++ regKeys new) (itemBaseName u sname pn it),
                { it with name := some (freshT (keys ++ regKeys new) (itemBaseName u sname pn it)) })],
       { ps with items := some { it with name := some (freshT (keys ++ regKeys new) (itemBaseName u sname pn it)) } }) := by
  simp only [arrayProp, h]

end

section
variable (u : UInfo) (keys : List Str)

theorem arrayProp_prefix (sname : Str) (new : Reg) (pn : Str) (ps : Schema) :
    new <+: (arrayProp u keys sname new pn ps).1 := by
  cases h : wantsItem ps with
  | none => rw [arrayProp_none h]; exact List.prefix_refl _
  | some it => rw [arrayProp_some h]; exact List.prefix_append _ _

theorem arrayProp_fresh (sname : Str) (new : Reg) (pn : Str) (ps : Schema) (hf : FreshList keys new) :
    FreshList keys (arrayProp u keys sname new pn ps).1 := by
  cases h : wantsItem ps with
  | none => rw [arrayProp_none h]; exact hf
  | some it =>
    rw [arrayProp_some h]
    exact hf.snoc _ _ (freshT_not_mem _ _)

theorem arrayProps_eq (sname : Str) (props : List (Str × Schema)) :
    ∀ new, arrayProps u keys sname new props = thread (arrayProp u keys sname) new props := by
  induction props with
  | nil => exact fun _ => rfl
  | cons p rest ih => exact fun new => by simp only [arrayProps, thread, ih]

/-- The loop body for one registry entry. -/
def arrayBody (new : Reg) (k : Str) (s : Schema) : Reg × Schema :=
  ((thread (arrayProp u keys k) new s.props).1, { s with props := (thread (arrayProp u keys k) new s.props).2 })

theorem arraySchemas_eq (reg : Reg) : ∀ new, arraySchemas u keys new reg = thread (arrayBody u keys) new reg := by
  induction reg with
  | nil => exact fun _ => rfl
  | cons e rest ih => exact fun new => by simp only [arraySchemas, thread, arrayBody, arrayProps_eq, ih]

theorem arrayBody_fresh (new : Reg) (k : Str) (s : Schema) (hf : FreshList keys new) :
    FreshList keys (arrayBody u keys new k s).1 :=
  thread_inv (FreshList keys) _ (fun p _ new => arrayProp_fresh u keys k new p.1 p.2) new hf

/-- Output property `p'` is the one-property step applied to `p` at some intermediate side dictionary,
    and what the step added is in the final side dictionary. -/
def ArrStep (final : Reg) (sname : Str) (p p' : Str × Schema) : Prop :=
  p'.1 = p.1 ∧ ∃ new0, FreshList keys new0 ∧ p'.2 = (arrayProp u keys sname new0 p.1 p.2).2 ∧
    (arrayProp u keys sname new0 p.1 p.2).1 <+: final

/-- What the array pass does to one registry entry, at trace level (`ItemsEntry` says what came of it). -/
def ArrEntry (final : Reg) (e e' : Str × Schema) : Prop :=
  e'.1 = e.1 ∧ ∃ props', e'.2 = { e.2 with props := props' } ∧
    All₂ (ArrStep u keys final e.1) e.2.props props'

end

theorem All₂.regKeys_eq {R : Str × Schema → Str × Schema → Prop} {a b : Reg}
    (h : All₂ R a b) (hk : ∀ e e', R e e' → e'.1 = e.1) : regKeys b = regKeys a := by
  unfold regKeys
  exact h.map_eq (fun e => e.1) (fun e => e.1) hk

section
variable (u : UInfo) (reg : Reg)

theorem arrayPass_fresh : FreshList (regKeys reg) (arrayPass u reg).1 := by
  rw [arrayPass, arraySchemas_eq]
  exact thread_inv (FreshList (regKeys reg)) _ (fun e _ new => arrayBody_fresh u _ new e.1 e.2) [] (FreshList.nil _)

theorem arrayPass_trace : All₂ (ArrEntry u (regKeys reg) (arrayPass u reg).1) reg (arrayPass u reg).2 := by
  rw [arrayPass, arraySchemas_eq]
  refine (thread_trace _ reg (arrayBody_fresh u _) (fun _ k _ => thread_prefix _ (arrayProp_prefix u _ k) _) _ [] (FreshList.nil _)
    (List.prefix_refl _)).imp ?_
  rintro e e' ⟨h1, new, hf, h2, h3⟩
  exact ⟨h1, _, h2, thread_trace _ _ (arrayProp_fresh u _ e.1) (arrayProp_prefix u _ e.1) _ new hf h3⟩

theorem arrayPass_keys : regKeys (arrayPass u reg).2 = regKeys reg :=
  All₂.regKeys_eq (arrayPass_trace u reg) (fun _ _ h => h.1)

/-- `schemas.update(new_item_schemas)` appends. -/
theorem extractArrayItems_eq : extractArrayItems u reg = (arrayPass u reg).2 ++ (arrayPass u reg).1 := by
  unfold extractArrayItems
  exact dictUpdate_fresh _ _ (by rw [arrayPass_keys]; exact arrayPass_fresh u reg)

end

/-- `view` has the keys of `reg1` and, entry by entry, the same `enum` — all the enum pass reads from
    `schemas` (apart from the dead reuse branch). -/
def ViewOf (reg1 view : Reg) : Prop :=
  view.map (fun e => (e.1, e.2.enumVals)) = reg1.map (fun e => (e.1, e.2.enumVals))

theorem ViewOf.refl (r : Reg) : ViewOf r r := rfl

theorem ViewOf.keys {reg1 view : Reg} (h : ViewOf reg1 view) : regKeys view = regKeys reg1 := by
  have := congrArg (List.map (fun (p : Str × Option (List Str)) => p.1)) h
  simpa [regKeys, List.map_map, Function.comp_def] using this

theorem lookup_map_snd {β γ : Type} (f : β → γ) (l : List (Str × β)) (k : Str) :
    (l.map (fun e => (e.1, f e.2))).lookup k = (l.lookup k).map f := by
  induction l with
  | nil => rfl
  | cons e l ih =>
    obtain ⟨k', v⟩ := e
    simp only [List.map_cons, List.lookup_cons]
    cases k == k' <;> simp [ih]

theorem ViewOf.lookup {reg1 view : Reg} (h : ViewOf reg1 view) (k : Str) :
    (view.lookup k).map (·.enumVals) = (reg1.lookup k).map (·.enumVals) := by
  rw [← lookup_map_snd, ← lookup_map_snd, h]

theorem viewOf_step {reg1 pre rest : Reg} {k : Str} {s s' : Schema} (h : ViewOf reg1 (pre ++ (k, s) :: rest))
    (he : s'.enumVals = s.enumVals) : ViewOf reg1 (pre ++ (k, s') :: rest) := by
  unfold ViewOf at h ⊢
  rw [← h]
  simp [he]

theorem refsEnum_congr {reg1 view : Reg} (h : ViewOf reg1 view) (x : Option Str) :
    refsEnum view x = refsEnum reg1 x := by
  unfold refsEnum lookupRef
  match x with
  | none => rfl
  | some [] => rfl
  | some (c :: cs) =>
    have := h.lookup (c :: cs)
    cases h1 : view.lookup (c :: cs) <;> cases h2 : reg1.lookup (c :: cs) <;>
      simp only [h1, h2, Option.map_none, Option.map_some, reduceCtorEq, Option.some.injEq] at this ⊢
    rw [this]

theorem alreadyExtracted_congr {reg1 view : Reg} (h : ViewOf reg1 view) (u : UInfo) (pn : Str) (ps : Schema) :
    alreadyExtracted u view pn ps = alreadyExtracted u reg1 pn ps := by
  simp only [alreadyExtracted, refsEnum_congr h]

/-- The one-property step without the reuse branch. -/
def enumPropS (u : UInfo) (view : Reg) (disc : List (Str × Str)) (sname : Str) (newE : Reg) (pn : Str)
    (ps : Schema) : Reg × Schema :=
  if disc.contains (sname, pn) || !hasInlineEnum ps || alreadyExtracted u view pn ps then (newE, ps)
  else
    (newE ++ [(freshT (regKeys view ++ regKeys newE) (enumBaseName sname pn ps),
               enumEntry u (freshT (regKeys view ++ regKeys newE) (enumBaseName sname pn ps)) ps.ty ps.enumVals)],
     pointAt u ps (freshT (regKeys view ++ regKeys newE) (enumBaseName sname pn ps)))

/-- The reuse branch (extractor.py:268-277) is dead: its guard is the fourth disjunct of
    `enum_already_extracted`, which is false where the branch is. -/
theorem enumProp_eq (u : UInfo) (view : Reg) (disc : List (Str × Str)) (sname : Str) (newE : Reg) (pn : Str)
    (ps : Schema) : enumProp u view disc sname newE pn ps = enumPropS u view disc sname newE pn ps := by
  unfold enumProp enumPropS
  cases hd : disc.contains (sname, pn)
  · cases hi : hasInlineEnum ps
    · simp
    · cases ha : alreadyExtracted u view pn ps
      · have hr : refsEnum view ps.ty = false := by
          simp only [alreadyExtracted, Bool.or_eq_false_iff] at ha
          exact ha.2
        simp only [Bool.false_eq_true, if_false, Bool.not_false, Bool.and_self, if_true, Bool.not_true,
          Bool.or_self]
        unfold refsEnum at hr
        cases hl : lookupRef view ps.ty with
        | none => rfl
        | some te =>
          obtain ⟨t, e⟩ := te
          simp only [hl] at hr
          simp only [hr, Bool.false_eq_true, if_false]
      · simp
  · simp

theorem enumPropS_congr {reg1 view : Reg} (h : ViewOf reg1 view) (u : UInfo) (disc : List (Str × Str))
    (sname : Str) : enumPropS u view disc sname = enumPropS u reg1 disc sname := by
  funext newE pn ps
  simp only [enumPropS, alreadyExtracted_congr h, h.keys]

theorem enumProps_eq (u : UInfo) (view : Reg) (disc : List (Str × Str)) (sname : Str)
    (props : List (Str × Schema)) :
    ∀ newE, enumProps u view disc sname newE props = thread (enumPropS u view disc sname) newE props := by
  induction props with
  | nil => exact fun _ => rfl
  | cons p rest ih => exact fun newE => by simp only [enumProps, thread, enumProp_eq, ih]

theorem fixTop_props (s : Schema) : (fixTop s).props = s.props := by
  unfold fixTop; split <;> rfl

theorem fixTop_enumVals (s : Schema) : (fixTop s).enumVals = s.enumVals := by
  unfold fixTop; split <;> rfl

section
variable (u : UInfo) (reg1 : Reg) (disc : List (Str × Str))

/-- The loop body for one registry entry, reading the registry `reg1` the pass started from. -/
def enumBody (newE : Reg) (k : Str) (s : Schema) : Reg × Schema :=
  ((thread (enumPropS u reg1 disc k) newE (fixTop s).props).1,
   { fixTop s with props := (thread (enumPropS u reg1 disc k) newE (fixTop s).props).2 })

/-- The dictionary the body sees differs from `reg1` only where the pass has already been (`pre`), and there
    only in fields the pass does not read: so the outer loop is `thread` as well. -/
theorem enumSchemas_eq (todo : Reg) : ∀ pre newE, ViewOf reg1 (pre ++ todo) →
    enumSchemas u disc pre newE todo = thread (enumBody u reg1 disc) newE todo := by
  induction todo with
  | nil => exact fun _ _ _ => rfl
  | cons e rest ih =>
    intro pre newE hv
    obtain ⟨k, s⟩ := e
    have hv1 : ViewOf reg1 (pre ++ (k, fixTop s) :: rest) := viewOf_step hv (fixTop_enumVals s)
    simp only [enumSchemas, thread, enumBody, enumProps_eq, enumPropS_congr hv1]
    rw [ih _ _ (by rw [List.append_assoc]; exact viewOf_step hv (by simp [fixTop_enumVals]))]

theorem enumPass_eq : enumPass u disc reg1 = thread (enumBody u reg1 disc) [] reg1 :=
  enumSchemas_eq u reg1 disc reg1 [] [] (ViewOf.refl _)

theorem enumPropS_prefix (sname : Str) (newE : Reg) (pn : Str) (ps : Schema) :
    newE <+: (enumPropS u reg1 disc sname newE pn ps).1 := by
  unfold enumPropS
  split
  · exact List.prefix_refl _
  · exact List.prefix_append _ _

theorem enumPropS_fresh (sname : Str) (newE : Reg) (pn : Str) (ps : Schema) (hf : FreshList (regKeys reg1) newE) :
    FreshList (regKeys reg1) (enumPropS u reg1 disc sname newE pn ps).1 := by
  unfold enumPropS
  split
  · exact hf
  · exact hf.snoc _ _ (freshT_not_mem _ _)

theorem enumBody_fresh (newE : Reg) (k : Str) (s : Schema) (hf : FreshList (regKeys reg1) newE) :
    FreshList (regKeys reg1) (enumBody u reg1 disc newE k s).1 :=
  thread_inv (FreshList (regKeys reg1)) _ (fun p _ newE => enumPropS_fresh u reg1 disc k newE p.1 p.2) newE hf

def EnumStep (u : UInfo) (reg1 : Reg) (disc : List (Str × Str)) (final : Reg) (sname : Str)
    (p p' : Str × Schema) : Prop :=
  p'.1 = p.1 ∧ ∃ newE0, FreshList (regKeys reg1) newE0 ∧
    p'.2 = (enumPropS u reg1 disc sname newE0 p.1 p.2).2 ∧
    (enumPropS u reg1 disc sname newE0 p.1 p.2).1 <+: final

/-- What the enum pass does to one registry entry, at trace level (`EnumsEntry` says what came of it). -/
def EnumEntry (u : UInfo) (reg1 : Reg) (disc : List (Str × Str)) (final : Reg) (e e' : Str × Schema) : Prop :=
  e'.1 = e.1 ∧ ∃ props', e'.2 = { fixTop e.2 with props := props' } ∧
    All₂ (EnumStep u reg1 disc final e.1) e.2.props props'

theorem enumPass_fresh : FreshList (regKeys reg1) (enumPass u disc reg1).1 := by
  rw [enumPass_eq]
  exact thread_inv (FreshList (regKeys reg1)) _ (fun e _ newE => enumBody_fresh u reg1 disc newE e.1 e.2) [] (FreshList.nil _)

theorem enumPass_trace : All₂ (EnumEntry u reg1 disc (enumPass u disc reg1).1) reg1 (enumPass u disc reg1).2 := by
  rw [enumPass_eq]
  refine (thread_trace _ reg1 (enumBody_fresh u reg1 disc) (fun _ k _ => thread_prefix _ (enumPropS_prefix u reg1 disc k) _) _ []
    (FreshList.nil _) (List.prefix_refl _)).imp ?_
  rintro e e' ⟨h1, newE, hf, h2, h3⟩
  rw [enumBody, fixTop_props] at h2 h3
  exact ⟨h1, _, h2, thread_trace _ _ (enumPropS_fresh u reg1 disc e.1) (enumPropS_prefix u reg1 disc e.1) _ newE hf h3⟩

theorem enumPass_keys : regKeys (enumPass u disc reg1).2 = regKeys reg1 :=
  All₂.regKeys_eq (enumPass_trace u reg1 disc) (fun _ _ h => h.1)

end

variable (u : UInfo) (reg : Reg) (disc : List (Str × Str))

/-- `schemas.update(new_enums)` appends. -/
theorem extractEnums_eq :
    extractEnums u reg disc =
      (enumPass u disc (extractArrayItems u reg)).2 ++ (enumPass u disc (extractArrayItems u reg)).1 := by
  unfold extractEnums
  exact dictUpdate_fresh _ _ (by rw [enumPass_keys]; exact enumPass_fresh u _ disc)

/-- The registry after both passes: the original entries (after both in-place mutations), the promoted
    item schemas (after the enum pass), the extracted enums. -/
theorem extractEnums_decomp (u : UInfo) (reg : Reg) (disc : List (Str × Str)) :
    ∃ regE1 regE2 : Reg,
      extractEnums u reg disc = regE1 ++ regE2 ++ (enumPass u disc (extractArrayItems u reg)).1 ∧
      All₂ (EnumEntry u (extractArrayItems u reg) disc (enumPass u disc (extractArrayItems u reg)).1)
        (arrayPass u reg).2 regE1 ∧
      All₂ (EnumEntry u (extractArrayItems u reg) disc (enumPass u disc (extractArrayItems u reg)).1)
        (arrayPass u reg).1 regE2 := by
  have ht := enumPass_trace u (extractArrayItems u reg) disc
  -- only the list that is walked is split, not the registry the relation reads
  conv at ht => arg 2; rw [extractArrayItems_eq]
  obtain ⟨c1, c2, hc, h1, h2⟩ := ht.append_left_inv
  exact ⟨c1, c2, by rw [extractEnums_eq, hc], h1, h2⟩

theorem extractArrayItems_keys :
    regKeys (extractArrayItems u reg) = regKeys reg ++ regKeys (arrayPass u reg).1 := by
  rw [extractArrayItems_eq, regKeys_append, arrayPass_keys]

theorem extractEnums_keys :
    regKeys (extractEnums u reg disc) =
      regKeys reg ++ regKeys (arrayPass u reg).1 ++ regKeys (enumPass u disc (extractArrayItems u reg)).1 := by
  rw [extractEnums_eq, regKeys_append, enumPass_keys, extractArrayItems_keys]

theorem regKeys_length (r : Reg) : (regKeys r).length = r.length := by simp [regKeys]

theorem postOk_of_keys (orig out : Reg) (extra : List Str) (h : regKeys out = regKeys orig ++ extra) :
    postOk orig out = true := by
  have hl : orig.length ≤ out.length := by
    have := congrArg List.length h
    simp only [regKeys_length, List.length_append] at this
    omega
  simp only [postOk, hl, decide_true, Bool.true_and, List.all_eq_true, List.contains_iff_mem, h]
  intro k hk
  exact List.mem_append_left _ hk

theorem new_keys_fresh :
    FreshList (regKeys reg)
      ((arrayPass u reg).1 ++ (enumPass u disc (extractArrayItems u reg)).1) :=
  (arrayPass_fresh u reg).append (extractArrayItems_keys u reg ▸ enumPass_fresh u (extractArrayItems u reg) disc)

/-- The array pass on one property schema `ps` (result `ps'`), `out1` being the registry after the pass. -/
inductive ItemOutcome (keys : List Str) (out1 : Reg) (ps ps' : Schema) : Prop
  | kept (h : ps' = ps) (why : wantsItem ps = none)
  | promoted (it : Schema) (nm : Str) (hw : wantsItem ps = some it) (hne : nm ≠ []) (hfresh : nm ∉ keys)
      (hentry : out1.lookup nm = some { it with name := some nm })
      (hp : ps' = { ps with items := some { it with name := some nm } })

theorem itemBaseName_ne_nil (sname pn : Str) (it : Schema) : itemBaseName u sname pn it ≠ [] := by
  unfold itemBaseName
  split
  · split <;> simp
  · simp

/-- The enum pass on one property schema. -/
inductive EnumOutcome (u : UInfo) (reg1 : Reg) (disc : List (Str × Str)) (out : Reg) (sname pn : Str)
    (ps ps' : Schema) : Prop
  | kept (h : ps' = ps)
      (why : disc.contains (sname, pn) = true ∨ hasInlineEnum ps = false ∨ alreadyExtracted u reg1 pn ps = true)
  | extracted (en : Str) (hd : disc.contains (sname, pn) = false) (hi : hasInlineEnum ps = true)
      (ha : alreadyExtracted u reg1 pn ps = false) (hfresh : en ∉ regKeys reg1)
      (hshape : en = enumBaseName sname pn ps ∨ ∃ k, en = enumBaseName sname pn ps ++ natStr k)
      (hentry : out.lookup en = some (enumEntry u en ps.ty ps.enumVals))
      (hp : ps' = pointAt u ps en)

theorem ItemOutcome.fields {keys : List Str} {out1 : Reg} {ps ps' : Schema} (h : ItemOutcome keys out1 ps ps') :
    ps'.name = ps.name ∧ ps'.ty = ps.ty ∧ ps'.genName = ps.genName ∧ ps'.stem = ps.stem ∧
      ps'.enumVals = ps.enumVals ∧ ps'.props = ps.props := by
  cases h with
  | kept h _ => subst h; simp
  | promoted it nm _ _ _ _ hp => subst hp; simp

theorem EnumOutcome.fields {u : UInfo} {reg1 : Reg} {disc : List (Str × Str)} {out : Reg} {sname pn : Str}
    {ps ps' : Schema} (h : EnumOutcome u reg1 disc out sname pn ps ps') :
    ps'.items = ps.items ∧ ps'.props = ps.props ∧ ps'.anyOf = ps.anyOf ∧ ps'.oneOf = ps.oneOf ∧
      ps'.allOf = ps.allOf := by
  cases h with
  | kept h _ => subst h; simp
  | extracted en _ _ _ _ _ _ hp => subst hp; simp [pointAt]

def ItemsEntry (keys : List Str) (out1 : Reg) (e e' : Str × Schema) : Prop :=
  e'.1 = e.1 ∧ (∃ props', e'.2 = { e.2 with props := props' }) ∧
    All₂ (fun p p' => p'.1 = p.1 ∧ ItemOutcome keys out1 p.2 p'.2) e.2.props e'.2.props

theorem arrayPass_outcomes :
    All₂ (ItemsEntry (regKeys reg) (extractArrayItems u reg)) reg (arrayPass u reg).2 := by
  rw [extractArrayItems_eq]
  refine (arrayPass_trace u reg).imp ?_
  rintro e e' ⟨h1, props', h2, h3⟩
  refine ⟨h1, ⟨props', h2⟩, ?_⟩
  rw [h2]
  refine h3.imp ?_
  rintro p p' ⟨hp, new0, _, hp2, hp3⟩
  refine ⟨hp, ?_⟩
  cases hw : wantsItem p.2 with
  | none =>
    rw [arrayProp_none hw] at hp2
    exact ItemOutcome.kept hp2 hw
  | some it =>
    rw [arrayProp_some hw] at hp2 hp3
    obtain ⟨hnew, hlook⟩ := lookup_of_snoc_prefix (arrayPass_fresh u reg) (arrayPass_keys u reg) hp3
    exact ItemOutcome.promoted it _ hw (freshT_ne_nil _ _ (itemBaseName_ne_nil u e.1 p.1 it)) hnew hlook hp2

def EnumsEntry (u : UInfo) (reg1 : Reg) (disc : List (Str × Str)) (out : Reg) (e e' : Str × Schema) : Prop :=
  e'.1 = e.1 ∧ (∃ props', e'.2 = { fixTop e.2 with props := props' }) ∧
    All₂ (fun p p' => p'.1 = p.1 ∧ EnumOutcome u reg1 disc out e.1 p.1 p.2 p'.2) e.2.props e'.2.props

theorem enumPass_outcomes (disc : List (Str × Str)) (reg1 : Reg) :
    All₂ (EnumsEntry u reg1 disc ((enumPass u disc reg1).2 ++ (enumPass u disc reg1).1)) reg1
      (enumPass u disc reg1).2 := by
  refine (enumPass_trace u reg1 disc).imp ?_
  rintro e e' ⟨h1, props', h2, h3⟩
  refine ⟨h1, ⟨props', h2⟩, ?_⟩
  rw [h2]
  refine h3.imp ?_
  rintro p p' ⟨hp, newE0, _, hp2, hp3⟩
  refine ⟨hp, ?_⟩
  unfold enumPropS at hp2 hp3
  split at hp2
  · rename_i hc
    simp only [Bool.or_eq_true, Bool.not_eq_eq_eq_not, Bool.not_true, or_assoc] at hc
    exact EnumOutcome.kept hp2 hc
  · rename_i hc
    rw [if_neg hc] at hp3
    simp only [Bool.or_eq_true, Bool.not_eq_eq_eq_not, Bool.not_true, not_or, Bool.not_eq_true,
      Bool.not_eq_false] at hc
    obtain ⟨hnew, hlook⟩ := lookup_of_snoc_prefix (enumPass_fresh u reg1 disc) (enumPass_keys u reg1 disc) hp3
    exact EnumOutcome.extracted _ hc.1.1 hc.1.2 hc.2 hnew (freshT_shape _ _) hlook hp2

theorem extractEnums_take :
    (extractEnums u reg disc).take (extractArrayItems u reg).length =
      (enumPass u disc (extractArrayItems u reg)).2 := by
  rw [extractEnums_eq]
  exact List.take_left' (enumPass_trace u _ disc).length_eq.symm

theorem extractArrayItems_take :
    (extractArrayItems u reg).take reg.length = (arrayPass u reg).2 := by
  rw [extractArrayItems_eq]
  exact List.take_left' (arrayPass_trace u reg).length_eq.symm

/-- Original entries through BOTH passes. -/
def BothEntry (e e'' : Str × Schema) : Prop :=
  ∃ e', ItemsEntry (regKeys reg) (extractArrayItems u reg) e e' ∧
    EnumsEntry u (extractArrayItems u reg) disc (extractEnums u reg disc) e' e''

theorem extractEnums_originals :
    All₂ (BothEntry u reg disc) reg ((extractEnums u reg disc).take reg.length) := by
  have hle : reg.length ≤ (extractArrayItems u reg).length := by
    rw [extractArrayItems_eq, List.length_append, ← (arrayPass_trace u reg).length_eq]
    exact Nat.le_add_right _ _
  have h2 := (enumPass_outcomes u disc (extractArrayItems u reg)).take reg.length
  rw [← extractEnums_eq, extractArrayItems_take, ← extractEnums_take, List.take_take, Nat.min_eq_left hle] at h2
  exact (arrayPass_outcomes u reg).trans h2 (fun x y z hxy hyz => ⟨y, hxy, hyz⟩)

theorem enumBaseName_ne_array (sname pn : Str) (ps : Schema) (h : ps.genName ≠ some sArray) :
    enumBaseName sname pn ps ≠ sArray := by
  unfold enumBaseName
  split
  · rename_i c cs hg
    intro he
    exact h (by rw [hg, he])
  · intro he
    simpa using congrArg List.reverse he

theorem hasInlineEnum_not_array (ps : Schema) (h : hasInlineEnum ps = true) : (ps.ty == some sArray) = false := by
  unfold hasInlineEnum at h
  cases ht : ps.ty with
  | none => rfl
  | some t =>
    simp only [ht, Bool.and_eq_true] at h
    have := h.2
    simp only [primEnumTypes, List.contains_iff_mem, List.mem_cons, List.not_mem_nil, or_false] at this
    rcases this with rfl | rfl | rfl <;> decide

theorem EnumOutcome.arrayNature {u : UInfo} {reg1 : Reg} {disc : List (Str × Str)} {out : Reg} {sname pn : Str}
    {ps ps' : Schema} (h : EnumOutcome u reg1 disc out sname pn ps ps') (hg : ps.genName ≠ some sArray) :
    (ps'.ty == some sArray) = (ps.ty == some sArray) := by
  cases h with
  | kept h _ => subst h; rfl
  | extracted en _ hi _ _ hshape _ hp =>
    subst hp
    rw [hasInlineEnum_not_array ps hi]
    have hne : en ≠ sArray := by
      rcases hshape with e | ⟨k, e⟩ <;> rw [e]
      · exact enumBaseName_ne_array sname pn ps hg
      · exact append_natStr_ne _ k (List.cons_ne_nil _ _) (by decide)
    simp only [pointAt, beq_eq_false_iff_ne, ne_eq, Option.some.injEq]
    exact hne

/-- No property carries the generation name `array`. -/
def noArrayGen (s : Schema) : Bool := s.props.all (fun p => !(p.2.genName == some sArray))

theorem BothEntry.arrayNature {u : UInfo} {reg : Reg} {disc : List (Str × Str)} {e e'' : Str × Schema}
    (h : BothEntry u reg disc e e'') (hg : noArrayGen e.2 = true) :
    e''.2.props.map (fun p => p.2.ty == some sArray) = e.2.props.map (fun p => p.2.ty == some sArray) := by
  obtain ⟨e', h1, h2⟩ := h
  refine (h1.2.2.and_mem.trans h2.2.2 (T := fun (p p'' : Str × Schema) => (p''.2.ty == some sArray) = (p.2.ty == some sArray))
    ?_).map_eq _ _ (fun _ _ hp => hp)
  rintro p p' p'' ⟨hm, _, ho1⟩ ⟨_, ho2⟩
  have hf := ho1.fields
  have hgp : p.2.genName ≠ some sArray := by
    simp only [noArrayGen, List.all_eq_true, Bool.not_eq_eq_eq_not, Bool.not_true, beq_eq_false_iff_ne] at hg
    exact hg p hm
  rw [ho2.arrayNature (by rw [hf.2.2.1]; exact hgp), hf.2.1]

theorem arrayPass_items_origin :
    ∀ x ∈ (arrayPass u reg).1, ∃ e ∈ reg, ∃ p ∈ e.2.props, ∃ it, wantsItem p.2 = some it ∧
      x.2 = { it with name := some x.1 } := by
  rw [arrayPass, arraySchemas_eq]
  refine thread_forall _ _ (fun e he new h => ?_) [] (fun _ hx => nomatch hx)
  refine thread_forall _ _ (fun p hp new h => ?_) new h
  cases hw : wantsItem p.2 with
  | none => rw [arrayProp_none hw]; exact h
  | some it =>
    rw [arrayProp_some hw]
    exact List.forall_mem_append.2 ⟨h, List.forall_mem_singleton.2 ⟨e, he, p, hp, it, hw, rfl⟩⟩

theorem enumPass_enums_origin (disc : List (Str × Str)) (reg1 : Reg) :
    ∀ x ∈ (enumPass u disc reg1).1, ∃ ty vals, x.2 = enumEntry u x.1 ty vals := by
  rw [enumPass_eq]
  refine thread_forall _ _ (fun e _ newE h => ?_) [] (fun _ hx => nomatch hx)
  refine thread_forall _ _ (fun p _ newE h => ?_) newE h
  unfold enumPropS
  split
  · exact h
  · exact List.forall_mem_append.2 ⟨h, List.forall_mem_singleton.2 ⟨_, _, rfl⟩⟩

/-- (`Schema` is a recursive structure: no definitional eta.) -/
theorem Schema.eta_props (s : Schema) :
    Schema.mk s.name s.ty s.genName s.stem s.enumVals s.props s.items s.anyOf s.oneOf s.allOf = s := by
  cases s; rfl

/-- No property wants its items promoted. -/
def arrayQuiet (r : Reg) : Bool := r.all (fun e => e.2.props.all (fun p => (wantsItem p.2).isNone))

theorem extractArrayItems_quiet (r : Reg) (h : arrayQuiet r = true) : extractArrayItems u r = r := by
  simp only [arrayQuiet, List.all_eq_true, Option.isNone_iff_eq_none] at h
  have : arrayPass u r = ([], r) := by
    rw [arrayPass, arraySchemas_eq]
    refine thread_quiet _ (fun e he new => ?_) []
    rw [arrayBody, thread_quiet _ (fun p hp new => arrayProp_none (h e he p hp)), Schema.eta_props]
  simp only [extractArrayItems, this, dictUpdate, List.foldl_nil]

/-- Nothing for the enum pass to do: generation names of top-level enums are set, and every property is
    a discriminator, has no inline enum, or counts as already extracted. -/
def enumQuiet (u : UInfo) (disc : List (Str × Str)) (r : Reg) : Prop :=
  ∀ e ∈ r, fixTop e.2 = e.2 ∧
    ∀ p ∈ e.2.props, (disc.contains (e.1, p.1) || !hasInlineEnum p.2 || alreadyExtracted u r p.1 p.2) = true

theorem enumPass_quiet (disc : List (Str × Str)) (r : Reg) (h : enumQuiet u disc r) :
    enumPass u disc r = ([], r) := by
  rw [enumPass_eq]
  refine thread_quiet _ (fun e he newE => ?_) []
  rw [enumBody, (h e he).1,
    thread_quiet _ (fun p hp newE => by rw [enumPropS, if_pos ((h e he).2 p hp)]), Schema.eta_props]

theorem extractEnums_quiet (disc : List (Str × Str)) (r : Reg) (ha : arrayQuiet r = true)
    (he : enumQuiet u disc r) : extractEnums u r disc = r := by
  simp only [extractEnums, extractArrayItems_quiet u r ha, enumPass_quiet u disc r he, dictUpdate, List.foldl_nil]

theorem truthy_some {α : Type} {l : List α} (h : l ≠ []) : truthy (some l) = true := by
  cases l with
  | nil => exact absurd rfl h
  | cons _ _ => rfl

theorem wantsItem_none_of_ty (ps : Schema) (h : (ps.ty == some sArray) = false) : wantsItem ps = none := by
  unfold wantsItem
  cases ps.items with
  | none => rfl
  | some it => simp [h]

theorem wantsItem_none_of_named (ps it : Schema) (hi : ps.items = some it) (hn : truthy it.name = true) :
    wantsItem ps = none := by
  unfold wantsItem
  simp [hi, hn]

theorem EnumOutcome.wantsItem_none {u : UInfo} {reg1 : Reg} {disc : List (Str × Str)} {out : Reg} {sname pn : Str}
    {ps ps' : Schema} (h : EnumOutcome u reg1 disc out sname pn ps ps') (hg : ps.genName ≠ some sArray)
    (hw : wantsItem ps = none) : wantsItem ps' = none := by
  have hn := h.arrayNature hg
  cases h with
  | kept h _ => subst h; exact hw
  | extracted en _ hi _ _ _ _ hp =>
    rw [hasInlineEnum_not_array ps hi] at hn
    exact wantsItem_none_of_ty _ hn

theorem fixTop_fixTop_props (s : Schema) (q : List (Str × Schema)) :
    fixTop { fixTop s with props := q } = { fixTop s with props := q } := by
  by_cases h : (hasInlineEnum s && !truthy s.genName) = true
  · rw [show fixTop s = { s with genName := s.name } from if_pos h]
    -- if the test fires again it assigns the `name` that is there already
    unfold fixTop
    split <;> rfl
  · rw [show fixTop s = s from if_neg h]
    -- the test does not read `props`
    exact if_neg h

theorem fixTop_enumEntry (en : Str) (ty : Option Str) (vals : Option (List Str)) :
    fixTop (enumEntry u en ty vals) = enumEntry u en ty vals := by
  unfold fixTop
  cases en with
  | nil => split <;> rfl
  | cons c cs => simp [enumEntry, truthy]

theorem enumPass_view (disc : List (Str × Str)) (reg1 : Reg) : ViewOf reg1 (enumPass u disc reg1).2 :=
  (enumPass_trace u reg1 disc).map_eq _ _ fun e e' ⟨h1, _, h2, _⟩ => by
    rw [h1, h2]; exact congrArg _ (fixTop_enumVals e.2)

theorem refsEnum_append (a b : Reg) (x : Option Str) (h : refsEnum a x = true) : refsEnum (a ++ b) x = true := by
  unfold refsEnum lookupRef at h ⊢
  match x with
  | none => simp at h
  | some [] => simp at h
  | some (c :: cs) =>
    simp only at h ⊢
    cases hl : a.lookup (c :: cs) with
    | none => simp [hl] at h
    | some s =>
      simp only [hl, Option.map_some] at h
      simp only [List.lookup_append, hl, Option.some_or, Option.map_some]
      exact h

theorem alreadyExtracted_mono {reg1 regE : Reg} (hv : ViewOf reg1 regE) (extra : Reg) (u : UInfo) (pn : Str)
    (ps : Schema) (h : alreadyExtracted u reg1 pn ps = true) : alreadyExtracted u (regE ++ extra) pn ps = true := by
  rw [← alreadyExtracted_congr hv] at h
  simp only [alreadyExtracted, Bool.or_eq_true] at h ⊢
  exact h.imp (Or.imp (Or.imp (refsEnum_append _ _ _) (refsEnum_append _ _ _)) id) (refsEnum_append _ _ _)

/-- An entry of the final registry is what the enum pass made of an entry of the registry after the array pass, or
    an extracted enum. -/
theorem mem_extractEnums {e'' : Str × Schema} (h : e'' ∈ extractEnums u reg disc) :
    (∃ e' ∈ extractArrayItems u reg,
        EnumsEntry u (extractArrayItems u reg) disc (extractEnums u reg disc) e' e'') ∨
      ∃ ty vals, e''.2 = enumEntry u e''.1 ty vals := by
  have ho := enumPass_outcomes u disc (extractArrayItems u reg)
  rw [← extractEnums_eq] at ho
  rw [extractEnums_eq] at h
  rcases List.mem_append.1 h with h | h
  · exact .inl (ho.of_mem_right h)
  · exact .inr (enumPass_enums_origin u disc _ e'' h)

/-- After `extract_inline_enums` the enum pass has nothing left to do — for every registry. -/
theorem extractEnums_enumQuiet :
    enumQuiet u disc (extractEnums u reg disc) := by
  intro e'' he''
  rcases mem_extractEnums u reg disc he'' with ⟨e', _, hk, ⟨props', hp'⟩, hall⟩ | ⟨ty, vals, hx⟩
  · refine ⟨by rw [hp']; exact fixTop_fixTop_props _ _, ?_⟩
    intro p'' hp''
    obtain ⟨p', _, hpk, hout'⟩ := hall.of_mem_right hp''
    cases hout' with
    | kept h why =>
      -- the reason why it was kept still holds
      rw [hk, hpk, h, extractEnums_eq]
      simp only [Bool.or_eq_true, Bool.not_eq_eq_eq_not, Bool.not_true, or_assoc]
      exact why.imp_right (Or.imp_right (alreadyExtracted_mono (enumPass_view u disc _) _ u _ _))
    | extracted en _ _ _ _ _ _ hp =>
      simp [hp, hasInlineEnum, pointAt, truthy]
  · rw [hx]
    exact ⟨fixTop_enumEntry u _ ty vals, by simp [enumEntry]⟩

/-- Promoted item schemas have no array property that wants promotion, and no `generation_name` is `array`. -/
def itemPropsQuiet (it : Schema) : Bool :=
  it.props.all (fun q => (wantsItem q.2).isNone && !(q.2.genName == some sArray))

def idemOk (reg : Reg) : Bool :=
  reg.all (fun e => e.2.props.all (fun p =>
    !(p.2.genName == some sArray) &&
      (match wantsItem p.2 with
       | some it => itemPropsQuiet it
       | none => true)))

theorem idemOk_spec {reg : Reg} (h : idemOk reg = true) {e : Str × Schema} (he : e ∈ reg) {p : Str × Schema}
    (hp : p ∈ e.2.props) :
    p.2.genName ≠ some sArray ∧ ∀ it, wantsItem p.2 = some it → ∀ q ∈ it.props,
      wantsItem q.2 = none ∧ q.2.genName ≠ some sArray := by
  simp only [idemOk, List.all_eq_true, Bool.and_eq_true, Bool.not_eq_eq_eq_not, Bool.not_true,
    beq_eq_false_iff_ne] at h
  obtain ⟨h1, h2⟩ := h e he p hp
  refine ⟨h1, ?_⟩
  intro it hw q hq
  rw [hw] at h2
  simp only [itemPropsQuiet, List.all_eq_true, Bool.and_eq_true, Option.isNone_iff_eq_none,
    Bool.not_eq_eq_eq_not, Bool.not_true, beq_eq_false_iff_ne] at h2
  exact h2 q hq

theorem extractEnums_arrayQuiet (hok : idemOk reg = true) :
    arrayQuiet (extractEnums u reg disc) = true := by
  simp only [arrayQuiet, List.all_eq_true, Option.isNone_iff_eq_none]
  intro e'' he'' p'' hp''
  rcases mem_extractEnums u reg disc he'' with ⟨e', he', _, _, hall⟩ | ⟨ty, vals, hx⟩
  · obtain ⟨p', hp'mem, hpk, hout'⟩ := hall.of_mem_right hp''
    rw [extractArrayItems_eq] at he'
    rcases List.mem_append.1 he' with he' | he'
    · obtain ⟨e, he, _, _, hall0⟩ := (arrayPass_outcomes u reg).of_mem_right he'
      obtain ⟨p, hpmem, _, hout0⟩ := hall0.of_mem_right hp'mem
      obtain ⟨hg, _⟩ := idemOk_spec hok he hpmem
      cases hout0 with
      | kept h why => exact hout'.wantsItem_none (by rw [h]; exact hg) (by rw [h]; exact why)
      | promoted it nm hw hne _ _ hp =>
        refine wantsItem_none_of_named _ { it with name := some nm } ?_ ?_
        · rw [hout'.fields.1, hp]
        · exact truthy_some hne
    · obtain ⟨e, he, p, hpmem, it, hw, hx⟩ := arrayPass_items_origin u reg e' he'
      obtain ⟨_, hq⟩ := idemOk_spec hok he hpmem
      have hp'mem' : p' ∈ it.props := by rw [hx] at hp'mem; exact hp'mem
      obtain ⟨hw', hg'⟩ := hq it hw p' hp'mem'
      exact hout'.wantsItem_none hg' hw'
  · rw [hx] at hp''
    simp [enumEntry] at hp''

/-- `IRSchema.__post_init__` class-cases the name of a registered enum. -/
theorem enumEntry_name (en : Str) (ty : Option Str) (vals : Option (List Str)) (h : en ≠ []) :
    (enumEntry u en ty vals).name = some (sanClass en) := by
  cases en with
  | nil => exact absurd rfl h
  | cons c cs => rfl

theorem enumEntry_named (en : Str) (ty : Option Str) (vals : Option (List Str)) (h : en ≠ []) :
    truthy (enumEntry u en ty vals).name = true := by
  rw [enumEntry_name u en ty vals h]
  exact truthy_some (sanClass_ne_nil en)

end Pog.Extract
